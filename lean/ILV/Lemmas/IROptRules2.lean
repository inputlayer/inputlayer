/-
  `eliminate_empty_unions` and `pushdown_filters`.
-/
import ILV.Lemmas.IROptRules
import ILV.Lemmas.IRReinsert
namespace ILV.IR
open ILV

theorem not_emptyUnion_of_wf {db : Db} {t : Node} (h : wf db t = true) : isEmptyUnion t = false := by
  cases t with
  | union is =>
    cases is with
    | nil => simp [wf, NodeList.isEmpty] at h
    | cons => rfl
  | _ => rfl

theorem dropEmpty_of_wf {db : Db} : ∀ ts, wfL db ts = true → dropEmpty ts = ts
  | .nil, _ => rfl
  | .cons t ts, h => by
    simp [dropEmpty, not_emptyUnion_of_wf (wfL_cons h).1, dropEmpty_of_wf ts (wfL_cons h).2]

theorem Ok.union_single {db : Db} {t : Node} (h : wf db (.union (.cons t .nil)) = true) :
    Ok db (.union (.cons t .nil)) t :=
  ⟨(wfL_cons (wf_union h)).1, rfl, by simp [eval, evalList]⟩

theorem elimEmpty_ok (db : Db) : ∀ t, wf db t = true → Ok db t (elimEmpty t) :=
  Ok.bottomUp (fL := elimEmptyL) rfl (fun _ _ => rfl) fun t h hk => by
    -- a rewritten child is well-formed, hence not the empty `Union`: only the one-branch `Union` fires
    cases t with
    | map => simp only [elimEmpty, not_emptyUnion_of_wf (wf_map hk.w), Bool.false_eq_true, ↓reduceIte]; exact hk
    | filter => simp only [elimEmpty, not_emptyUnion_of_wf (wf_filter hk.w), Bool.false_eq_true, ↓reduceIte]; exact hk
    | join =>
      simp only [elimEmpty, not_emptyUnion_of_wf (wf_join hk.w).1, not_emptyUnion_of_wf (wf_join hk.w).2,
        Bool.or_self, Bool.false_eq_true, ↓reduceIte]
      exact hk
    | antijoin => simp only [elimEmpty, not_emptyUnion_of_wf (wf_antijoin hk.w).1, Bool.false_eq_true, ↓reduceIte]; exact hk
    | distinct => simp only [elimEmpty, not_emptyUnion_of_wf (wf_distinct hk.w), Bool.false_eq_true, ↓reduceIte]; exact hk
    | compute => simp only [elimEmpty, not_emptyUnion_of_wf (wf_compute hk.w), Bool.false_eq_true, ↓reduceIte]; exact hk
    | union is =>
      simp only [elimEmpty, dropEmpty_of_wf _ (wf_union hk.w)]
      split
      · next heq =>
        simp only [Node.mapKids, heq] at hk
        exact absurd hk.w (by simp [wf, NodeList.isEmpty])
      · next heq =>
        simp only [Node.mapKids, heq] at hk
        exact hk.trans (Ok.union_single hk.w)
      · exact hk
    | flatMap | joinFlatMap => exact Ok.refl h
    | _ => exact hk

theorem elimEmptyL_ok (db : Db) : ∀ ts, wfL db ts = true → OkL db ts (elimEmptyL ts) :=
  OkL.ofOk rfl (fun _ _ => rfl) (elimEmpty_ok db)

theorem joinRow_some {lk rk : List Nat} {a b x : Tuple} (h : joinRow lk rk a b = some x) :
    (rk = [] ∧ x = a ++ b) ∨ x = a ++ excluding b rk := by
  unfold joinRow at h
  split at h
  · rename_i hc
    simp only [Bool.and_eq_true, List.isEmpty_iff] at hc
    left; exact ⟨hc.2, by simpa using h.symm⟩
  · split at h
    · right; simpa using h.symm
    · simp at h

theorem pushdown_left_eval {L R : List Tuple} {lk rk : List Nat} {p : Pred} {lw : Nat}
    (hL : ∀ a ∈ L, a.length = lw) (hc : ∀ c ∈ p.cols, c < lw) :
    joinRows (L.filter p.eval) R lk rk = (joinRows L R lk rk).filter p.eval := by
  unfold joinRows
  apply filter_flatMap_of
  intro a ha x hx
  simp only [List.mem_filterMap] at hx
  obtain ⟨b, _, e⟩ := hx
  have hcl : ∀ c ∈ p.cols, c < a.length := fun c hcc => by rw [hL a ha]; exact hc c hcc
  rcases joinRow_some e with ⟨_, rfl⟩ | rfl <;> exact Pred.eval_append_left hcl

theorem pushdown_right_row {lk rk : List Nat} {p : Pred} {a b x : Tuple}
    (hc : ∀ c ∈ p.cols, a.length ≤ c) (hn : nodupNat rk = true)
    (e : joinRow lk rk a b = some x) :
    p.eval x = (p.mapCols (fun c => reinsert (sortNat rk) (c - a.length))).eval b := by
  unfold Pred.eval
  rw [Pred.evalG_mapCols]
  apply Pred.evalG_congr
  intro c hcc
  rcases joinRow_some e with ⟨hrk, rfl⟩ | rfl
  · subst hrk
    rw [List.getElem?_append_right (hc c hcc)]
    simp [sortNat, sortNat0, dedupAdj, sortBy, reinsert]
  · rw [List.getElem?_append_right (hc c hcc)]
    exact excluding_reinsert b rk hn _

theorem pushdown_right_eval {L R : List Tuple} {lk rk : List Nat} {p : Pred} {lw : Nat}
    (hL : ∀ a ∈ L, a.length = lw) (hc : ∀ c ∈ p.cols, lw ≤ c) (hn : nodupNat rk = true) :
    joinRows L (R.filter (p.mapCols (fun c => reinsert (sortNat rk) (c - lw))).eval) lk rk = (joinRows L R lk rk).filter p.eval := by
  unfold joinRows
  induction L with
  | nil => rfl
  | cons a L ih =>
    have ih := ih (fun x hx => hL x (List.mem_cons_of_mem _ hx))
    have hal : a.length = lw := hL a (by simp)
    simp only [List.flatMap_cons, List.filter_append, ih]
    congr 1
    apply filter_filterMap_of
    intro b _ x e
    have := pushdown_right_row (p := p) (a := a) (b := b) (x := x) (lk := lk) (rk := rk)
      (by rw [hal]; exact hc) hn e
    rw [hal] at this
    exact this

theorem mapCols_ne_ff {p : Pred} (f : Nat → Nat) (h : p ≠ .ff) : p.mapCols f ≠ .ff := by
  cases p <;> simp_all [Pred.mapCols]

theorem Ok.pushdown_left {db : Db} {l r : Node} {lk rk : List Nat} {s : List String} {p : Pred}
    (h : wf db (.filter (.join l r lk rk s) p) = true) (hc : ∀ c ∈ p.cols, c < width l) :
    Ok db (.filter (.join l r lk rk s) p) (.join (.filter l p) r lk rk s) := by
  have hj := wf_filter h
  refine ⟨?_, rfl, ?_⟩
  · exact wf_join_congr hj (Bool.and_eq_true_iff.2 ⟨(wf_join hj).1, (Bool.and_eq_true_iff.1 h).2⟩) rfl (wf_join hj).2 rfl
  · simp only [eval]
    exact pushdown_left_eval (rowsOk db l (wf_join hj).1) hc

theorem Ok.pushdown_right {db : Db} {l r : Node} {lk rk : List Nat} {s : List String} {p : Pred}
    (h : wf db (.filter (.join l r lk rk s) p) = true) (hc : ∀ c ∈ p.cols, width l ≤ c) :
    Ok db (.filter (.join l r lk rk s) p)
      (.join l (.filter r (p.mapCols (fun c => reinsert (sortNat rk) (c - width l)))) lk rk s) := by
  have hnd : nodupNat rk = true := by
    simp only [wf, Bool.and_eq_true] at h; exact h.1.2
  have hj := wf_filter h
  refine ⟨?_, rfl, ?_⟩
  · exact wf_join_congr hj (wf_join hj).1 rfl
      (Bool.and_eq_true_iff.2 ⟨(wf_join hj).2, bne_iff_ne.2 (mapCols_ne_ff _ (ne_ff_of_wf h))⟩) rfl
  · simp only [eval]
    exact pushdown_right_eval (rowsOk db l (wf_join hj).1) hc hnd

theorem pushdown_ok (db : Db) : ∀ t, wf db t = true → Ok db t (pushdown t) :=
  Ok.bottomUp (fL := pushdownL) rfl (fun _ _ => rfl) fun t h hk => by
    cases t with
    | filter i p =>
      simp only [pushdown]
      split
      · next l r lk rk s heq =>
        simp only [Node.mapKids, heq] at hk
        split
        · next hcond =>
          simp only [Bool.and_eq_true, Bool.not_eq_true', List.any_eq_false, decide_eq_true_eq] at hcond
          exact hk.trans (Ok.pushdown_left hk.w fun c hcc => Nat.lt_of_not_le (hcond.2 c hcc))
        · split
          · next hcond =>
            simp only [Bool.and_eq_true, Bool.not_eq_true', List.any_eq_false, decide_eq_true_eq] at hcond
            exact hk.trans (Ok.pushdown_right hk.w fun c hcc => Nat.le_of_not_lt (hcond.2 c hcc))
          · exact hk
      · exact hk
    | flatMap | joinFlatMap => exact Ok.refl h
    | _ => exact hk

theorem pushdownL_ok (db : Db) : ∀ ts, wfL db ts = true → OkL db ts (pushdownL ts) :=
  OkL.ofOk rfl (fun _ _ => rfl) (pushdown_ok db)

end ILV.IR
