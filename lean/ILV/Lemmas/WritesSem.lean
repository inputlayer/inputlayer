/-
  Semantics of the handler's write statements on the live relations (ILV.Model.Writes): what both
  writes keep (`WriteInv`: no duplicates, arities) every statement keeps; a run of single-tuple deletes
  is a set difference; an update is a sequence of primitive deletes/inserts whose net effect on
  membership is "the last primitive on a tuple wins".
-/
import ILV.Lemmas.ArityOk
import ILV.Model.Writes
namespace ILV.Writes
open ILV ILV.Store ILV.Batch ILV.Props.C31

/-- a predicate on engines that `insertCore` and `deleteCore` keep, whatever they return. -/
structure WriteInv (c : Codec) (P : Engine → Prop) : Prop where
  ins : ∀ e rel ts, P e → P (insertCore c e rel ts).1
  del : ∀ e rel ts, P e → P (deleteCore c e rel ts).1

theorem deleteSeq_inv {c : Codec} {P : Engine → Prop} (hP : WriteInv c P) (rel : String) :
    ∀ (ts : List Tuple) (e : Engine) (acc : Nat), P e → P (deleteSeq c e rel ts acc).1 := by
  intro ts
  induction ts with
  | nil => exact fun _ _ h => h
  | cons t ts ih =>
    intro e acc h
    unfold deleteSeq
    have hd := hP.del e rel [t] h
    rcases hr : deleteCore c e rel [t] with ⟨e', _ | n⟩
    · rwa [hr] at hd
    · rw [hr] at hd; exact ih e' (acc + n) hd

theorem updTargets_inv {c : Codec} {P : Engine → Prop} (hP : WriteInv c P) (del : Bool) (b : Binding) :
    ∀ (ts : List Target) (e : Engine) (acc : Nat), P e → P (updTargets c del b e ts acc).1 := by
  intro ts
  induction ts with
  | nil => exact fun _ _ h => h
  | cons t ts ih =>
    intro e acc h
    obtain ⟨rel, args⟩ := t
    unfold updTargets
    cases instHead b args with
    | none => exact ih e acc h
    | some x =>
      cases del with
      | true =>
        have hd := hP.del e rel [x] h
        rcases hr : deleteCore c e rel [x] with ⟨e', _ | n⟩
        · rw [hr] at hd; simpa only [if_true, hr] using hd
        · rw [hr] at hd; simpa only [if_true, hr] using ih e' (acc + n) hd
      | false =>
        have hd := hP.ins e rel [x] h
        rcases hr : insertCore c e rel [x] with ⟨e', _ | nd⟩
        · rw [hr] at hd; simpa only [Bool.false_eq_true, if_false, hr] using hd
        · rw [hr] at hd; simpa only [Bool.false_eq_true, if_false, hr] using ih e' (acc + nd.1) hd

theorem updRows_inv {c : Codec} {P : Engine → Prop} (hP : WriteInv c P) (vars : List String) (dels inss : List Target) :
    ∀ (rows : List Tuple) (e : Engine) (d i : Nat), P e → P (updRows c vars dels inss e rows d i).1 := by
  intro rows
  induction rows with
  | nil => exact fun _ _ _ h => h
  | cons row rows ih =>
    intro e d i h
    unfold updRows
    simp only
    have h1 := updTargets_inv hP true (rowBinding vars row) dels e d h
    rcases hr1 : updTargets c true (rowBinding vars row) e dels d with ⟨e1, _ | d'⟩
    · rwa [hr1] at h1
    · rw [hr1] at h1
      simp only
      have h2 := updTargets_inv hP false (rowBinding vars row) inss e1 i h1
      rcases hr2 : updTargets c false (rowBinding vars row) e1 inss i with ⟨e2, _ | i'⟩
      · rwa [hr2] at h2
      · rw [hr2] at h2; exact ih e2 d' i' h2

theorem exec_inv {c : Codec} {P : Engine → Prop} (hP : WriteInv c P) (ans : Answer) (e : Engine) (o : WOp) (h : P e) :
    P (exec c ans e o).1 := by
  cases o with
  | ins rel ts =>
    have := hP.ins e rel (ts.filter (fun t => !t.isEmpty)) h
    simp only [exec]
    rcases hr : insertCore c e rel (ts.filter (fun t => !t.isEmpty)) with ⟨e', _ | nd⟩ <;> (rw [hr] at this; exact this)
  | del rel t =>
    simp only [exec]
    split
    · exact h
    · have := hP.del e rel [t] h
      rcases hr : deleteCore c e rel [t] with ⟨e', _ | n⟩ <;> (rw [hr] at this; exact this)
  | delb rel ts =>
    have := deleteSeq_inv hP rel ts e 0 h
    simp only [exec]
    rcases hr : deleteSeq c e rel ts 0 with ⟨e', _ | n⟩ <;> (rw [hr] at this; exact this)
  | delc rel head body =>
    simp only [exec]
    cases ans (dbOf e) (addVars [] head) (Lit.pos rel head :: body) with
    | none => exact h
    | some rows =>
      have := deleteSeq_inv hP rel
        ((rows.filterMap (fun row => instHead (rowBinding (addVars [] head) row) head)).filter (fun t => !t.isEmpty)) e 0 h
      simp only
      rcases hr : deleteSeq c e rel
        ((rows.filterMap (fun row => instHead (rowBinding (addVars [] head) row) head)).filter (fun t => !t.isEmpty)) 0
        with ⟨e', _ | n⟩ <;> (rw [hr] at this; exact this)
  | upd dels inss body =>
    simp only [exec]
    cases ans (dbOf e) (updVars dels inss) body with
    | none => exact h
    | some rows =>
      have := updRows_inv hP (updVars dels inss) dels inss rows e 0 0 h
      simp only
      rcases hr : updRows c (updVars dels inss) dels inss e rows 0 0 with ⟨e', _ | di⟩ <;> (rw [hr] at this; exact this)
  | obs => exact h
  | ord v b => exact h
  | bad => exact h

theorem foldl_exec_inv {c : Codec} {P : Engine → Prop} (hP : WriteInv c P) (ans : Answer) :
    ∀ (h : List WOp) (e : Engine), P e → P (h.foldl (fun e o => (exec c ans e o).1) e)
  | [], _, he => he
  | o :: os, e, he => foldl_exec_inv hP ans os _ (exec_inv hP ans e o he)

def NodupAll (e : Engine) : Prop := ∀ r, (liveOf e r).Nodup

theorem NodupAll_of_live {e e' : Engine} (h : NodupAll e) (hl : e'.live = e.live) : NodupAll e' :=
  fun r => by rw [liveOf, hl]; exact h r

theorem writeInv_nodup (c : Codec) : WriteInv c NodupAll where
  ins e rel ts h := by
    rcases hr : insertCore c e rel ts with ⟨e', k | ⟨n, d⟩⟩
    · exact NodupAll_of_live h (insertCore_err hr)
    · obtain ⟨h1, _, _, h4⟩ := insertCore_ok hr
      intro r
      by_cases hrr : r = rel
      · rw [hrr]; show (liveOf e' rel).Nodup; rw [h1]; exact (insertLoop_spec ts _ 0 0 (h rel)).1
      · show (liveOf e' r).Nodup; rw [h4 r hrr]; exact h r
  del e rel ts h := by
    rcases hr : deleteCore c e rel ts with ⟨e', k | n⟩
    · exact NodupAll_of_live h (deleteCore_err hr)
    · obtain ⟨h1, _, h4⟩ := deleteCoreRaw_ok hr
      intro r
      by_cases hrr : r = rel
      · rw [hrr]; show (liveOf e' rel).Nodup; rw [h1]; exact (h rel).filter _
      · show (liveOf e' r).Nodup; rw [h4 r hrr]; exact h r

theorem writeInv_arityOk (c : Codec) : WriteInv c ArityOk :=
  ⟨insertCore_arityOk c, deleteCore_arityOk c⟩

theorem deleteSeq_ok (c : Codec) (rel : String) : ∀ (ts : List Tuple) (e e' : Engine) (acc m : Nat), ArityOk e →
    deleteSeq c e rel ts acc = (e', .ok m) →
    liveOf e' rel = deleteLive (liveOf e rel) ts ∧ m + (liveOf e' rel).length = acc + (liveOf e rel).length ∧
    ∀ r, r ≠ rel → liveOf e' r = liveOf e r := by
  intro ts
  induction ts with
  | nil =>
    intro e e' acc m _ h
    simp only [deleteSeq, Prod.mk.injEq, Except.ok.injEq] at h
    obtain ⟨h1, h2⟩ := h
    subst h1; subst h2
    exact ⟨(deleteLive_nil _).symm, rfl, fun _ _ => rfl⟩
  | cons t ts ih =>
    intro e e' acc m ha h
    unfold deleteSeq at h
    have ha1 := deleteCore_arityOk c e rel [t] ha
    rcases hr : deleteCore c e rel [t] with ⟨e1, res⟩
    rw [hr] at h ha1
    cases res with
    | error k => simp at h
    | ok n =>
      simp only at h
      obtain ⟨a1, a2, a3⟩ := deleteCore_ok ha hr
      obtain ⟨b1, b2, b3⟩ := ih e1 e' (acc + n) m ha1 h
      refine ⟨by rw [b1, a1, deleteLive_deleteLive], ?_, fun r hr' => (b3 r hr').trans (a3 r hr')⟩
      have hle : (liveOf e1 rel).length ≤ (liveOf e rel).length := by
        rw [a1]; exact List.length_filter_le _ _
      rw [b2, a2, Nat.add_assoc, Nat.sub_add_cancel hle]

/-- membership of `y` in `r` after the primitives, from its membership `init` before. -/
def memAfter (r : String) (y : Tuple) : List Prim → Prop → Prop
  | [], init => init
  | .del rel t :: ps, init => memAfter r y ps (if rel = r ∧ t = y then False else init)
  | .ins rel t :: ps, init => memAfter r y ps (if rel = r ∧ t = y then True else init)

theorem memAfter_append (r : String) (y : Tuple) : ∀ (ps qs : List Prim) (init : Prop),
    memAfter r y (ps ++ qs) init = memAfter r y qs (memAfter r y ps init) := by
  intro ps
  induction ps with
  | nil => intro qs init; rfl
  | cons p ps ih => intro qs init; cases p <;> simp only [List.cons_append, memAfter, ih]

theorem memAfter_congr (r : String) (y : Tuple) : ∀ (ps : List Prim) (a b : Prop), (a ↔ b) →
    (memAfter r y ps a ↔ memAfter r y ps b) := by
  intro ps
  induction ps with
  | nil => intro a b h; exact h
  | cons p ps ih =>
    intro a b h
    cases p with
    | del rel t =>
      simp only [memAfter]; apply ih
      by_cases hc : rel = r ∧ t = y <;> simp [hc, h]
    | ins rel t =>
      simp only [memAfter]; apply ih
      by_cases hc : rel = r ∧ t = y <;> simp [hc, h]

theorem mem_deleteCore_single {c : Codec} {e e1 : Engine} {rel : String} {x : Tuple} {n : Nat} (ha : ArityOk e)
    (h : deleteCore c e rel [x] = (e1, .ok n)) (r : String) (y : Tuple) :
    y ∈ liveOf e1 r ↔ if rel = r ∧ x = y then False else y ∈ liveOf e r := by
  obtain ⟨a1, _, a3⟩ := deleteCore_ok ha h
  by_cases hr : rel = r
  · subst hr
    rw [a1, mem_deleteLive, List.mem_singleton]
    by_cases hxy : x = y
    · rw [if_pos ⟨rfl, hxy⟩]; exact iff_false_intro (fun h' => h'.2 hxy.symm)
    · rw [if_neg (fun h' => hxy h'.2)]; exact and_iff_left (fun e' => hxy e'.symm)
  · rw [if_neg (fun h' => hr h'.1), a3 r (fun e' => hr e'.symm)]

theorem mem_insertCore_single {c : Codec} {e e1 : Engine} {rel : String} {x : Tuple} {n d : Nat}
    (h : insertCore c e rel [x] = (e1, .ok (n, d))) (r : String) (y : Tuple) :
    y ∈ liveOf e1 r ↔ if rel = r ∧ x = y then True else y ∈ liveOf e r := by
  obtain ⟨a1, _, _, a3⟩ := insertCore_ok h
  by_cases hr : rel = r
  · subst hr
    rw [a1, mem_insertLoop, List.mem_singleton]
    by_cases hxy : x = y
    · rw [if_pos ⟨rfl, hxy⟩]; exact iff_true_intro (Or.inr hxy.symm)
    · rw [if_neg (fun h' => hxy h'.2)]; exact or_iff_left (fun e' => hxy e'.symm)
  · rw [if_neg (fun h' => hr h'.1), a3 r (fun e' => hr e'.symm)]

theorem targetPrims_cons (del : Bool) (b : Binding) (rel : String) (args : List Tm) (ts : List Target) :
    targetPrims del b ((rel, args) :: ts) =
      match instHead b args with
      | none => targetPrims del b ts
      | some x => (if del then Prim.del rel x else Prim.ins rel x) :: targetPrims del b ts := by
  rw [targetPrims, List.filterMap_cons]
  cases instHead b args <;> rfl

theorem updTargets_ok (c : Codec) (del : Bool) (b : Binding) : ∀ (ts : List Target) (e e' : Engine) (acc m : Nat), ArityOk e →
    updTargets c del b e ts acc = (e', .ok m) →
    ArityOk e' ∧ ∀ r y, (y ∈ liveOf e' r ↔ memAfter r y (targetPrims del b ts) (y ∈ liveOf e r)) := by
  intro ts
  induction ts with
  | nil =>
    intro e e' acc m ha h
    cases h; exact ⟨ha, fun _ _ => Iff.rfl⟩
  | cons t ts ih =>
    intro e e' acc m ha h
    obtain ⟨rel, args⟩ := t
    refine ⟨by have := updTargets_inv (writeInv_arityOk c) del b ((rel, args) :: ts) e acc ha; rwa [h] at this,
      fun r y => ?_⟩
    rw [targetPrims_cons]
    unfold updTargets at h
    cases hi : instHead b args with
    | none => rw [hi] at h; exact (ih e e' acc m ha h).2 r y
    | some x =>
      rw [hi] at h
      cases del with
      | true =>
        simp only [if_true] at h ⊢
        rcases hr : deleteCore c e rel [x] with ⟨e1, k | n⟩
        · rw [hr] at h; cases h
        · rw [hr] at h
          have ha1 : ArityOk e1 := by have := deleteCore_arityOk c e rel [x] ha; rwa [hr] at this
          rw [(ih e1 e' (acc + n) m ha1 h).2 r y]
          exact memAfter_congr r y _ _ _ (mem_deleteCore_single ha hr r y)
      | false =>
        simp only [Bool.false_eq_true, if_false] at h ⊢
        rcases hr : insertCore c e rel [x] with ⟨e1, k | ⟨n, d⟩⟩
        · rw [hr] at h; cases h
        · rw [hr] at h
          have ha1 : ArityOk e1 := by have := insertCore_arityOk c e rel [x] ha; rwa [hr] at this
          rw [(ih e1 e' (acc + n) m ha1 h).2 r y]
          exact memAfter_congr r y _ _ _ (mem_insertCore_single hr r y)

theorem memAfter_dels (r : String) (y : Tuple) : ∀ (ps : List Prim), (∀ p ∈ ps, ∃ rel t, p = Prim.del rel t) → ∀ init,
    (memAfter r y ps init ↔ init ∧ Prim.del r y ∉ ps) := by
  intro ps
  induction ps with
  | nil => intro _ init; simp [memAfter]
  | cons p ps ih =>
    intro hp init
    obtain ⟨rel, t, rfl⟩ := hp p (by simp)
    simp only [memAfter]
    rw [ih (fun q hq => hp q (by simp [hq]))]
    by_cases hc : rel = r ∧ t = y
    · obtain ⟨h1, h2⟩ := hc; subst h1; subst h2; simp
    · simp only [hc, if_false, List.mem_cons, not_or]
      have : Prim.del r y ≠ Prim.del rel t := by
        intro e; injection e with e1 e2; exact hc ⟨e1.symm, e2.symm⟩
      simp [this]

theorem memAfter_inss (r : String) (y : Tuple) : ∀ (ps : List Prim), (∀ p ∈ ps, ∃ rel t, p = Prim.ins rel t) → ∀ init,
    (memAfter r y ps init ↔ init ∨ Prim.ins r y ∈ ps) := by
  intro ps
  induction ps with
  | nil => intro _ init; simp [memAfter]
  | cons p ps ih =>
    intro hp init
    obtain ⟨rel, t, rfl⟩ := hp p (by simp)
    simp only [memAfter]
    rw [ih (fun q hq => hp q (by simp [hq]))]
    by_cases hc : rel = r ∧ t = y
    · obtain ⟨h1, h2⟩ := hc; subst h1; subst h2; simp
    · simp only [hc, if_false, List.mem_cons]
      have : Prim.ins r y ≠ Prim.ins rel t := by
        intro e; injection e with e1 e2; exact hc ⟨e1.symm, e2.symm⟩
      simp [this]

theorem targetPrims_del (b : Binding) (ts : List Target) : ∀ p ∈ targetPrims true b ts, ∃ rel t, p = Prim.del rel t := by
  intro p hp
  simp only [targetPrims, List.mem_filterMap, Option.map_eq_some_iff] at hp
  obtain ⟨t, _, x, _, rfl⟩ := hp
  exact ⟨t.1, x, by simp⟩

theorem targetPrims_ins (b : Binding) (ts : List Target) : ∀ p ∈ targetPrims false b ts, ∃ rel t, p = Prim.ins rel t := by
  intro p hp
  simp only [targetPrims, List.mem_filterMap, Option.map_eq_some_iff] at hp
  obtain ⟨t, _, x, _, rfl⟩ := hp
  exact ⟨t.1, x, by simp⟩

theorem updPrims_cons (vars : List String) (dels inss : List Target) (row : Tuple) (rows : List Tuple) :
    updPrims vars dels inss (row :: rows) = targetPrims true (rowBinding vars row) dels ++
      (targetPrims false (rowBinding vars row) inss ++ updPrims vars dels inss rows) := by
  simp [updPrims, rowPrims]

theorem updRows_ok (c : Codec) (vars : List String) (dels inss : List Target) :
    ∀ (rows : List Tuple) (e e' : Engine) (d i d' i' : Nat), ArityOk e →
    updRows c vars dels inss e rows d i = (e', .ok (d', i')) →
    ∀ r y, (y ∈ liveOf e' r ↔ memAfter r y (updPrims vars dels inss rows) (y ∈ liveOf e r)) := by
  intro rows
  induction rows with
  | nil =>
    intro e e' d i d' i' _ h r y
    simp only [updRows, Prod.mk.injEq] at h
    rw [← h.1]; rfl
  | cons row rows ih =>
    intro e e' d i d' i' ha h r y
    unfold updRows at h
    simp only at h
    rcases hr1 : updTargets c true (rowBinding vars row) e dels d with ⟨e1, res1⟩
    rw [hr1] at h
    cases res1 with
    | error k => simp at h
    | ok d1 =>
      simp only at h
      rcases hr2 : updTargets c false (rowBinding vars row) e1 inss i with ⟨e2, res2⟩
      rw [hr2] at h
      cases res2 with
      | error k => simp at h
      | ok i1 =>
        simp only at h
        obtain ⟨ha1, s1'⟩ := updTargets_ok c true (rowBinding vars row) dels e e1 d d1 ha hr1
        obtain ⟨ha2, s2'⟩ := updTargets_ok c false (rowBinding vars row) inss e1 e2 i i1 ha1 hr2
        have s1 := s1' r y
        have s2 := s2' r y
        have s3 := ih e2 e' d1 i1 d' i' ha2 h r y
        rw [updPrims_cons, memAfter_append, memAfter_append, s3]
        apply memAfter_congr
        rw [s2]
        apply memAfter_congr
        exact s1

end ILV.Writes
