/-
  Lemmas for C22_partial: completeness of the chainer model on positive non-recursive programs
  over canonical data (induction on the rank of the relation = induction on the rule DAG).
-/
import ILV.Lemmas.ProvChain
namespace ILV.Prov
open ILV

/-! canonical values: `valuesEqual` is equality on them -/

def CanonT (t : Tuple) : Prop := ∀ v ∈ t, canonV v = true
def CanonB (β : Bindings) : Prop := ∀ p ∈ β, canonV p.2 = true
def CanonDB (db : DB) : Prop := ∀ rel, ∀ t ∈ db.get rel, CanonT t

theorem canon_eq (a b : Value) (ha : canonV a = true) (hb : canonV b = true) (h : valuesEqual a b = true) : a = b := by
  cases a with
  | i32 | f64 => cases ha
  | i64 x =>
    cases b with
    | i32 | f64 => cases hb
    | i64 y => simpa [valuesEqual] using h
    | _ => simp [valuesEqual] at h
  | _ => exact eq_of_beq h

theorem canon_good (v : Value) (h : canonV v = true) : GoodV v := by
  cases v with
  | i32 | f64 => cases h
  | _ => simp [GoodV, valuesEqual]

theorem CanonT_good (t : Tuple) (h : CanonT t) : GoodT t := fun v hv => canon_good v (h v hv)

theorem CanonDB_of (db : DB) (h : canonDB db = true) : CanonDB db := by
  intro rel t ht v hv
  obtain ⟨ts, hm, ht⟩ := mem_DB_get ht
  exact List.all_eq_true.mp (List.all_eq_true.mp (List.all_eq_true.mp h _ hm) t ht) v hv

theorem unifyHead_canon (t : Tuple) (head : Atom) (β0 : Bindings) (ht : CanonT t) (h : unifyHead t head = some β0) :
    CanonB β0 := fun q hq =>
  ht _ (((unifyArgs_spec (unifyHead_eq_some.mp h).2).2.2 q hq).resolve_left (fun h => by cases h)).2

def PosOnly (ls : List Lit) : Prop := ∀ l ∈ ls, ∃ a, l = Lit.pos a ∧ ∀ x ∈ a.args, x ≠ Term.other

theorem evalBody_pos_sound (W : String → List Tuple) (hW : ∀ rel, ∀ t ∈ W rel, CanonT t) :
    ∀ (ls : List Lit), PosOnly ls → ∀ (bs : List Bindings) (βs : Bindings), βs ∈ evalBody W W ls bs →
      ∃ β ∈ bs, Ext β βs ∧ (CanonB β → CanonB βs) ∧
        ∀ a, Lit.pos a ∈ ls → ∃ u ∈ W a.rel, argsMatch βs a.args u = true
  | [], _, bs, βs, h => ⟨βs, h, Ext.refl _, id, fun a ha => absurd ha List.not_mem_nil⟩
  | l :: ls, hp, bs, βs, h => by
    obtain ⟨β1, hβ1, e1, c1, s1⟩ := evalBody_pos_sound W hW ls (fun l' hl' => hp l' (List.mem_cons_of_mem _ hl')) _ βs h
    obtain ⟨a, rfl, hsup⟩ := hp l List.mem_cons_self
    obtain ⟨β, hβ, hβ1⟩ := List.mem_flatMap.mp hβ1
    obtain ⟨u, hu, he⟩ := List.mem_filterMap.mp hβ1
    obtain ⟨nb, hm, rfl⟩ := Option.map_eq_some_iff.mp he
    have hcu := hW a.rel u hu
    obtain ⟨_, f1, _, m1, _⟩ := matchTuple_sound hsup (CanonT_good u hcu) hm
    refine ⟨β, hβ, Ext.trans (Ext_append_fresh nb β f1) e1, fun hc => c1 fun p hp' => ?_, fun a' ha' => ?_⟩
    · rcases List.mem_append.mp hp' with h' | h'
      · exact hcu _ (((matchArgs_mem (matchTuple_eq_some.mp hm).2 p h').resolve_left (fun h => by cases h)).2)
      · exact hc p h'
    · rcases List.mem_cons.mp ha' with h' | h'
      · cases h'
        exact ⟨u, hu, argsMatch_ext e1 m1⟩
      · exact s1 a' h'

theorem findMatching_complete {βc βs : Bindings} (hc : Ext βc βs) (hcs : CanonB βs) (a : Atom) {db : DB}
    {u : Tuple} (hu : u ∈ db.get a.rel) (hcu : CanonT u) (hm : argsMatch βs a.args u = true) :
    ∃ nb, (u, nb) ∈ findMatching a.rel (substituteAtom a βc) db ∧ Ext (nb ++ βc) βs := by
  obtain ⟨nb, m, e⟩ := matchArgs_complete hc a.args u []
    (fun v hv x w _ hw h => canon_eq w v (hcs _ (lookup_mem hw)) (hcu v hv) h) (fun _ _ h => by cases h) hm
  have hl : u.length = (substituteAtom a βc).length := by simpa [substituteAtom] using argsMatch_length hm
  exact ⟨nb, mem_findMatching.mpr ⟨hu, matchTuple_eq_some.mpr ⟨hl, m⟩⟩, Ext_append e hc⟩

def NodeKind.completeKind : NodeKind → Bool
  | .fact .edb => true
  | .rule _ _ => true
  | _ => false

/-- the builder holds only nodes of a complete kind (stored fact, rule step) whose children come before them,
    and the memo table points inside the node table: what `Tree.complete` needs of the unfolded DAG. -/
structure CInv (b : Builder) : Prop where
  nodes : ∀ (i : Nat) (n : Node), b.nodes[i]? = some n → (∀ k ∈ n.children, k < i) ∧ n.kind.completeKind = true
  seen : ∀ key id, (key, id) ∈ b.seen → id < b.nodes.length

theorem CInv_empty : CInv {} := ⟨fun i n h => by simp at h, fun k id h => by simp at h⟩

theorem Pre_length {b b' : Builder} (h : Pre b b') : b.nodes.length ≤ b'.nodes.length := List.IsPrefix.length_le h

theorem CInv_push {b : Builder} {n : Node} (hb : CInv b) (hk : n.kind.completeKind = true)
    (hc : ∀ k ∈ n.children, k < b.nodes.length) :
    ∀ (i : Nat) (m : Node), (b.nodes ++ [n])[i]? = some m → (∀ k ∈ m.children, k < i) ∧ m.kind.completeKind = true := by
  intro i m hi
  rcases getElem?_push hi with hi | ⟨rfl, rfl⟩
  · exact hb.nodes i m hi
  · exact ⟨hc, hk⟩

theorem CInv_insert (b : Builder) (n : Node) (hb : CInv b) (hk : n.kind.completeKind = true)
    (hc : ∀ k ∈ n.children, k < b.nodes.length) :
    CInv (b.insert n).2 ∧ Pre b (b.insert n).2 ∧ (b.insert n).1 < (b.insert n).2.nodes.length := by
  unfold Builder.insert
  split
  · rename_i id hid
    refine ⟨hb, Pre.refl b, ?_⟩
    split at hid
    · exact hb.seen _ id (lookup_mem hid)
    · cases hid
  · refine ⟨⟨CInv_push hb hk hc, fun key id hkey => ?_⟩, List.prefix_append _ _, by simp⟩
    have : id ≤ b.nodes.length := by
      rcases List.mem_cons.mp hkey with hkey | hkey
      · cases hkey; exact Nat.le_refl _
      · exact Nat.le_of_lt (hb.seen key id hkey)
    simpa using Nat.lt_succ_of_le this

theorem CInv_insertRule (b : Builder) (n : Node) (hb : CInv b) (hk : n.kind.completeKind = true)
    (hc : ∀ k ∈ n.children, k < b.nodes.length) :
    CInv (b.insertRule n).2 ∧ Pre b (b.insertRule n).2 ∧ (b.insertRule n).1 < (b.insertRule n).2.nodes.length := by
  unfold Builder.insertRule
  split
  · refine ⟨⟨CInv_push hb hk hc, fun key id hkey => ?_⟩, List.prefix_append _ _, by simp [Builder.insertIncomplete]⟩
    simpa [Builder.insertIncomplete] using Nat.lt_succ_of_lt (hb.seen key id hkey)
  · exact CInv_insert b n hb hk hc

/-- what `c22Fragment` and `supportedModel` give (`supp` is `∃ r ∈ rulesFor rel, Derives ctx M t r`, see below). -/
structure CHyp (ctx : Ctx) (M : DB) (rk : String → Nat) : Prop where
  der : ctx.derived = some M
  maxp : 1 ≤ ctx.maxProofs
  pos : ∀ r ∈ ctx.rules, PosOnly r.body
  ranked : ∀ r ∈ ctx.rules, ∀ a, Lit.pos a ∈ r.body → rk a.rel < rk r.head.rel
  sep : ∀ r ∈ ctx.rules, ctx.base.get r.head.rel = []
  derOnly : ∀ rel, ctx.isDerived rel = false → M.get rel = []
  canonBase : CanonDB ctx.base
  canonM : CanonDB M
  supp : ∀ rel, ∀ t ∈ M.get rel, ∃ r ∈ ctx.rulesFor rel, ∃ β0 βs, unifyHead t r.head = some β0 ∧
    βs ∈ evalBody (world ctx.base M) (world ctx.base M) r.body [β0]

/-- what a `build_node` of remaining depth `n` guarantees for relations of rank below `n`. -/
def BnC (ctx : Ctx) (M : DB) (rk : String → Nat) (n : Nat) (bn : BuildFn) : Prop :=
  ∀ rel t b vis, rk rel < n → (∀ p ∈ vis, rk rel < rk p.1) → CInv b →
    CInv (bn rel t b vis).2 ∧ Pre b (bn rel t b vis).2 ∧
    (∀ id ∈ (bn rel t b vis).1, id < (bn rel t b vis).2.nodes.length) ∧
    ((t ∈ ctx.base.get rel ∨ t ∈ M.get rel) → (bn rel t b vis).1 ≠ [])

/-- the ids exist in the new builder, and there is one whenever `c` holds. -/
def BuiltC (b : Builder) (c : Prop) (r : List Nat × Builder) : Prop :=
  Stepped CInv b (fun b' id => id < b'.nodes.length) r ∧ (c → r.1 ≠ [])

def KidsLt (b : Builder) (st : State) : Prop := ∀ k ∈ st.2, k < b.nodes.length

theorem KidsLt_mono {b b' : Builder} (h : Pre b b') {st : State} (hs : KidsLt b st) : KidsLt b' st :=
  fun k hk => Nat.lt_of_lt_of_le (hs k hk) (Pre_length h)

section Walk
variable {ctx : Ctx} {M : DB} {rk : String → Nat} (hy : CHyp ctx M rk) {n : Nat} {bn : BuildFn}
  (hbn : BnC ctx M rk n bn) (en : EnumFn)

section
include hbn

theorem stepMatches_c {rel : String} (hrk : rk rel < n) {vis : Visited} (hvis : ∀ p ∈ vis, rk rel < rk p.1) (β : Bindings)
    (kids : List Nat) (ms : List (Tuple × Bindings)) (b : Builder) (hb : CInv b) (hk : KidsLt b (β, kids)) :
    Stepped CInv b KidsLt (stepMatches bn rel vis β kids ms b) ∧
      (∀ u nb, (u, nb) ∈ ms → (u ∈ ctx.base.get rel ∨ u ∈ M.get rel) →
        ∃ st ∈ (stepMatches bn rel vis β kids ms b).1, st.1 = nb ++ β) := by
  fun_induction stepMatches bn rel vis β kids ms b with
  | case1 => exact ⟨Stepped.stay hb (fun _ h => absurd h List.not_mem_nil), fun _ _ h => absurd h List.not_mem_nil⟩
  | case2 t nb0 ms b _ _ id _ hids ih =>
    obtain ⟨c1, p1, l1, _⟩ := hbn rel t b vis hrk hvis hb
    obtain ⟨⟨c2, p2, l2⟩, n2⟩ := ih c1 (KidsLt_mono p1 hk)
    refine ⟨⟨c2, Pre.trans p1 p2, List.forall_mem_cons.mpr ⟨fun k hk' => ?_, l2⟩⟩, fun u nb hmem hu => ?_⟩
    · rcases List.mem_append.mp hk' with h | h
      · exact KidsLt_mono (Pre.trans p1 p2) hk k h
      · rw [List.eq_of_mem_singleton h]
        exact Nat.lt_of_lt_of_le (l1 id (hids ▸ List.mem_cons_self)) (Pre_length p2)
    · rcases List.mem_cons.mp hmem with h | h
      · cases h; exact ⟨_, List.mem_cons_self, rfl⟩
      · exact (n2 u nb h hu).imp fun st h => ⟨List.mem_cons_of_mem _ h.1, h.2⟩
  | case3 t nb0 ms b _ _ hids ih =>
    obtain ⟨c1, p1, _, n1⟩ := hbn rel t b vis hrk hvis hb
    obtain ⟨s2, n2⟩ := ih c1 (KidsLt_mono p1 hk)
    refine ⟨Stepped.after p1 s2, fun u nb hmem hu => ?_⟩
    rcases List.mem_cons.mp hmem with h | h
    · cases h; exact absurd hids (n1 hu)
    · exact n2 u nb h hu

end

theorem addRuleNodes_c (ctx : Ctx) (rel : String) (values : Tuple) (idx : Nat) (sts : List State) (res : List Nat)
    (b : Builder) (hb : CInv b) (hk : ∀ st ∈ sts, KidsLt b st) (hres : ∀ id ∈ res, id < b.nodes.length) :
    BuiltC b (res ≠ [] ∨ (sts ≠ [] ∧ res.length < ctx.maxProofs)) (addRuleNodes ctx rel values idx sts res b) := by
  fun_induction addRuleNodes ctx rel values idx sts res b with
  | case1 => exact ⟨Stepped.stay hb hres, fun h => h.elim id (fun h => absurd rfl h.1)⟩
  | case2 _ _ _ _ _ hge =>
    exact ⟨Stepped.stay hb hres, fun h => h.elim id (fun h => absurd hge (Nat.not_le_of_lt h.2))⟩
  | case3 fb kids sts res b _ _ ih =>
    obtain ⟨c1, p1, l1⟩ := CInv_insertRule b
      { kind := .rule idx (fb.filter (fun p => !isPlaceholderName p.1)), pred := rel, args := values, children := kids }
      hb rfl (hk (fb, kids) List.mem_cons_self)
    obtain ⟨s2, n2⟩ := ih c1 (fun st h => KidsLt_mono p1 (hk st (List.mem_cons_of_mem _ h)))
      (fun id hid => by
        rcases List.mem_append.mp hid with h | h
        · exact Nat.lt_of_lt_of_le (hres id h) (Pre_length p1)
        · rw [List.eq_of_mem_singleton h]; exact l1)
    exact ⟨Stepped.after p1 s2, fun _ => n2 (Or.inl (by simp))⟩

/-- clause `r` derives `t` in the world `(base, M)`, as witnessed by the reference evaluator. -/
def Derives (ctx : Ctx) (M : DB) (t : Tuple) (r : Rule) : Prop :=
  ∃ β0 βs, unifyHead t r.head = some β0 ∧ βs ∈ evalBody (world ctx.base M) (world ctx.base M) r.body [β0]

section
include hy

theorem world_canon :
    ∀ rel, ∀ u ∈ world ctx.base M rel, CanonT u :=
  fun rel u hu => (List.mem_append.mp hu).elim (hy.canonBase rel u) (hy.canonM rel u)

theorem base_get_of_isDerived {rel : String}
    (h : ctx.isDerived rel = true) : ctx.base.get rel = [] := by
  obtain ⟨r, hr, he⟩ := List.any_eq_true.mp h
  exact eq_of_beq he ▸ hy.sep r hr

theorem posMatches_complete (vis : Visited)
    {βc βs : Bindings} (hc : Ext βc βs) (hcs : CanonB βs) (a : Atom)
    {u : Tuple} (hu : u ∈ world ctx.base M a.rel) (hm : argsMatch βs a.args u = true) :
    ∃ nb, (u, nb) ∈ posMatches ctx en vis a βc ∧ Ext (nb ++ βc) βs ∧ (u ∈ ctx.base.get a.rel ∨ u ∈ M.get a.rel) := by
  rcases List.mem_append.mp hu with hb | hmm
  · obtain ⟨nb, h1, h2⟩ := findMatching_complete hc hcs a hb (hy.canonBase a.rel u hb) hm
    refine ⟨nb, ?_, h2, Or.inl hb⟩
    have hne : (findMatching a.rel (substituteAtom a βc) ctx.base).isEmpty = false :=
      List.isEmpty_eq_false_iff_exists_mem.mpr ⟨_, h1⟩
    simpa only [posMatches, hne, Bool.false_and, Bool.false_eq_true, if_false] using h1
  · obtain ⟨nb, h1, h2⟩ := findMatching_complete hc hcs a hmm (hy.canonM a.rel u hmm) hm
    refine ⟨nb, ?_, h2, Or.inr hmm⟩
    have hd : ctx.isDerived a.rel = true := by
      cases hdd : ctx.isDerived a.rel with
      | true => rfl
      | false => rw [hy.derOnly a.rel hdd] at hmm; cases hmm
    have he0 : findMatching a.rel (substituteAtom a βc) ctx.base = [] :=
      findMatching_eq_nil.mpr (by rw [base_get_of_isDerived hy hd]; exact fun _ h => absurd h List.not_mem_nil)
    have hne : (findMatching a.rel (substituteAtom a βc) M).isEmpty = false :=
      List.isEmpty_eq_false_iff_exists_mem.mpr ⟨_, h1⟩
    simpa only [posMatches, he0, List.isEmpty_nil, hd, Bool.and_self, if_true, hy.der, hne, Bool.false_and,
      Bool.false_eq_true, if_false] using h1

end

section
include hy hbn

/-- one positive atom applied to the states: a state that is a part of a witness `βs` is continued by one that
    still is. -/
theorem stepStates_c {vis : Visited} {a : Atom} (hrk : rk a.rel < n)
    (hvis : ∀ p ∈ vis, rk a.rel < rk p.1) (sts : List State) (b : Builder) (hb : CInv b) (hk : ∀ st ∈ sts, KidsLt b st) :
    Stepped CInv b KidsLt (stepStates ctx bn en vis (.pos a) sts b) ∧
      (∀ βs, CanonB βs → (∃ st ∈ sts, Ext st.1 βs) → (∃ u ∈ world ctx.base M a.rel, argsMatch βs a.args u = true) →
        ∃ st' ∈ (stepStates ctx bn en vis (.pos a) sts b).1, Ext st'.1 βs) := by
  fun_induction stepStates ctx bn en vis (.pos a) sts b with
  | case1 => exact ⟨Stepped.stay hb (fun _ h => nomatch h), fun _ _ ⟨_, h, _⟩ _ => nomatch h⟩
  | case2 st sts b _ _ ih =>
    obtain ⟨⟨c1, p1, l1⟩, n1⟩ := stepMatches_c hbn hrk hvis st.1 st.2 (posMatches ctx en vis a st.1) b hb (hk _ List.mem_cons_self)
    obtain ⟨⟨c2, p2, l2⟩, n2⟩ := ih c1 (fun s hs => KidsLt_mono p1 (hk s (List.mem_cons_of_mem _ hs)))
    refine ⟨⟨c2, Pre.trans p1 p2, fun st' hst' => ?_⟩, fun βs hcs ⟨s0, hs0, hE⟩ hw => ?_⟩
    · rcases List.mem_append.mp hst' with h | h
      · exact KidsLt_mono p2 (l1 st' h)
      · exact l2 st' h
    · rcases List.mem_cons.mp hs0 with rfl | hs0
      · obtain ⟨u, hu, hm⟩ := hw
        obtain ⟨nb, m1, m2, m3⟩ := posMatches_complete hy en vis hE hcs a hu hm
        obtain ⟨st', hst', he⟩ := n1 u nb m1 m3
        exact ⟨st', List.mem_append_left _ hst', he ▸ m2⟩
      · exact (n2 βs hcs ⟨s0, hs0, hE⟩ hw).imp fun st' h => ⟨List.mem_append_right _ h.1, h.2⟩

theorem proveBody_c (vis : Visited) (ls : List Lit) (hp : PosOnly ls)
    (hr : ∀ a, Lit.pos a ∈ ls → rk a.rel < n ∧ ∀ p ∈ vis, rk a.rel < rk p.1)
    (sts : List State) (b : Builder) (hb : CInv b) (hk : ∀ st ∈ sts, KidsLt b st) :
    CInv (proveBody ctx bn en vis ls sts b).2 ∧ Pre b (proveBody ctx bn en vis ls sts b).2 ∧
      (∀ sts', (proveBody ctx bn en vis ls sts b).1 = some sts' →
        ∀ st' ∈ sts', KidsLt (proveBody ctx bn en vis ls sts b).2 st') ∧
      (∀ βs, CanonB βs → (∃ st ∈ sts, Ext st.1 βs) →
        (∀ a, Lit.pos a ∈ ls → ∃ u ∈ world ctx.base M a.rel, argsMatch βs a.args u = true) →
        ∃ sts', (proveBody ctx bn en vis ls sts b).1 = some sts' ∧ ∃ st' ∈ sts', Ext st'.1 βs) := by
  fun_induction proveBody ctx bn en vis ls sts b with
  | case1 sts b => exact ⟨hb, Pre.refl b, fun _ he => Option.some.inj he ▸ hk, fun _ _ hex _ => ⟨sts, rfl, hex⟩⟩
  | case2 l ls sts b _ hemp =>
    obtain ⟨a, rfl, _⟩ := hp l List.mem_cons_self
    obtain ⟨hra, hva⟩ := hr a List.mem_cons_self
    obtain ⟨⟨c1, p1, _⟩, n1⟩ := stepStates_c hy hbn en hra hva sts b hb hk
    refine ⟨c1, p1, fun _ he => (nomatch he), fun βs hcs hex hw => ?_⟩
    obtain ⟨st', h1, _⟩ := n1 βs hcs hex (hw a List.mem_cons_self)
    rw [List.isEmpty_iff.mp hemp] at h1; cases h1
  | case3 l ls sts b _ _ ih =>
    obtain ⟨a, rfl, _⟩ := hp l List.mem_cons_self
    obtain ⟨hra, hva⟩ := hr a List.mem_cons_self
    obtain ⟨⟨c1, p1, l1⟩, n1⟩ := stepStates_c hy hbn en hra hva sts b hb hk
    obtain ⟨c2, p2, l2, n2⟩ := ih (fun l' hl' => hp l' (List.mem_cons_of_mem _ hl'))
      (fun a' ha' => hr a' (List.mem_cons_of_mem _ ha')) c1 l1
    exact ⟨c2, Pre.trans p1 p2, l2, fun βs hcs hex hw =>
      n2 βs hcs (n1 βs hcs hex (hw a List.mem_cons_self)) (fun a' ha' => hw a' (List.mem_cons_of_mem _ ha'))⟩

theorem tryRules_c {rel : String} (hrk : rk rel ≤ n) (t : Tuple)
    {vis : Visited} (hvis : ∀ p ∈ vis, rk rel ≤ rk p.1) :
    ∀ (rs : List Rule), (∀ r ∈ rs, r ∈ ctx.rules ∧ r.head.rel = rel) →
      ∀ (res : List Nat) (b : Builder), CInv b → (∀ id ∈ res, id < b.nodes.length) →
      BuiltC b (res ≠ [] ∨ (CanonT t ∧ ∃ r ∈ rs, Derives ctx M t r))
        (tryRules ctx (fun v => proveBody ctx bn en v) rel t vis rs res b)
  | [], _, res, b, hb, hres =>
    ⟨Stepped.stay hb hres, fun h => h.elim id (fun ⟨_, _, hr, _⟩ => absurd hr List.not_mem_nil)⟩
  | r :: rs, hrs, res, b, hb, hres => by
    have ih := tryRules_c hrk t hvis rs (fun r' h => hrs r' (List.mem_cons_of_mem _ h))
    obtain ⟨hrm, hrel⟩ := hrs r List.mem_cons_self
    have hpos := hy.pos r hrm
    have hatoms : ∀ a, Lit.pos a ∈ r.body → rk a.rel < n ∧ ∀ p ∈ vis, rk a.rel < rk p.1 := fun a ha =>
      have hlt : rk a.rel < rk rel := hrel ▸ hy.ranked r hrm a ha
      ⟨Nat.lt_of_lt_of_le hlt hrk, fun p hp => Nat.lt_of_lt_of_le hlt (hvis p hp)⟩
    -- the condition for `r :: rs`, once it is known what a derivation by `r` itself gives
    have cond : ∀ {c' : Prop}, (res ≠ [] → c') → (CanonT t → Derives ctx M t r → c') →
        (CanonT t → (∃ r' ∈ rs, Derives ctx M t r') → c') →
        (res ≠ [] ∨ (CanonT t ∧ ∃ r' ∈ r :: rs, Derives ctx M t r')) → c' := by
      rintro c' h0 h1 h2 (h | ⟨ht, r', hr', hd⟩)
      · exact h0 h
      · rcases List.mem_cons.mp hr' with rfl | hr'
        · exact h1 ht hd
        · exact h2 ht ⟨r', hr', hd⟩
    rw [tryRules]
    split
    · rename_i hge
      have hne : res ≠ [] := by
        rintro rfl
        exact absurd hge (Nat.not_le_of_lt hy.maxp)
      exact ⟨Stepped.stay hb hres, fun _ => hne⟩
    · rename_i hlt
      split
      · rename_i hu
        obtain ⟨s1, n1⟩ := ih res b hb hres
        exact ⟨s1, cond (fun h => n1 (Or.inl h)) (fun _ ⟨_, _, e1, _⟩ => by rw [hu] at e1; cases e1)
          (fun ht h => n1 (Or.inr ⟨ht, h⟩))⟩
      · rename_i bd hu
        obtain ⟨c1, p1, l1, n1⟩ := proveBody_c hy hbn en vis r.body hpos hatoms [(bd, [])] b hb
          (List.forall_mem_singleton.mpr fun _ hk => absurd hk List.not_mem_nil)
        have hres1 := fun id hid => Nat.lt_of_lt_of_le (hres id hid) (Pre_length p1)
        have found : CanonT t → Derives ctx M t r →
            ∃ sts', (proveBody ctx bn en vis r.body [(bd, [])] b).1 = some sts' ∧ sts' ≠ [] := by
          rintro ht ⟨β0, βs, e1, e2⟩
          obtain rfl : bd = β0 := Option.some.inj (hu.symm.trans e1)
          obtain ⟨β, hβ, e, cc, s1⟩ := evalBody_pos_sound _ (world_canon hy) r.body hpos [bd] βs e2
          rw [List.eq_of_mem_singleton hβ] at e cc
          obtain ⟨sts', hs', st', hst', _⟩ := n1 βs (cc (unifyHead_canon t r.head bd ht hu)) ⟨(bd, []), List.mem_cons_self, e⟩ s1
          exact ⟨sts', hs', List.ne_nil_of_mem hst'⟩
        dsimp only
        split
        · rename_i sts hp
          obtain ⟨⟨c2, p2, l2⟩, n2⟩ := addRuleNodes_c ctx rel t (ruleIndex ctx.rules r) sts res _ c1 (l1 sts hp) hres1
          obtain ⟨s3, n3⟩ := ih _ _ c2 l2
          refine ⟨Stepped.after (Pre.trans p1 p2) s3, cond (fun h => n3 (Or.inl (n2 (Or.inl h)))) (fun ht hd => ?_)
            (fun ht h => n3 (Or.inr ⟨ht, h⟩))⟩
          obtain ⟨sts', hs', hne⟩ := found ht hd
          cases hp.symm.trans hs'
          exact n3 (Or.inl (n2 (Or.inr ⟨hne, Nat.lt_of_not_le hlt⟩)))
        · rename_i hp
          obtain ⟨s2, n2⟩ := ih res _ c1 hres1
          refine ⟨Stepped.after p1 s2, cond (fun h => n2 (Or.inl h)) (fun ht hd => ?_) (fun ht h => n2 (Or.inr ⟨ht, h⟩))⟩
          obtain ⟨sts', hs', _⟩ := found ht hd
          cases hp.symm.trans hs'

theorem buildNodeAt_c : BnC ctx M rk (n + 1) (buildNodeAt ctx (fun v => proveBody ctx bn en v)) := by
  intro rel t b vis hrk hvis hb
  refine buildNodeAt_cases hy.der _ rel t b vis
    (motive := fun r => CInv r.2 ∧ Pre b r.2 ∧ (∀ id ∈ r.1, id < r.2.nodes.length) ∧
      ((t ∈ ctx.base.get rel ∨ t ∈ M.get rel) → r.1 ≠ []))
    (fun id hge => ?_) (fun hv => ?_) (fun hr => ?_) (fun hr _ => ?_)
  · exact ⟨hb, Pre.refl b, List.forall_mem_singleton.mpr (hb.seen (rel, t) id (lookup_mem hge)), fun _ => List.cons_ne_nil _ _⟩
  · exact absurd (hvis _ hv) (Nat.lt_irrefl _)
  · split
    · obtain ⟨c1, p1, l1⟩ := CInv_insert b (factNode rel t .edb) hb rfl (fun _ hk => absurd hk List.not_mem_nil)
      exact ⟨c1, p1, List.forall_mem_singleton.mpr l1, fun _ => List.cons_ne_nil _ _⟩
    · rename_i hin
      refine ⟨hb, Pre.refl b, fun _ h => absurd h List.not_mem_nil, fun hmem => absurd ?_ hin⟩
      rw [Bool.or_eq_true]
      exact hmem.imp (fun h => List.contains_iff_mem.mpr h) (fun h => List.contains_iff_mem.mpr h)
  · have hb0 := base_get_of_isDerived hy hr
    have hinb : tupleExistsIn rel t ctx.base = false := by rw [tupleExistsIn, hb0]; rfl
    rw [derivedStep, hinb]
    simp only [baseFactStep, Bool.false_and, Bool.false_eq_true, if_false]
    obtain ⟨⟨c1, p1, l1⟩, k1⟩ := tryRules_c hy hbn en (Nat.le_of_lt_succ hrk) t
      (vis := (rel, t) :: vis) (List.forall_mem_cons.mpr ⟨Nat.le_refl _, fun p hp => Nat.le_of_lt (hvis p hp)⟩)
      (ctx.rulesFor rel) (rulesFor_mem ctx rel) [] b hb (fun _ h => absurd h List.not_mem_nil)
    have hcomp : t ∈ M.get rel →
        (tryRules ctx (fun v => proveBody ctx bn en v) rel t ((rel, t) :: vis) (ctx.rulesFor rel) [] b).1 ≠ [] :=
      fun hm => k1 (Or.inr ⟨hy.canonM rel t hm, hy.supp rel t hm⟩)
    rw [fallbackStep]
    split
    · rename_i hf
      rw [Bool.and_eq_true, List.isEmpty_iff] at hf
      exact absurd hf.1 (hcomp (List.contains_iff_mem.mp hf.2))
    · exact ⟨c1, p1, l1, fun hmem => hmem.elim (fun h => by rw [hb0] at h; cases h) hcomp⟩

end

end Walk

theorem level_c (ctx : Ctx) (M : DB) (rk : String → Nat) (hy : CHyp ctx M rk) :
    ∀ n, BnC ctx M rk n (level ctx n).bn
  | 0 => fun rel t b vis hrk _ _ => by omega
  | n + 1 => buildNodeAt_c hy (level_c ctx M rk hy n) _

theorem complete_unfold (b : Builder) (hb : CInv b) :
    ∀ (fuel id : Nat), id < fuel → id < b.nodes.length → (unfold b.nodes fuel id).complete = true
  | 0, id, hlt, _ => by omega
  | fuel + 1, id, hlt, hid => by
    have hn := List.getElem?_eq_getElem hid
    rw [unfold_succ b.nodes fuel id _ hn]
    obtain ⟨hch, hk⟩ := hb.nodes id _ hn
    have hkids : ∀ ks : List Nat, (∀ k ∈ ks, k < id) → Tree.completeList (ks.map (unfold b.nodes fuel)) = true := by
      intro ks
      induction ks with
      | nil => exact fun _ => rfl
      | cons k ks ih =>
        intro h
        obtain ⟨hk, hks⟩ := List.forall_mem_cons.mp h
        rw [List.map_cons, Tree.completeList, complete_unfold b hb fuel k (by omega) (by omega), ih hks]; rfl
    cases hkind : b.nodes[id].kind with
    | fact s =>
      cases s with
      | edb => exact hkids _ hch
      | derived => rw [hkind] at hk; cases hk
    | trunc l => rw [hkind] at hk; cases hk
    | neg pat => rw [hkind] at hk; cases hk
    | rule idx β => exact hkids _ hch

theorem CHyp_of_fragment (prog : Program) (base M : DB) (rk : List (String × Nat)) (depth : Nat)
    (hf : c22Fragment prog base M rk = true) (hs : supportedModel prog base M = true) :
    CHyp { rules := prog, base := base, derived := some M, maxDepth := depth } M (rankOf rk) := by
  simp only [c22Fragment, Bool.and_eq_true, List.all_eq_true] at hf
  obtain ⟨⟨⟨hrules, hdo⟩, hcb⟩, hcm⟩ := hf
  refine ⟨rfl, (Nat.le_of_ble_eq_true rfl), ?_, ?_, ?_, ?_, CanonDB_of base hcb, CanonDB_of M hcm, ?_⟩
  · intro r hr l hl
    have h := hrules r hr
    have hl' := h.2 l hl
    cases l with
    | pos a => exact ⟨a, rfl, supported_pos r h.1.1 a hl⟩
    | _ => cases hl'
  · intro r hr a ha
    simpa using (hrules r hr).2 _ ha
  · intro r hr
    simpa using (hrules r hr).1.2
  · exact fun rel hrel => derOnly_of prog M hdo rel hrel
  · intro rel t ht
    obtain ⟨ts, hm, ht⟩ := mem_DB_get ht
    have := List.all_eq_true.mp (List.all_eq_true.mp hs _ hm) t ht
    obtain ⟨r, hr, hfire⟩ := List.any_eq_true.mp this
    cases hu : unifyHead t r.head with
    | none => rw [hu] at hfire; cases hfire
    | some β0 =>
      simp only [hu, Bool.not_eq_true', List.isEmpty_eq_false_iff_exists_mem] at hfire
      obtain ⟨βs, hβs⟩ := hfire
      exact ⟨r, hr, β0, βs, hu, hβs⟩

/-- **build_complete**: positive non-recursive program, canonical data, `M` a supported model, the depth
    limit above the rank of the relation: every stored or derived tuple gets a complete tree. -/
theorem whyTree_complete (prog : Program) (base M : DB) (rk : List (String × Nat)) (rel : String) (t : Tuple)
    (depth : Nat) (hf : c22Fragment prog base M rk = true) (hs : supportedModel prog base M = true)
    (hmem : t ∈ M.get rel ∨ t ∈ base.get rel) (hdepth : rankOf rk rel < depth)
    (harity : truncateToArity { rules := prog, base := base, derived := some M, maxDepth := depth } rel t = t) :
    (whyTree { rules := prog, base := base, derived := some M, maxDepth := depth } rel t).complete = true := by
  have hy := CHyp_of_fragment prog base M rk depth hf hs
  obtain ⟨c1, _, l1, n1⟩ := level_c _ M (rankOf rk) hy depth rel t {} [] hdepth (fun _ hp => absurd hp List.not_mem_nil) CInv_empty
  have hne := n1 hmem.symm
  rw [whyTree, buildProofTree, harity]
  split
  · rename_i id b heq
    split at heq
    · rename_i id' rest hids
      obtain ⟨rfl, rfl⟩ := Prod.mk.inj (Option.some.inj heq)
      exact complete_unfold _ c1 (id' + 1) id' (Nat.lt_succ_self _) (l1 id' (hids ▸ List.mem_cons_self))
    · cases heq
  · rename_i heq
    split at heq
    · cases heq
    · rename_i hids
      exact absurd hids hne
end ILV.Prov
