/-
  For C13: the running single-shard store — `flush`, the invariant `Run`, and one insert / delete
  (`ensure_shard` + `append`, with auto-flush) from a running state, with every disk between its FS steps.
-/
import ILV.Lemmas.PersistImg
namespace ILV.Persist
open ILV.FS

def flushSteps (s : Name) (id : Nat) (buf : List Update) (m' : ShardMeta) : List Step :=
  [(.batchTmpwrite, .write (.batchTmp id) [.batch buf]), (.batchFsync, .fsync (.batchTmp id)),
   (.batchRename, .rename (.batchTmp id) (.batch id)),
   (.metaTmpwrite, .write (.metaTmp (metaFile s)) [.smeta m']), (.metaFsync, .fsync (.metaTmp (metaFile s))),
   (.metaRename, .rename (.metaTmp (metaFile s)) (.smeta (metaFile s))),
   (.walRewriteUnlink, .unlink .wal)]

def flushedMeta (sh : Shard) (id : Nat) : ShardMeta :=
  addBatch sh.md { id := id, upper := maxTimeP1 sh.buffer, len := sh.buffer.length }

/-- The disks along a flush whose buffer the WAL mirrors: the batch file and the metadata temp file are prepared
    out of sight; the metadata rename makes the new batch referenced while the WAL still holds the same updates (the
    defect window: content `X ++ buf ++ buf`, a `DblImg`); the WAL unlink ends it. -/
theorem flush_disks {s : Name} {d : Disk} {sh : Shard} {md0 : ShardMeta} {X : List Update} (id : Nat) (C' : List Update)
    (hname : sh.md.name = s) (hbuf : sh.buffer ≠ []) (hb0 : md0.batches = sh.md.batches)
    (himg : Img s d (some md0) X sh.buffer) (hfresh : ∀ b ∈ sh.md.batches, b.id ≠ id) :
    AllPre d ((flushSteps s id sh.buffer (flushedMeta sh id)).map (·.2)) (PreOk s C' (X ++ sh.buffer)) ∧
    Img s (applyAll d ((flushSteps s id sh.buffer (flushedMeta sh id)).map (·.2))) (some (flushedMeta sh id))
      (X ++ sh.buffer) [] := by
  have i1 := himg.write (.batchTmp id) (fun h => h) [.batch sh.buffer]
  have i2 := i1.fsync (.batchTmp id)
  have i3 := i2.rename (.batchTmp id) (.batch id) (fun h => h)
    (fun ⟨m, hm, b, hb, e⟩ => by cases hm; exact hfresh b (hb0 ▸ hb) e)
  have i4 := i3.write (.metaTmp (metaFile s)) (fun h => h) [.smeta (flushedMeta sh id)]
  have i5 := i4.fsync (.metaTmp (metaFile s))
  have i6 := i5.rename_meta (m' := flushedMeta sh id) (X' := X ++ sh.buffer) hname
    (by rw [itemsAt_fsync, itemsAt_write, if_pos rfl]; rfl)
    (readBatches_append _ _ [_] _ _ (hb0 ▸ (i5.hasMeta md0 rfl).2.2.2)
      (by simp [readBatches, readBatch, readDoc_eq, itemsAt_fsync, itemsAt_write, itemsAt_saved]))
  have dbl : DblImg s _ := ⟨_, _, _, _, i6, hbuf, List.getLast?_concat ..,
    (itemsAt_save_other _ (.metaTmp (metaFile s)) (.smeta (metaFile s)) _ (.batch id) nofun nofun).trans
      (itemsAt_saved ..)⟩
  refine ⟨?_, by simpa only [flushSteps, List.map_cons, List.map_nil, applyAll_cons, applyAll_nil] using i6.unlink_wal⟩
  exact allPre_cons (himg.new C') <| allPre_cons (i1.new C') <| allPre_cons (i2.new C') <| allPre_cons (i3.new C') <|
    allPre_cons (i4.new C') <| allPre_cons (i5.new C') <| allPre_cons (.inr dbl) <|
    allPre_nil (.inl ⟨_, _, _, i6.unlink_wal, .inr (List.append_nil _)⟩)

theorem flush_world {s : Name} {w : World} {sh : Shard} {md0 : ShardMeta} {X : List Update}
    (hsh : w.mem.shards = [(s, sh)]) (hname : sh.md.name = s) (hbuf : sh.buffer ≠ []) (hb0 : md0.batches = sh.md.batches)
    (himg : Img s w.disk (some md0) X sh.buffer)
    (hfresh : ∀ b ∈ sh.md.batches, b.id ≠ w.mem.nextBatch) :
    flush w s =
      { mem := { w.mem with shards := [(s, { md := flushedMeta sh w.mem.nextBatch, buffer := [] })],
                            nextBatch := w.mem.nextBatch + 1, walOpen := false },
        disk := applyAll w.disk ((flushSteps s w.mem.nextBatch sh.buffer (flushedMeta sh w.mem.nextBatch)).map (·.2)),
        trace := w.trace ++ flushSteps s w.mem.nextBatch sh.buffer (flushedMeta sh w.mem.nextBatch),
        failed := w.failed } := by
  -- the batch and metadata saves leave the WAL alone: `remove_shard_entries` finds the buffer's lines, all of `s`
  have hwal : itemsAt w.disk .wal = some (walItems s sh.buffer) := by
    rcases himg.wal with ⟨_, h2⟩ | h1
    · exact absurd h2 hbuf
    · exact h1
  have hmf : (flushedMeta sh w.mem.nextBatch).name = s := hname
  simp only [flush, hsh, sGet, if_true, hbuf, if_false, writeBatch, emit, setShard, sSet, saveShardMeta,
    removeShardEntries, flushedMeta] at hmf ⊢
  simp only [hmf, readAll_eq, isSome_get, itemsAt_save_other, ne_eq, reduceCtorEq, not_false_eq_true, hwal, walItems,
    walParse_mk, filter_tag_ne, Option.isSome_some, if_true, flushSteps, applyAll, List.map_cons, List.map_nil,
    List.foldl_cons, List.foldl_nil, List.append_assoc, List.cons_append, List.nil_append]

/-- running invariant of a single-shard store with durable content `C` (batches, then buffer = WAL); the metadata on
    disk (`md0`) is the one of the last save: it has the shard's batches, only `upper` may lag behind memory -/
structure Run (s : Name) (w : World) (C : List Update) : Prop where
  notFailed : w.failed = false
  shape : (w.mem.shards = [] ∧ Img s w.disk none [] [] ∧ C = []) ∨
    (∃ sh md0 X, w.mem.shards = [(s, sh)] ∧ sh.md.name = s ∧ md0.batches = sh.md.batches ∧
      Img s w.disk (some md0) X sh.buffer ∧ C = X ++ sh.buffer ∧ ∀ b ∈ sh.md.batches, b.id < w.mem.nextBatch)

theorem Run.congr {s : Name} {w w' : World} {C : List Update} (h : Run s w C) (h1 : w'.mem.shards = w.mem.shards)
    (h2 : w'.mem.nextBatch = w.mem.nextBatch) (h3 : w'.disk = w.disk) (h4 : w'.failed = w.failed) : Run s w' C := by
  obtain ⟨hf, hshape⟩ := h
  rw [← h1, ← h2, ← h3] at hshape
  exact ⟨h4 ▸ hf, hshape⟩

theorem Run.img {s : Name} {w : World} {C : List Update} (h : Run s w C) :
    ∃ md X es, Img s w.disk md X es ∧ X ++ es = C := by
  rcases h.shape with ⟨_, himg, hC⟩ | ⟨sh, md0, X, _, _, _, himg, hC, _⟩
  · exact ⟨_, _, _, himg, hC.symm⟩
  · exact ⟨_, _, _, himg, hC.symm⟩

/-- `flush` of a non-empty buffer from a running state (the auto-flush of `append`, the drain flush of recovery) -/
theorem run_flush {s : Name} {w : World} {C : List Update} {sh : Shard} (hrun : Run s w C)
    (hsh : w.mem.shards = [(s, sh)]) (hbuf : sh.buffer ≠ []) (C' : List Update) :
    Run s (flush w s) C ∧ Steps (PreOk s C' C) w (flush w s) := by
  obtain ⟨hf, hshape⟩ := hrun
  rcases hshape with ⟨h0, _⟩ | ⟨sh', md0, X, hsh', hname, hb0, himg, hC, hids⟩
  · rw [hsh] at h0; cases h0
  · rw [hsh] at hsh'; cases hsh'
    subst hC
    have hfresh : ∀ b ∈ sh.md.batches, b.id ≠ w.mem.nextBatch := fun b hb => Nat.ne_of_lt (hids b hb)
    obtain ⟨hpre, i7⟩ := flush_disks w.mem.nextBatch C' hname hbuf hb0 himg hfresh
    have e := flush_world hsh hname hbuf hb0 himg hfresh
    have hd : (flush w s).disk =
        applyAll w.disk ((flushSteps s w.mem.nextBatch sh.buffer (flushedMeta sh w.mem.nextBatch)).map (·.2)) := by
      rw [e]
    refine ⟨⟨by rw [e]; exact hf, .inr ⟨{ md := flushedMeta sh w.mem.nextBatch, buffer := [] },
      flushedMeta sh w.mem.nextBatch, X ++ sh.buffer, by rw [e], hname, rfl, hd ▸ i7, (List.append_nil _).symm,
      fun b hb => ?_⟩⟩, ⟨_, by rw [e], hd, hpre⟩⟩
    rw [e]
    rcases List.mem_append.1 (show b ∈ sh.md.batches ++ [_] from hb) with hb | hb
    · exact Nat.lt_succ_of_lt (hids b hb)
    · exact List.mem_singleton.1 hb ▸ Nat.lt_succ_self _

/-- the WAL part of `append`: `wal.open` if the writer is closed, one write with all lines, fsync -/
def walSteps (s : Name) (isOpen : Bool) (new : List Update) : List Step :=
  (if isOpen then [] else [(Lbl.walOpen, Op.append Path.wal [])]) ++
  [(.walAppendWrite, .append .wal (new.map (fun u => Rec.wal s u))), (.walAppendFsync, .fsync .wal)]

def bumped (sh : Shard) (new : List Update) : Shard :=
  { md := { sh.md with upper := max sh.md.upper (maxTimeP1 new) }, buffer := sh.buffer ++ new }

/-- the world after the WAL part and the buffer update -/
def afterWal (w : World) (s : Name) (sh : Shard) (new : List Update) : World :=
  { mem := { w.mem with shards := [(s, bumped sh new)], walOpen := true },
    disk := applyAll w.disk ((walSteps s w.mem.walOpen new).map (·.2)),
    trace := w.trace ++ walSteps s w.mem.walOpen new,
    failed := w.failed }

theorem append_eq {s : Name} (b : Nat) {w : World} {sh : Shard} (new : List Update) (hnew : new ≠ [])
    (hsh : w.mem.shards = [(s, sh)]) :
    append b w s new =
      if (sh.buffer ++ new).length ≥ b then flush (afterWal w s sh new) s else afterWal w s sh new := by
  cases hwo : w.mem.walOpen <;>
    simp [append, hnew, hwo, hsh, sGet, setShard, sSet, emit, afterWal, walSteps, bumped, applyAll]

theorem walPart_ok {s : Name} {d : Disk} {md0 : ShardMeta} {X buf : List Update} (isOpen : Bool) (new : List Update)
    (himg : Img s d (some md0) X buf) :
    Img s (applyAll d ((walSteps s isOpen new).map (·.2))) (some md0) X (buf ++ new) ∧
    AllPre d ((walSteps s isOpen new).map (·.2)) (PreOk s (X ++ buf) (X ++ (buf ++ new))) := by
  cases isOpen with
  | true =>
    have i1 := himg.wal_append new
    have i2 := i1.fsync .wal
    exact ⟨i2, allPre_cons (himg.old _) (allPre_cons (i1.new _) (allPre_nil (i2.new _)))⟩
  | false =>
    have i0 := himg.wal_open
    have i1 := i0.wal_append new
    have i2 := i1.fsync .wal
    exact ⟨i2, allPre_cons (himg.old _) (allPre_cons (i0.old _) (allPre_cons (i1.new _) (allPre_nil (i2.new _))))⟩

theorem run_append {s : Name} {w : World} {C : List Update} {sh : Shard} (b : Nat) (hrun : Run s w C)
    (hsh : w.mem.shards = [(s, sh)]) (new : List Update) (hnew : new ≠ []) :
    Run s (append b w s new) (C ++ new) ∧ Steps (PreOk s C (C ++ new)) w (append b w s new) := by
  have hwal : Run s (afterWal w s sh new) (C ++ new) ∧ Steps (PreOk s C (C ++ new)) w (afterWal w s sh new) := by
    obtain ⟨hf, hshape⟩ := hrun
    rcases hshape with ⟨h0, _⟩ | ⟨sh', md0, X, hsh', hname, hb0, himg, hC, hids⟩
    · rw [hsh] at h0; cases h0
    · rw [hsh] at hsh'; cases hsh'
      subst hC
      obtain ⟨i2, hpre⟩ := walPart_ok w.mem.walOpen new himg
      rw [List.append_assoc]
      exact ⟨⟨hf, .inr ⟨bumped sh new, md0, X, rfl, hname, hb0, i2, rfl, hids⟩⟩, _, rfl, rfl, hpre⟩
  rw [append_eq b new hnew hsh]
  split
  · obtain ⟨hr, hst⟩ := run_flush hwal.1 (sh := bumped sh new) rfl (by simp [bumped, hnew]) C
    exact ⟨hr, hwal.2.trans hst⟩
  · exact hwal

/-- `ensure_shard` from a running state: nothing, or (first operation on the shard) its empty metadata file -/
theorem run_ensure {s : Name} {w : World} {C : List Update} (hrun : Run s w C) (C' : List Update) :
    ∃ sh, (ensureShard w s).mem.shards = [(s, sh)] ∧ Run s (ensureShard w s) C ∧
      Steps (PreOk s C C') w (ensureShard w s) := by
  obtain ⟨hf, hshape⟩ := hrun
  rcases hshape with ⟨hsh, himg, hC⟩ | ⟨sh, md0, X, hsh, hname, hb0, himg, hC, hids⟩
  · subst hC
    have hens : ensureShard w s = setShard (saveShardMeta w { name := s }) s { md := { name := s } } := by
      simp [ensureShard, hsh, sGet]
    have i1 := himg.write (.metaTmp (metaFile s)) (fun h => h) [.smeta { name := s }]
    have i2 := i1.fsync (.metaTmp (metaFile s))
    have i3 := i2.rename_meta (m' := { name := s }) (X' := []) rfl
      (by rw [itemsAt_fsync, itemsAt_write, if_pos rfl]; rfl) rfl
    have hst : Steps (PreOk s [] C') w (saveShardMeta w { name := s }) :=
      (Steps.emit _ _ (himg.old _) (i1.old _)).trans
        ((Steps.emit _ _ (i1.old _) (i2.old _)).trans (Steps.emit _ _ (i2.old _) (i3.old _)))
    have hsh' : (setShard (saveShardMeta w { name := s }) s { md := { name := s } }).mem.shards =
        [(s, { md := { name := s } })] := by
      simp [setShard, saveShardMeta, emit, hsh, sSet]
    have i3' : Img s (setShard (saveShardMeta w { name := s }) s { md := { name := s } }).disk (some { name := s })
        [] [] := by
      simpa only [setShard, saveShardMeta, emit] using i3
    rw [hens]
    exact ⟨_, hsh', ⟨hf, .inr ⟨_, { name := s }, [], hsh', rfl, rfl, i3', rfl, nofun⟩⟩, hst⟩
  · have hens : ensureShard w s = w := by simp [ensureShard, hsh, sGet]
    rw [hens]
    exact ⟨sh, hsh, ⟨hf, .inr ⟨sh, md0, X, hsh, hname, hb0, himg, hC, hids⟩⟩, .refl (hC ▸ himg.old _)⟩

/-- the updates an insert / delete request logs -/
def opUpdates (w : World) : EOp → List Update
  | .ins _ ts => req ts w.mem.clock 1
  | .del _ ts => req ts w.mem.clock (-1)
  | _ => []

/-- a delete reaches the persist layer only for a relation the engine knows (metadata entry); otherwise it is
    acknowledged `Ok(0)` without any step -/
def delKnown (w : World) : EOp → Bool
  | .del r _ => decide (r ∈ w.mem.known)
  | _ => true

/-- operations of the fragment: insert / delete on shard `s` -/
def onShard (s : Name) : EOp → Bool
  | .ins r _ => decide (r = s)
  | .del r _ => decide (r = s)
  | _ => false

/-- the world `runOp` prepares before `ensure_shard`: steps reset, clock advanced -/
def prepared (w : World) : World :=
  { mem := { w.mem with clock := w.mem.clock + 1 }, disk := w.disk, trace := [], failed := false }

theorem run_request {s : Name} {w : World} {C : List Update} (b : Nat) (hrun : Run s w C) (new : List Update)
    (hnew : new ≠ []) :
    Run s (append b (ensureShard (prepared w) s) s new) (C ++ new) ∧
    AllPre w.disk ((append b (ensureShard (prepared w) s) s new).trace.map (·.2)) (PreOk s C (C ++ new)) := by
  have hprep : Run s (prepared w) C := hrun.congr rfl rfl rfl hrun.notFailed.symm
  obtain ⟨sh, hsh, hr1, hst1⟩ := run_ensure hprep (C ++ new)
  obtain ⟨hr2, hst2⟩ := run_append b hr1 hsh new hnew
  exact ⟨hr2, (hst1.trans hst2).allPre rfl⟩

theorem runOp_ins_eq (b : Nat) (w : World) (r : Name) (ts : List Nat) (hts : ts ≠ []) (W : World)
    (hW : W = append b (ensureShard (prepared w) r) r (req ts w.mem.clock 1)) (hf : W.failed = false) :
    runOp b w (.ins r ts) = { W with mem := { W.mem with known := addKnown W.mem.known r } } := by
  subst hW
  simp only [prepared, req] at hf
  simp [runOp, hts, prepared, req, hf]

theorem runOp_del_eq (b : Nat) (w : World) (r : Name) (ts : List Nat) (hts : ts ≠ []) (hk : r ∈ w.mem.known) :
    runOp b w (.del r ts) = append b (ensureShard (prepared w) r) r (req ts w.mem.clock (-1)) := by
  simp [runOp, hts, prepared, req, hk]

theorem op_ok {s : Name} (b : Nat) {w : World} {C : List Update} (o : EOp) (ho : onShard s o = true)
    (hk : delKnown w o = true) (hrun : Run s w C) :
    (runOp b w o).failed = false ∧ Run s (runOp b w o) (C ++ opUpdates w o) ∧
    AllPre w.disk ((runOp b w o).trace.map (·.2)) (PreOk s C (C ++ opUpdates w o)) := by
  have hempty : ∀ w', w' = { w with trace := [], failed := false } →
      w'.failed = false ∧ Run s w' (C ++ []) ∧ AllPre w.disk (w'.trace.map (·.2)) (PreOk s C (C ++ [])) := by
    rintro _ rfl
    obtain ⟨_, _, _, himg, hC⟩ := hrun.img
    rw [List.append_nil]
    exact ⟨rfl, hrun.congr rfl rfl rfl hrun.notFailed.symm, allPre_nil (hC ▸ himg.old _)⟩
  cases o with
  | ins r ts =>
    obtain rfl : r = s := by simpa [onShard] using ho
    by_cases hts : ts = []
    · subst hts; exact hempty _ (by simp [runOp])
    · obtain ⟨hr, hp⟩ := run_request b hrun (req ts w.mem.clock 1) (by simpa [req] using hts)
      rw [runOp_ins_eq b w r ts hts _ rfl hr.notFailed]
      exact ⟨hr.notFailed, hr.congr rfl rfl rfl rfl, hp⟩
  | del r ts =>
    obtain rfl : r = s := by simpa [onShard] using ho
    by_cases hts : ts = []
    · subst hts; exact hempty _ (by simp [runOp])
    · obtain ⟨hr, hp⟩ := run_request b hrun (req ts w.mem.clock (-1)) (by simpa [req] using hts)
      rw [runOp_del_eq b w r ts hts (by simpa [delKnown] using hk)]
      exact ⟨hr.notFailed, hr, hp⟩
  | _ => simp [onShard] at ho

end ILV.Persist
