/-
  Helper lemmas for C34: how the catalog operations change the set of stored clauses, and that
  every operation preserves "the stored rule set is stratifiable" (`replaceClause` because it checks).
-/
import ILV.Lemmas.Strat
namespace ILV.Strat

theorem mem_graphOf {rs : List Rule} {e : Edge} : e ∈ graphOf rs ↔ ∃ r, r ∈ rs ∧ e ∈ edgesOf r := by
  unfold graphOf; exact List.mem_flatMap

theorem graphOf_subset {rs rs' : List Rule} (h : ∀ r, r ∈ rs → r ∈ rs') :
    ∀ e, e ∈ graphOf rs → e ∈ graphOf rs' := by
  intro e he
  obtain ⟨r, hr, her⟩ := mem_graphOf.mp he
  exact mem_graphOf.mpr ⟨r, h r hr, her⟩

theorem stratRejects_mono {rs rs' : List Rule} (h : ∀ r, r ∈ rs → r ∈ rs')
    (hok : stratRejects rs' = false) : stratRejects rs = false :=
  rejects_mono (graphOf_subset h) hok

theorem mem_catRules {c : Catalog} {r : Rule} : r ∈ catRules c ↔ ∃ e, e ∈ c ∧ r ∈ e.2 := by
  unfold catRules; exact List.mem_flatMap

theorem mem_catRules_filter {c : Catalog} {p : Nat × List Rule → Bool} {r : Rule}
    (h : r ∈ catRules (c.filter p)) : r ∈ catRules c := by
  obtain ⟨e, he, hr⟩ := mem_catRules.mp h
  exact mem_catRules.mpr ⟨e, (List.mem_filter.mp he).1, hr⟩

theorem mem_catRules_catDel {c : Catalog} {n : Nat} {r : Rule} (h : r ∈ catRules (catDel c n)) :
    r ∈ catRules c := mem_catRules_filter h

theorem mem_catRules_catSet {c : Catalog} {n : Nat} {rs : List Rule} {r : Rule}
    (h : r ∈ catRules (catSet c n rs)) : r ∈ rs ∨ r ∈ catRules c := by
  unfold catSet at h
  split at h
  · obtain ⟨e, he, hr⟩ := mem_catRules.mp h
    obtain ⟨e0, he0, hmap⟩ := List.mem_map.mp he
    by_cases hn : (e0.1 == n) = true
    · simp only [hn, if_true] at hmap
      subst hmap
      exact Or.inl hr
    · simp only [hn] at hmap
      subst hmap
      exact Or.inr (mem_catRules.mpr ⟨e0, he0, hr⟩)
  · obtain ⟨e, he, hr⟩ := mem_catRules.mp h
    rcases List.mem_append.mp he with he | he
    · exact Or.inr (mem_catRules.mpr ⟨e, he, hr⟩)
    · have : e = (n, rs) := by simpa using he
      subst this
      exact Or.inl hr

theorem mem_of_catGet {c : Catalog} {n : Nat} {rs : List Rule} (h : catGet c n = some rs) :
    ∀ r, r ∈ rs → r ∈ catRules c := by
  intro r hr
  unfold catGet at h
  cases hf : c.find? (fun x => x.1 == n) with
  | none => simp [hf] at h
  | some e =>
    simp only [hf, Option.map_some, Option.some.injEq] at h
    subst h
    exact mem_catRules.mpr ⟨e, List.mem_of_find?_eq_some hf, hr⟩

/-- "the stored rule set is stratifiable" -/
def CatOK (c : Catalog) : Prop := stratRejects (catRules c) = false

theorem CatOK_of_subset {c c' : Catalog} (h : ∀ r, r ∈ catRules c' → r ∈ catRules c) (hc : CatOK c) : CatOK c' :=
  stratRejects_mono h hc

theorem register_sub {c : Catalog} {r : Rule} :
    ∀ x, x ∈ catRules (register c r).1 → x ∈ catRules c ++ [r] := by
  intro x hx
  have key : ∀ rs', (∀ y, y ∈ rs' → y ∈ catRules c ++ [r]) →
      x ∈ catRules (catSet c r.head.pred rs') → x ∈ catRules c ++ [r] := by
    intro rs' hrs' hx
    rcases mem_catRules_catSet hx with h | h
    · exact hrs' x h
    · exact List.mem_append_left _ h
  have single : ∀ y, y ∈ [r] → y ∈ catRules c ++ [r] := fun y hy => List.mem_append_right _ hy
  unfold register at hx
  split at hx
  · exact List.mem_append_left _ hx
  · split at hx
    · exact List.mem_append_left _ hx
    · dsimp only at hx
      split at hx
      · rename_i rs hget
        have hrs := mem_of_catGet hget
        split at hx
        · split at hx
          · exact List.mem_append_left _ hx
          · apply key _ _ hx
            intro y hy
            split at hy
            · exact List.mem_append_left _ (hrs y hy)
            · rcases List.mem_append.mp hy with hy | hy
              · exact List.mem_append_left _ (hrs y hy)
              · exact List.mem_append_right _ hy
        · exact key _ single hx
      · exact key _ single hx

theorem register_preserves {c : Catalog} {r : Rule} (hc : CatOK c) : CatOK (register c r).1 := by
  by_cases hacc : (register c r).1 = c
  · rw [hacc]; exact hc
  · -- the catalog changed, so the stratification check of `catRules c ++ [r]` passed
    have hchk : stratRejects (catRules c ++ [r]) = false := by
      cases hs : stratRejects (catRules c ++ [r]) with
      | false => rfl
      | true =>
        exfalso; apply hacc
        unfold register
        split
        · rfl
        · simp [hs]
    exact stratRejects_mono register_sub hchk

theorem removeClause_preserves {c : Catalog} {n i : Nat} (hc : CatOK c) : CatOK (removeClause c n i).1 := by
  unfold removeClause
  split
  · exact hc
  · split
    · exact hc
    · rename_i rs hget
      dsimp only
      split
      · exact hc
      · split
        · exact CatOK_of_subset (fun _ h => mem_catRules_catDel h) hc
        · apply CatOK_of_subset _ hc
          intro r h
          rcases mem_catRules_catSet h with h | h
          · exact mem_of_catGet hget r (List.mem_of_mem_eraseIdx h)
          · exact h

theorem replaceClause_preserves {c : Catalog} {n i : Nat} {r : Rule} (hc : CatOK c) :
    CatOK (replaceClause c n i r).1 := by
  unfold replaceClause
  split
  · exact hc
  · split
    · exact hc
    · split
      · exact hc
      · dsimp only
        split
        · exact hc
        · rename_i h
          unfold CatOK
          simpa using h

theorem step_preserves {s : St} {op : Op} (hc : CatOK s.cat) : CatOK (step s op).1.cat := by
  cases op with
  | persist r => exact register_preserves hc
  | registerApi r => exact register_preserves hc
  | replace n i r => exact replaceClause_preserves hc
  | drop n =>
    show CatOK (dropRule s.cat n).1
    unfold dropRule
    split
    · exact CatOK_of_subset (fun _ h => mem_catRules_catDel h) hc
    · exact hc
  | dropPrefix d =>
    show CatOK (dropPrefix s.cat d).1
    unfold dropPrefix
    split
    · exact CatOK_of_subset (fun _ h => mem_catRules_filter h) hc
    · exact hc
  | clear n =>
    show CatOK (clearRule s.cat n).1
    unfold clearRule
    split
    · exact CatOK_of_subset (fun r h => (mem_catRules_catSet h).elim nofun id) hc
    · exact hc
  | remove n i => exact removeClause_preserves hc
  | sessRule r =>
    simp only [step]
    split
    · exact hc
    · split <;> exact hc
  | sessClear => exact hc
  | querySess n => exact hc
  | queryPlain n => exact hc
  | queryLocal n rs =>
    simp only [step]
    split <;> exact hc
  | restart => exact hc

theorem runSt_cons (s : St) (op : Op) (ops : List Op) : runSt s (op :: ops) = runSt (step s op).1 ops := by
  simp [runSt, run]

theorem runSt_preserves {ops : List Op} : ∀ {s : St}, CatOK s.cat → CatOK (runSt s ops).cat := by
  induction ops with
  | nil => intro s hc; exact hc
  | cons op ops ih =>
    intro s hc
    rw [runSt_cons]
    exact ih (step_preserves hc)

theorem acceptLocals_ok : ∀ (rs acc out : List Rule), acceptLocals acc rs = .ok out → out = acc ++ rs
  | [], acc, out, h => by simp [acceptLocals] at h; simp [h]
  | r :: rs, acc, out, h => by
    unfold acceptLocals at h
    split at h
    · cases h
    · split at h
      · have := acceptLocals_ok rs (acc ++ [r]) out h
        simp [this]
      · cases h

end ILV.Strat
