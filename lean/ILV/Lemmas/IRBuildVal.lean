/-
  Rows of the join tree that `IRBuild` emits for the positive atoms of a rule are in an
  order-preserving one-to-one correspondence with the Spec's body valuations (`DL.evalPos`):
  `F2 (Inv …) (eval db J) (evalPos db.get atoms [[]])`.
-/
import ILV.Lemmas.IRSetPlan
import ILV.Model.IRBuild
import ILV.Lemmas.Spec
namespace ILV.IRBuild
open ILV ILV.IR

/-- element-wise relation of two lists of equal length, in order -/
inductive F2 {α β} (R : α → β → Prop) : List α → List β → Prop
  | nil : F2 R [] []
  | cons {a b l l'} : R a b → F2 R l l' → F2 R (a :: l) (b :: l')

def ORel {α β} (R : α → β → Prop) : Option α → Option β → Prop
  | none, none => True
  | some a, some b => R a b
  | _, _ => False

theorem forall2_filterMap {α β γ} {R : α → β → Prop} (T : List γ) (f : γ → Option α) (g : γ → Option β)
    (h : ∀ t ∈ T, ORel R (f t) (g t)) : F2 R (T.filterMap f) (T.filterMap g) := by
  induction T with
  | nil => exact F2.nil
  | cons t T ih =>
    have ih := ih (fun x hx => h x (List.mem_cons_of_mem _ hx))
    have ht := h t (by simp)
    simp only [List.filterMap_cons]
    cases hf : f t <;> cases hg : g t <;> simp only [hf, hg, ORel] at ht
    · exact ih
    · exact F2.cons ht ih

theorem forall2_append {α β} {R : α → β → Prop} {a c : List α} {b d : List β}
    (h1 : F2 R a b) (h2 : F2 R c d) : F2 R (a ++ c) (b ++ d) := by
  induction h1 with
  | nil => exact h2
  | cons h _ ih => exact F2.cons h ih

theorem forall2_flatMap {α β α' β'} {R : α → β → Prop} {R' : α' → β' → Prop} {L : List α} {E : List β}
    (F : α → List α') (G : β → List β') (h : F2 R L E)
    (hs : ∀ l e, R l e → F2 R' (F l) (G e)) : F2 R' (L.flatMap F) (E.flatMap G) := by
  induction h with
  | nil => exact F2.nil
  | cons hle _ ih =>
    simp only [List.flatMap_cons]
    exact forall2_append (hs _ _ hle) ih

theorem forall2_filter {α β} {R : α → β → Prop} {L : List α} {E : List β} (p : α → Bool) (q : β → Bool)
    (h : F2 R L E) (hpq : ∀ l e, R l e → p l = q e) : F2 R (L.filter p) (E.filter q) := by
  induction h with
  | nil => exact F2.nil
  | cons hle _ ih =>
    simp only [List.filter_cons, hpq _ _ hle]
    split
    · exact F2.cons hle ih
    · exact ih

theorem forall2_length {α β} {R : α → β → Prop} {L : List α} {E : List β} (h : F2 R L E) : L.length = E.length := by
  induction h with
  | nil => rfl
  | cons _ _ ih => simp [ih]

theorem forall2_map_eq {α β γ} {R : α → β → Prop} {L : List α} {E : List β} (f : α → γ) (g : β → γ)
    (h : F2 R L E) (hfg : ∀ l e, R l e → f l = g e) : L.map f = E.map g := by
  induction h with
  | nil => rfl
  | cons hle _ ih => simp [hfg _ _ hle, ih]

theorem F2.exists_right {α β} {R : α → β → Prop} {L : List α} {E : List β} (h : F2 R L E) : ∀ l ∈ L, ∃ e ∈ E, R l e := by
  induction h with
  | nil => intro l hl; simp at hl
  | cons h1 _ ih =>
    intro l hl
    rcases List.mem_cons.1 hl with rfl | hl
    · exact ⟨_, by simp, h1⟩
    · obtain ⟨e, he, hr⟩ := ih l hl
      exact ⟨e, List.mem_cons_of_mem _ he, hr⟩

theorem F2.exists_left {α β} {R : α → β → Prop} {L : List α} {E : List β} (h : F2 R L E) : ∀ e ∈ E, ∃ l ∈ L, R l e := by
  induction h with
  | nil => intro e he; simp at he
  | cons h1 _ ih =>
    intro e he
    rcases List.mem_cons.1 he with rfl | he
    · exact ⟨_, by simp, h1⟩
    · obtain ⟨l, hl, hr⟩ := ih e he
      exact ⟨l, List.mem_cons_of_mem _ hl, hr⟩

/-- what a successful match `matchArgs args vs env = some env'` says about the variables, position by position -/
structure MatchSpec (args : List DL.Term) (vs : List Value) (env env' : DL.Env) : Prop where
  var : ∀ (q : Nat) x, args[q]? = some (DL.Term.var x) → env'.lookup x = vs[q]?
  mono : ∀ x w, env.lookup x = some w → env'.lookup x = some w
  bound : ∀ x, (env'.lookup x).isSome = true → (env.lookup x).isSome = true ∨ DL.Term.var x ∈ args

theorem MatchSpec.cons {a : DL.Term} {as : List DL.Term} {v : Value} {vs : List Value} {env env₀ env' : DL.Env}
    (ih : MatchSpec as vs env₀ env') (hvar : ∀ x, a = .var x → env'.lookup x = some v)
    (hmono : ∀ x w, env.lookup x = some w → env₀.lookup x = some w)
    (hbound : ∀ x, (env₀.lookup x).isSome = true → (env.lookup x).isSome = true ∨ a = .var x) :
    MatchSpec (a :: as) (v :: vs) env env' where
  var := fun q x hq => match q with
    | 0 => hvar x (Option.some.inj hq)
    | q + 1 => ih.var q x hq
  mono := fun x w h => ih.mono x w (hmono x w h)
  bound := fun x h => (ih.bound x h).elim
    (fun h1 => (hbound x h1).imp id (fun (e : a = .var x) => e ▸ List.mem_cons_self))
    (fun h1 => Or.inr (List.mem_cons_of_mem _ h1))

theorem matchArgs_sound (args : List DL.Term) (vs : List Value) (env env' : DL.Env)
    (h : DL.matchArgs args vs env = some env') : MatchSpec args vs env env' := by
  fun_induction DL.matchArgs args vs env with
  | case1 env => cases h; exact ⟨fun _ _ hq => (nomatch hq), fun _ _ h => h, fun _ h => Or.inl h⟩
  | case2 x as v vs env w hl hwv ih =>
    have ih := ih h
    exact ih.cons (fun y e => by cases e; exact ih.mono x v (by rw [hl, eq_of_beq hwv])) (fun _ _ h => h)
      (fun _ h => Or.inl h)
  | case4 x as v vs env hl ih =>
    have ih := ih h
    refine ih.cons (fun y e => by cases e; exact ih.mono x v List.lookup_cons_self) ?_ ?_
    · intro y w hy
      rw [DL.lookup_cons_ne y x v env (fun e => by rw [e, hl] at hy; cases hy)]
      exact hy
    · intro y hy
      by_cases e : y = x
      · exact Or.inr (e ▸ rfl)
      · rw [DL.lookup_cons_ne y x v env e] at hy; exact Or.inl hy
  | case5 c as v vs env hcv ih => exact (ih h).cons (fun _ e => nomatch e) (fun _ _ h => h) (fun _ h => Or.inl h)
  | case7 as _ vs env ih => exact (ih h).cons (fun _ e => nomatch e) (fun _ _ h => h) (fun _ h => Or.inl h)
  | case3 | case6 | case8 => cases h

/-- `excludingAux` for any element type (used for the schema names) -/
def exclG {α} (ex : List Nat) : Nat → List α → List α
  | _, [] => []
  | i, v :: vs => if ex.contains i then exclG ex (i + 1) vs else v :: exclG ex (i + 1) vs

theorem keptNames_eq (rk : List Nat) : ∀ (i : Nat) (rs : List String),
    ((rs.zipIdx i).filter (fun (p : String × Nat) => !rk.contains p.2)).map (·.1) = exclG rk i rs
  | _, [] => rfl
  | i, r :: rs => by
    have ih := keptNames_eq rk (i + 1) rs
    simp only [List.zipIdx_cons, List.filter_cons, exclG]
    cases h : rk.contains i
    · simp only [h, Bool.not_false, ↓reduceIte, List.map_cons, Bool.false_eq_true, ih]
    · simp only [h, Bool.not_true, Bool.false_eq_true, ↓reduceIte, ih]

theorem excludingAux_eq_exclG (ex : List Nat) : ∀ (i : Nat) (vs : Tuple), excludingAux ex i vs = exclG ex i vs
  | _, [] => rfl
  | i, v :: vs => by simp only [excludingAux, exclG, excludingAux_eq_exclG ex (i + 1) vs]

theorem exclG_length {α β} (ex : List Nat) : ∀ (i : Nat) (a : List α) (b : List β), a.length = b.length →
    (exclG ex i a).length = (exclG ex i b).length
  | _, [], [], _ => rfl
  | _, [], _ :: _, h => nomatch h
  | _, _ :: _, [], h => nomatch h
  | i, x :: a, y :: b, h => by
    have ih := exclG_length ex (i + 1) a b (Nat.succ.inj h)
    unfold exclG
    split
    · exact ih
    · exact congrArg (· + 1) ih

theorem exclG_aligned {α β} (ex : List Nat) : ∀ (i : Nat) (a : List α) (b : List β), a.length = b.length →
    ∀ (p : Nat) (x : α), (exclG ex i a)[p]? = some x → ∃ q : Nat, a[q]? = some x ∧ (exclG ex i b)[p]? = b[q]?
  | _, [], _, _, _, _, hp => nomatch hp
  | _, _ :: _, [], h, _, _, _ => nomatch h
  | i, u :: a, v :: b, h, p, x, hp => by
    have ih := exclG_aligned ex (i + 1) a b (Nat.succ.inj h)
    unfold exclG at hp ⊢
    split at hp
    · next hc =>
      rw [if_pos hc]
      obtain ⟨q, h1, h2⟩ := ih p x hp
      exact ⟨q + 1, h1, h2⟩
    · next hc =>
      rw [if_neg hc]
      match p with
      | 0 => exact ⟨0, hp, rfl⟩
      | p + 1 =>
        obtain ⟨q, h1, h2⟩ := ih p x hp
        exact ⟨q + 1, h1, h2⟩

theorem mem_exclG {α} (ex : List Nat) : ∀ (i : Nat) (a : List α) (q : Nat) (x : α),
    a[q]? = some x → ex.contains (i + q) = false → x ∈ exclG ex i a
  | _, [], _, _, h, _ => nomatch h
  | i, u :: a, q, x, h, hc => by
    unfold exclG
    match q with
    | 0 =>
      cases Option.some.inj h
      have hc : ex.contains i = false := hc
      rw [if_neg (Bool.eq_false_iff.1 hc)]
      exact List.mem_cons_self
    | q + 1 =>
      have := mem_exclG ex (i + 1) a q x h (Nat.add_right_comm i 1 q ▸ hc)
      split
      · exact this
      · exact List.mem_cons_of_mem _ this

theorem mem_of_mem_exclG {α} (ex : List Nat) : ∀ (i : Nat) (a : List α) (x : α), x ∈ exclG ex i a → x ∈ a
  | _, [], _, h => nomatch h
  | i, u :: a, x, h => by
    unfold exclG at h
    split at h
    · exact List.mem_cons_of_mem _ (mem_of_mem_exclG ex (i + 1) a x h)
    · exact (List.mem_cons.1 h).elim (fun e => e ▸ List.mem_cons_self)
        (fun h => List.mem_cons_of_mem _ (mem_of_mem_exclG ex (i + 1) a x h))

theorem exclG_nil_keys {α} : ∀ (i : Nat) (a : List α), exclG [] i a = a
  | _, [] => rfl
  | i, u :: a => by simp [exclG, exclG_nil_keys (i + 1) a]

theorem firstIdx_some {x : String} : ∀ (l : List String) (i j : Nat), firstIdx x l i = some j →
    ∃ k, j = i + k ∧ l[k]? = some x
  | [], _, _, h => nomatch h
  | y :: ys, i, j, h => by
    unfold firstIdx at h
    split at h
    · next hxy =>
      cases h
      exact ⟨0, rfl, congrArg some (eq_of_beq hxy).symm⟩
    · obtain ⟨k, h1, h2⟩ := firstIdx_some ys (i + 1) j h
      exact ⟨k + 1, h1.trans (Nat.add_right_comm i 1 k), h2⟩

theorem firstIdx_zero_some {x : String} {l : List String} {j : Nat} (h : firstIdx x l 0 = some j) : l[j]? = some x := by
  obtain ⟨k, h1, h2⟩ := firstIdx_some l 0 j h
  rw [h1, Nat.zero_add]; exact h2

theorem firstIdx_of_mem {x : String} : ∀ (l : List String) (i : Nat), x ∈ l → ∃ j, firstIdx x l i = some j
  | [], _, h => nomatch h
  | y :: ys, i, h => by
    unfold firstIdx
    split
    · exact ⟨i, rfl⟩
    · next hxy =>
      exact firstIdx_of_mem ys (i + 1) ((List.mem_cons.1 h).resolve_left (ne_of_beq_false (Bool.eq_false_iff.2 hxy)))

theorem mem_joinKeys_go {rs : List String} : ∀ (ls : List String) (i : Nat) (seen : List String) (p : Nat × Nat),
    p ∈ joinKeys.go rs i seen ls → ∃ n k, p.1 = i + k ∧ ls[k]? = some n ∧ rs[p.2]? = some n
  | [], _, _, _, h => nomatch h
  | n :: ns, i, seen, p, h => by
    unfold joinKeys.go at h
    rcases List.mem_append.1 h with h | h
    · split at h
      · cases h
      · split at h
        · next j hj =>
          cases List.mem_singleton.1 h
          exact ⟨n, 0, rfl, rfl, firstIdx_zero_some hj⟩
        · cases h
    · obtain ⟨m, k, h1, h2, h3⟩ := mem_joinKeys_go ns (i + 1) (n :: seen) p h
      exact ⟨m, k + 1, h1.trans (Nat.add_right_comm i 1 k), h2, h3⟩

theorem mem_joinKeys {ls rs : List String} {p : Nat × Nat} (h : p ∈ joinKeys ls rs) :
    ∃ n, ls[p.1]? = some n ∧ rs[p.2]? = some n := by
  obtain ⟨n, k, h1, h2, h3⟩ := mem_joinKeys_go ls 0 [] p h
  rw [Nat.zero_add] at h1
  exact ⟨n, h1 ▸ h2, h3⟩

theorem joinKeys_go_complete {rs : List String} {n : String} {j : Nat} (hj : firstIdx n rs 0 = some j) :
    ∀ (ls : List String) (i : Nat) (seen : List String), n ∈ ls → n ∉ seen →
      ∃ k, (i + k, j) ∈ joinKeys.go rs i seen ls ∧ ls[k]? = some n
  | [], _, _, h, _ => nomatch h
  | m :: ms, i, seen, h, hs => by
    unfold joinKeys.go
    by_cases e : m = n
    · subst e
      refine ⟨0, List.mem_append_left _ ?_, rfl⟩
      rw [if_neg (by simpa using hs), hj]
      exact List.mem_singleton.2 rfl
    · obtain ⟨k, h1, h2⟩ := joinKeys_go_complete hj ms (i + 1) (m :: seen) ((List.mem_cons.1 h).resolve_left (Ne.symm e))
        (fun hm => (List.mem_cons.1 hm).elim (fun h => e h.symm) hs)
      exact ⟨k + 1, List.mem_append_right _ (Nat.add_right_comm i 1 k ▸ h1), h2⟩

theorem joinKeys_complete {ls rs : List String} {n : String} {j : Nat} (hn : n ∈ ls) (hj : firstIdx n rs 0 = some j) :
    ∃ i, (i, j) ∈ joinKeys ls rs ∧ ls[i]? = some n := by
  obtain ⟨k, h1, h2⟩ := joinKeys_go_complete hj ls 0 [] hn List.not_mem_nil
  exact ⟨k, Nat.zero_add k ▸ h1, h2⟩

theorem project_pairs_eq {row t : Tuple} : ∀ (ks : List (Nat × Nat)),
    (∀ p ∈ ks, p.1 < row.length ∧ p.2 < t.length) →
    (project row (ks.map (·.1)) = project t (ks.map (·.2)) ↔ ∀ p ∈ ks, row[p.1]? = t[p.2]?)
  | [], _ => by simp [project]
  | (i, j) :: ks, h => by
    have hi := (h (i, j) (by simp)).1
    have hj := (h (i, j) (by simp)).2
    have ih := project_pairs_eq ks (fun p hp => h p (by simp [hp]))
    simp only [List.map_cons]
    rw [project_cons_lt row i _ hi, project_cons_lt t j _ hj]
    constructor
    · intro he
      have hh := List.cons.inj he
      intro p hp
      rcases List.mem_cons.1 hp with rfl | hp
      · simp [List.getElem?_eq_getElem hi, List.getElem?_eq_getElem hj, hh.1]
      · exact ih.1 hh.2 p hp
    · intro hall
      have h0 := hall (i, j) (by simp)
      simp only [List.getElem?_eq_getElem hi, List.getElem?_eq_getElem hj, Option.some.injEq] at h0
      rw [h0, ih.2 (fun p hp => hall p (by simp [hp]))]

theorem excluding_nil (t : Tuple) : excluding t [] = t := by
  unfold excluding; rw [excludingAux_eq_exclG]; exact exclG_nil_keys 0 t

theorem joinRow_of_match {ks : List (Nat × Nat)} {row t : Tuple}
    (hr : ∀ p ∈ ks, p.1 < row.length ∧ p.2 < t.length) (hm : ∀ p ∈ ks, row[p.1]? = t[p.2]?) :
    joinRow (ks.map (·.1)) (ks.map (·.2)) row t = some (row ++ excluding t (ks.map (·.2))) := by
  unfold joinRow
  split
  · rename_i hc
    simp only [Bool.and_eq_true, List.isEmpty_iff, List.map_eq_nil_iff] at hc
    rw [hc.1]; simp [excluding_nil]
  · have := (project_pairs_eq ks hr).2 hm
    simp [this]

theorem joinRow_some_match {ks : List (Nat × Nat)} {row t x : Tuple}
    (hr : ∀ p ∈ ks, p.1 < row.length ∧ p.2 < t.length)
    (h : joinRow (ks.map (·.1)) (ks.map (·.2)) row t = some x) : ∀ p ∈ ks, row[p.1]? = t[p.2]? := by
  unfold joinRow at h
  split at h
  · rename_i hc
    simp only [Bool.and_eq_true, List.isEmpty_iff, List.map_eq_nil_iff] at hc
    rw [hc.1]; simp
  · split at h
    · rename_i hk
      exact (project_pairs_eq ks hr).1 (by simpa using hk)
    · simp at h

/-- no constant and no variable twice (`seen` = the variables to the left) -/
def plainArgs : List DL.Term → List String → Bool
  | [], _ => true
  | DL.Term.var x :: as, seen => !seen.contains x && plainArgs as (x :: seen)
  | DL.Term.wild :: as, seen => plainArgs as seen
  | DL.Term.const _ :: _, _ => false

theorem plain_var_notin_seen : ∀ (args : List DL.Term) (seen : List String), plainArgs args seen = true →
    ∀ (q : Nat) x, args[q]? = some (DL.Term.var x) → x ∉ seen
  | [], _, _, _, _, h => nomatch h
  | DL.Term.var y :: as, seen, hp, q, x, h => by
    unfold plainArgs at hp
    simp only [Bool.and_eq_true, Bool.not_eq_true', List.contains_eq_mem, decide_eq_false_iff_not] at hp
    match q with
    | 0 => cases Option.some.inj h; exact hp.1
    | q + 1 => exact fun hx => plain_var_notin_seen as (y :: seen) hp.2 q x h (List.mem_cons_of_mem _ hx)
  | DL.Term.wild :: as, seen, hp, q, x, h =>
    match q with
    | 0 => nomatch h
    | q + 1 => plain_var_notin_seen as seen hp q x h
  | DL.Term.const _ :: _, _, hp, _, _, _ => nomatch hp

theorem plain_var_unique : ∀ (args : List DL.Term) (seen : List String), plainArgs args seen = true →
    ∀ (q q' : Nat) x, args[q]? = some (DL.Term.var x) → args[q']? = some (DL.Term.var x) → q = q'
  | [], _, _, _, _, _, h, _ => nomatch h
  | DL.Term.var y :: as, seen, hp, q, q', x, h, h' => by
    unfold plainArgs at hp
    rw [Bool.and_eq_true] at hp
    match q, q' with
    | 0, 0 => rfl
    | 0, q' + 1 =>
      cases Option.some.inj h
      exact absurd List.mem_cons_self (plain_var_notin_seen as (y :: seen) hp.2 q' y h')
    | q + 1, 0 =>
      cases Option.some.inj h'
      exact absurd List.mem_cons_self (plain_var_notin_seen as (y :: seen) hp.2 q y h)
    | q + 1, q' + 1 => exact congrArg (· + 1) (plain_var_unique as (y :: seen) hp.2 q q' x h h')
  | DL.Term.wild :: as, seen, hp, q, q', x, h, h' =>
    match q, q' with
    | 0, _ => nomatch h
    | _ + 1, 0 => nomatch h'
    | q + 1, q' + 1 => congrArg (· + 1) (plain_var_unique as seen hp q q' x h h')
  | DL.Term.const _ :: _, _, hp, _, _, _, _, _ => nomatch hp

/-- a plain atom matches a tuple of its arity as soon as the variables already bound agree with it -/
theorem matchArgs_plain : ∀ (args : List DL.Term) (seen : List String) (vs : List Value) (env : DL.Env),
    plainArgs args seen = true → args.length = vs.length →
    (∀ (q : Nat) x w, args[q]? = some (DL.Term.var x) → env.lookup x = some w → vs[q]? = some w) →
    ∃ env', DL.matchArgs args vs env = some env'
  | [], _, [], env, _, _, _ => ⟨env, rfl⟩
  | [], _, _ :: _, _, _, h, _ => nomatch h
  | _ :: _, _, [], _, _, h, _ => nomatch h
  | DL.Term.const _ :: _, _, _ :: _, _, hp, _, _ => nomatch hp
  | DL.Term.wild :: as, seen, _ :: vs, env, hp, hl, hv =>
    matchArgs_plain as seen vs env hp (Nat.succ.inj hl) (fun q => hv (q + 1))
  | DL.Term.var x :: as, seen, v :: vs, env, hp, hl, hv => by
    unfold plainArgs at hp
    rw [Bool.and_eq_true] at hp
    unfold DL.matchArgs
    split
    · next w hlk =>
      cases Option.some.inj (hv 0 x w rfl hlk)
      rw [beq_self_eq_true, if_pos rfl]
      exact matchArgs_plain as (x :: seen) vs env hp.2 (Nat.succ.inj hl) (fun q => hv (q + 1))
    · refine matchArgs_plain as (x :: seen) vs ((x, v) :: env) hp.2 (Nat.succ.inj hl) fun q y w hq he => ?_
      -- `x` does not occur again, so the new binding is not consulted
      have hne : y ≠ x := fun e => plain_var_notin_seen as (x :: seen) hp.2 q y hq (e ▸ List.mem_cons_self)
      rw [DL.lookup_cons_ne y x v env hne] at he
      exact hv (q + 1) y w hq he

/-- `row` (with column names `sch`) and the valuation `env` agree: every column named by a rule
    variable holds that variable's value, and exactly the variables in the schema are bound. -/
structure Inv (V : List String) (sch : List String) (row : Tuple) (env : DL.Env) : Prop where
  len : row.length = sch.length
  val : ∀ (i : Nat) x, sch[i]? = some x → x ∈ V → env.lookup x = row[i]?
  bound : ∀ x, (env.lookup x).isSome = true → x ∈ sch

theorem Inv.nil (V : List String) : Inv V [] [] [] :=
  ⟨rfl, fun i x h => by simp at h, fun x h => by simp [List.lookup] at h⟩

theorem Inv.col {V sch : List String} {row : Tuple} {env : DL.Env} (hinv : Inv V sch row env) {i : Nat} {x : String}
    (hx : sch[i]? = some x) (hxV : x ∈ V) : ∃ v, row[i]? = some v ∧ env.lookup x = some v := by
  have hi : i < row.length := by rw [hinv.len]; exact (List.getElem?_eq_some_iff.1 hx).1
  exact ⟨row[i], List.getElem?_eq_getElem hi, (hinv.val i x hx hxV).trans (List.getElem?_eq_getElem hi)⟩

theorem step_rel {V sch names : List String} {args : List DL.Term} {row t : Tuple} {env : DL.Env}
    (hinv : Inv V sch row env)
    (hN1 : names.length = args.length)
    (hN2 : ∀ (q : Nat) x, args[q]? = some (DL.Term.var x) → names[q]? = some x)
    (hN3 : ∀ (q : Nat) n, names[q]? = some n → args[q]? = some (DL.Term.var n) ∨ (n ∉ sch ∧ n ∉ V))
    (hplain : plainArgs args [] = true) (hV : ∀ x, DL.Term.var x ∈ args → x ∈ V)
    (hlen : t.length = args.length) :
    ORel (Inv V (sch ++ exclG ((joinKeys sch names).map (·.2)) 0 names))
      (joinRow ((joinKeys sch names).map (·.1)) ((joinKeys sch names).map (·.2)) row t)
      (DL.matchArgs args t env) := by
  have hks : ∀ p ∈ joinKeys sch names, ∃ n, sch[p.1]? = some n ∧ names[p.2]? = some n ∧ args[p.2]? = some (DL.Term.var n) := by
    intro p hp
    obtain ⟨n, h1, h2⟩ := mem_joinKeys hp
    exact ⟨n, h1, h2, (hN3 p.2 n h2).resolve_right fun h3 => h3.1 (List.mem_of_getElem? h1)⟩
  have hrange : ∀ p ∈ joinKeys sch names, p.1 < row.length ∧ p.2 < t.length := by
    intro p hp
    obtain ⟨n, h1, h2, _⟩ := hks p hp
    exact ⟨by rw [hinv.len]; exact (List.getElem?_eq_some_iff.1 h1).1,
      by rw [hlen, ← hN1]; exact (List.getElem?_eq_some_iff.1 h2).1⟩
  cases hm : DL.matchArgs args t env with
  | some env' =>
    have ms := matchArgs_sound args t env env' hm
    have hmatch : ∀ p ∈ joinKeys sch names, row[p.1]? = t[p.2]? := by
      intro p hp
      obtain ⟨n, h1, _, h3⟩ := hks p hp
      obtain ⟨w, hr, he⟩ := hinv.col h1 (hV n (List.mem_of_getElem? h3))
      rw [hr, ← ms.var p.2 n h3, ms.mono n w he]
    rw [joinRow_of_match hrange hmatch]
    have hex : excluding t ((joinKeys sch names).map (·.2)) = exclG ((joinKeys sch names).map (·.2)) 0 t :=
      excludingAux_eq_exclG _ 0 t
    have hnl : names.length = t.length := by rw [hN1, hlen]
    refine ⟨?_, ?_, ?_⟩
    · rw [hex, List.length_append, List.length_append, hinv.len, exclG_length _ 0 names t hnl]
    · intro i x hx hxV
      by_cases hi : i < sch.length
      · rw [List.getElem?_append_left hi] at hx
        rw [List.getElem?_append_left (by rw [hinv.len]; exact hi)]
        obtain ⟨w, hr, he⟩ := hinv.col hx hxV
        rw [hr]; exact ms.mono x w he
      · have hge : sch.length ≤ i := Nat.le_of_not_lt hi
        rw [List.getElem?_append_right hge] at hx
        rw [List.getElem?_append_right (by rw [hinv.len]; exact hge), hinv.len, hex]
        obtain ⟨q, h1, h2⟩ := exclG_aligned _ 0 names t hnl (i - sch.length) x hx
        rw [h2]
        exact ms.var q x ((hN3 q x h1).resolve_right fun h3 => h3.2 hxV)
    · intro x hx
      rcases ms.bound x hx with h1 | h1
      · exact List.mem_append_left _ (hinv.bound x h1)
      · obtain ⟨q, hq⟩ := List.getElem?_of_mem h1
        have hnq := hN2 q x hq
        by_cases hk : ((joinKeys sch names).map (·.2)).contains (0 + q) = true
        · rw [Nat.zero_add] at hk
          obtain ⟨p, hp, hpq⟩ := List.mem_map.1 (List.contains_iff_mem.1 hk)
          obtain ⟨n, g1, g2, _⟩ := hks p hp
          rw [hpq, hnq] at g2
          cases g2
          exact List.mem_append_left _ (List.mem_of_getElem? g1)
        · exact List.mem_append_right _ (mem_exclG _ 0 names q x hnq (Bool.eq_false_iff.2 hk))
  | none =>
    cases hj : joinRow ((joinKeys sch names).map (·.1)) ((joinKeys sch names).map (·.2)) row t with
    | none => trivial
    | some x =>
      -- the keys agree, so the match cannot fail
      exfalso
      have hmatch := joinRow_some_match hrange hj
      obtain ⟨env', he⟩ := matchArgs_plain args [] t env hplain hlen.symm
        (fun q y w hq hw => by
          have hyV : y ∈ V := hV y (List.mem_of_getElem? hq)
          have hnq := hN2 q y hq
          -- `q` is the first (only) position of `y` among the names, so it is a key position
          obtain ⟨j, hj'⟩ := firstIdx_of_mem names 0 (List.mem_of_getElem? hnq)
          obtain rfl : j = q := plain_var_unique args [] hplain j q y
            ((hN3 j y (firstIdx_zero_some hj')).resolve_right fun h3 => h3.2 hyV) hq
          obtain ⟨i, hi, hsi⟩ := joinKeys_complete (hinv.bound y (by rw [hw]; rfl)) hj'
          rw [← hmatch (i, j) hi, ← hinv.val i y hsi hyV, hw])
      rw [hm] at he; cases he

theorem scanNames_length (rel : String) (bi : Nat) : ∀ (i : Nat) (args : List DL.Term),
    (scanNames rel bi i args).length = args.length
  | _, [] => rfl
  | i, _ :: as => by simp [scanNames, scanNames_length rel bi (i + 1) as]

theorem scanNames_var (rel : String) (bi : Nat) : ∀ (i : Nat) (args : List DL.Term) (q : Nat) x,
    args[q]? = some (DL.Term.var x) → (scanNames rel bi i args)[q]? = some x
  | _, [], _, _, h => nomatch h
  | i, a :: as, q, x, h =>
    match q with
    | 0 => by cases Option.some.inj h; rfl
    | q + 1 => scanNames_var rel bi (i + 1) as q x h

theorem constFilters_plain : ∀ (args : List DL.Term) (seen : List String) (i : Nat), plainArgs args seen = true →
    constFilters i args = some []
  | [], _, _, _ => rfl
  | DL.Term.var y :: as, seen, i, hp => by
    simp only [plainArgs, Bool.and_eq_true] at hp
    simp [constFilters, constFilters_plain as (y :: seen) (i + 1) hp.2]
  | DL.Term.wild :: as, seen, i, hp => by
    simp only [plainArgs] at hp
    simp [constFilters, constFilters_plain as seen (i + 1) hp]
  | DL.Term.const _ :: _, _, _, hp => by simp [plainArgs] at hp

theorem repFilters_go_plain : ∀ (args : List DL.Term) (names : List String) (seen : List (Nat × String)) (i : Nat),
    plainArgs args names = true → (∀ p ∈ seen, p.2 ∈ names) → repFilters.go seen i args = []
  | [], _, _, _, _, _ => rfl
  | DL.Term.var y :: as, names, seen, i, hp, hs => by
    simp only [plainArgs, Bool.and_eq_true, Bool.not_eq_true', List.contains_eq_mem, decide_eq_false_iff_not] at hp
    have hf : seen.find? (fun p => p.2 == y) = none := by
      rw [List.find?_eq_none]
      intro p hp' hpy
      have : p.2 = y := by simpa using hpy
      exact hp.1 (this ▸ hs p hp')
    simp only [repFilters.go, hf, List.nil_append]
    exact repFilters_go_plain as (y :: names) (seen ++ [(i, y)]) (i + 1) hp.2 (by
      intro p hp'
      rcases List.mem_append.1 hp' with h | h
      · exact List.mem_cons_of_mem _ (hs p h)
      · simp only [List.mem_singleton] at h; subst h; simp)
  | DL.Term.wild :: as, names, seen, i, hp, hs => by
    simp only [plainArgs] at hp
    simp only [repFilters.go]
    exact repFilters_go_plain as names seen (i + 1) hp hs
  | DL.Term.const _ :: _, _, _, _, hp, _ => by simp [plainArgs] at hp

theorem buildScan_plain (bi : Nat) (a : DL.Atom) (h : plainArgs a.args [] = true) :
    buildScan bi a = some (.scan a.rel (scanNames a.rel bi 0 a.args)) := by
  unfold buildScan
  rw [constFilters_plain a.args [] 0 h]
  have : repFilters a.args = [] := repFilters_go_plain a.args [] [] 0 h (by simp)
  simp [this, wrapFilters]

/-- generated (non-variable) column names of the atom are new: not in the schema so far, not a rule variable -/
def atomFresh (V sch : List String) (bi : Nat) (a : DL.Atom) : Bool :=
  ((scanNames a.rel bi 0 a.args).zipIdx).all (fun p =>
    a.args[p.2]? == some (DL.Term.var p.1) || (!sch.contains p.1 && !V.contains p.1))

/-- side conditions on the remaining atoms, relative to the schema built so far -/
def atomsOk (db : Db) (V : List String) : List String → List (Nat × DL.Atom) → Bool
  | _, [] => true
  | sch, (bi, a) :: rest =>
    let names := scanNames a.rel bi 0 a.args
    plainArgs a.args [] && a.args.all (fun t => match t with | DL.Term.var x => V.contains x | _ => true)
      && (db.get a.rel).all (fun t => t.length == a.args.length)
      && atomFresh V sch bi a
      && atomsOk db V (sch ++ exclG ((joinKeys sch names).map (·.2)) 0 names) rest

theorem atomFresh_spec {V sch : List String} {bi : Nat} {a : DL.Atom} (h : atomFresh V sch bi a = true)
    (q : Nat) (n : String) (hq : (scanNames a.rel bi 0 a.args)[q]? = some n) :
    a.args[q]? = some (DL.Term.var n) ∨ (n ∉ sch ∧ n ∉ V) := by
  unfold atomFresh at h
  rw [List.all_eq_true] at h
  have hmem : (n, q) ∈ (scanNames a.rel bi 0 a.args).zipIdx := by
    rw [List.mem_zipIdx_iff_getElem?]; simpa using hq
  have := h (n, q) hmem
  simp only [Bool.or_eq_true, beq_iff_eq, Bool.and_eq_true, Bool.not_eq_true', List.contains_eq_mem,
    decide_eq_false_iff_not] at this
  exact this

theorem schema_buildJoin (l r : Node) :
    schema (buildJoin l r) = schema l ++ exclG ((joinKeys (schema l) (schema r)).map (·.2)) 0 (schema r) := by
  simp only [buildJoin, schema]
  rw [← keptNames_eq]

theorem joins_rows_envs (db : Db) (V : List String) : ∀ (rest : List (Nat × DL.Atom)) (cur : Node) (envs : List DL.Env),
    atomsOk db V (schema cur) rest = true →
    F2 (Inv V (schema cur)) (eval db cur) envs →
    ∀ t, buildJoins cur rest = some t →
      F2 (Inv V (schema t)) (eval db t) (DL.evalPos db.get (rest.map (·.2)) envs)
  | [], cur, envs, _, h, t, ht => by
    simp only [buildJoins, Option.some.injEq] at ht; subst ht
    simpa [DL.evalPos] using h
  | (bi, a) :: rest, cur, envs, hok, h, t, ht => by
    simp only [atomsOk, Bool.and_eq_true] at hok
    obtain ⟨⟨⟨⟨hplain, hvars⟩, hdb⟩, hfresh⟩, hrest⟩ := hok
    simp only [buildJoins, buildScan_plain bi a hplain] at ht
    simp only [List.map_cons, DL.evalPos]
    apply joins_rows_envs db V rest _ _ (by rw [schema_buildJoin]; simpa [schema] using hrest) ?_ t ht
    rw [schema_buildJoin]
    simp only [buildJoin, eval, joinRows, schema]
    apply forall2_flatMap _ _ h
    intro row env hre
    apply forall2_filterMap
    intro tup htup
    refine step_rel hre (scanNames_length a.rel bi 0 a.args) (scanNames_var a.rel bi 0 a.args)
      (fun q n hq => atomFresh_spec hfresh q n hq) hplain ?_ ?_
    · intro x hx
      rw [List.all_eq_true] at hvars
      simpa using hvars _ hx
    · rw [List.all_eq_true] at hdb
      simpa using hdb tup htup

theorem scan_rows_envs (db : Db) (V : List String) {bi : Nat} {a : DL.Atom} {rest : List (Nat × DL.Atom)}
    (hok : atomsOk db V [] ((bi, a) :: rest) = true) :
    F2 (Inv V (scanNames a.rel bi 0 a.args)) (db.get a.rel)
        ((db.get a.rel).filterMap (fun t => DL.matchArgs a.args t [])) ∧
      atomsOk db V (scanNames a.rel bi 0 a.args) rest = true := by
  simp only [atomsOk, Bool.and_eq_true] at hok
  obtain ⟨⟨⟨⟨hplain, hvars⟩, hdb⟩, hfresh⟩, hrest⟩ := hok
  have hk : joinKeys [] (scanNames a.rel bi 0 a.args) = [] := rfl
  rw [hk, List.map_nil, exclG_nil_keys, List.nil_append] at hrest
  refine ⟨?_, hrest⟩
  have h := forall2_filterMap (R := Inv V (scanNames a.rel bi 0 a.args)) (db.get a.rel)
    (fun t => joinRow [] [] [] t) (fun t => DL.matchArgs a.args t []) fun tup htup => by
      have hs := step_rel (V := V) (sch := []) (row := []) (env := []) (t := tup) (Inv.nil V)
        (scanNames_length a.rel bi 0 a.args) (scanNames_var a.rel bi 0 a.args) (atomFresh_spec hfresh) hplain
        (fun x hx => by simpa using List.all_eq_true.1 hvars _ hx)
        (by simpa using List.all_eq_true.1 hdb tup htup)
      rwa [hk, List.map_nil, List.map_nil, exclG_nil_keys, List.nil_append] at hs
  rwa [show (fun t : Tuple => joinRow [] [] [] t) = some from funext fun _ => rfl, List.filterMap_some] at h

end ILV.IRBuild
