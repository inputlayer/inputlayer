/-
  What a successful `pmEval` run guarantees (beyond `isFix`): its ranks are a stratification, and
  every head of stratum `k` stays *below* any database that is closed under the rules of that
  stratum and agrees with the result on the lower strata — i.e. the result is the stratum-wise
  **least** model. Proof along the run: stratum by stratum, round by round, by monotonicity.
-/
import ILV.Lemmas.Mono
namespace ILV.DL

theorem get_append (upd db : DB) (g : String) :
    DB.get (upd ++ db) g = match upd.lookup g with | some v => v | none => DB.get db g := by
  unfold DB.get
  rw [List.lookup_append]
  cases upd.lookup g <;> rfl

theorem lookup_optMapM_pairs {β γ} (E : String → Option γ) (V : String → γ → β) : ∀ (hs : List String) (upd : List (String × β)),
    optMapM (fun h => (E h).map (fun ts => (h, V h ts))) hs = some upd →
    (∀ g, g ∉ hs → upd.lookup g = none) ∧ (∀ g, g ∈ hs → ∃ ts, E g = some ts ∧ upd.lookup g = some (V g ts))
  | [], upd, h => by
    cases h
    exact ⟨fun _ _ => rfl, fun g hg => nomatch hg⟩
  | x :: xs, upd, h => by
    rw [optMapM] at h
    split at h
    · next b bs hb hbs =>
      cases h
      obtain ⟨ts, hts, rfl⟩ := Option.map_eq_some_iff.1 hb
      obtain ⟨ih1, ih2⟩ := lookup_optMapM_pairs E V xs bs hbs
      refine ⟨fun g hg => ?_, fun g hg => ?_⟩
      · rw [lookup_cons_ne g x _ _ (fun e => hg (e ▸ List.mem_cons_self ..))]
        exact ih1 g (fun hc => hg (List.mem_cons_of_mem _ hc))
      · by_cases hgx : g = x
        · subst hgx; exact ⟨ts, hts, lookup_cons_self ..⟩
        · rw [lookup_cons_ne g x _ _ hgx]
          exact ih2 g ((List.mem_cons.1 hg).resolve_left hgx)
    · cases h

theorem get_map_append (f : String → List Tuple) (edb : DB) (hs : List String) (g : String) :
    DB.get (hs.map (fun h => (h, f h)) ++ edb) g = if g ∈ hs then f g else edb.get g := by
  induction hs with
  | nil => rfl
  | cons x xs ih =>
    unfold DB.get at ih ⊢
    by_cases hgx : g = x
    · subst hgx; simp
    · rw [List.map_cons, List.cons_append, lookup_cons_ne g x _ _ hgx, ih]
      simp [hgx]

theorem overlay_get_head (hs : List String) (db edb : DB) (g : String) (hg : g ∈ hs) :
    (overlay hs db edb).get g = db.get g := by
  rw [overlay, get_map_append, if_pos hg]

theorem overlay_get_nonhead (hs : List String) (db edb : DB) (r : String) (hr : r ∉ hs) :
    (overlay hs db edb).get r = edb.get r := by
  rw [overlay, get_map_append, if_neg hr]

theorem roundStratum_get (hs : List String) (p : Program) (db db' : DB) (h : roundStratum hs p db = some db') :
    (∀ g, g ∉ hs → db'.get g = db.get g) ∧
    (∀ g, g ∈ hs → ∃ ts, evalRules db.get (clausesOf p g) = some ts ∧ db'.get g = unionT (db.get g) ts) := by
  unfold roundStratum at h
  split at h
  · next upd hu =>
    cases h
    obtain ⟨h1, h2⟩ := lookup_optMapM_pairs _ (fun h ts => unionT (db.get h) ts) hs upd hu
    refine ⟨fun g hg => by rw [get_append, h1 g hg], fun g hg => ?_⟩
    obtain ⟨ts, hev, hl⟩ := h2 g hg
    exact ⟨ts, hev, by rw [get_append, hl]⟩
  · cases h

/-- the invariant of the rounds of one stratum `hs` started from `db0`, against a target `F`. -/
structure Below (hs : List String) (db0 : DB) (F : String → List Tuple) (db : DB) : Prop where
  le : ∀ h, h ∈ hs → Sub (db.get h) (F h)
  frame : ∀ g, g ∉ hs → db.get g = db0.get g

/-- conditions under which the rules of the stratum, evaluated on any database satisfying the
    invariant, stay below `F`. -/
structure StratumOk (p : Program) (hs : List String) (db0 : DB) (F : String → List Tuple) : Prop where
  agg : ∀ h, h ∈ hs → ∀ r, r ∈ clausesOf p h → r.hasAgg = false
  pos : ∀ h, h ∈ hs → ∀ r, r ∈ clausesOf p h → ∀ a, a ∈ r.posAtoms → a.rel ∈ hs ∨ Sub (db0.get a.rel) (F a.rel)
  neg : ∀ h, h ∈ hs → ∀ r, r ∈ clausesOf p h → ∀ a, a ∈ r.negAtoms → a.rel ∉ hs ∧ MemEq (db0.get a.rel) (F a.rel)
  closed : ∀ h, h ∈ hs → ∃ tsF, evalRules F (clausesOf p h) = some tsF ∧ Sub tsF (F h)

theorem round_below (p : Program) (hs : List String) (db0 : DB) (F : String → List Tuple) (hok : StratumOk p hs db0 F)
    (db db' : DB) (hinv : Below hs db0 F db) (hr : roundStratum hs p db = some db') : Below hs db0 F db' := by
  obtain ⟨h1, h2⟩ := roundStratum_get hs p db db' hr
  constructor
  · intro h hh
    obtain ⟨ts, hev, hget⟩ := h2 h hh
    obtain ⟨tsF, hF, hsub⟩ := hok.closed h hh
    rw [hget]
    intro t ht
    rcases mem_unionT.1 ht with ht | ht
    · exact hinv.le h hh t ht
    · apply hsub
      refine evalRules_sub (clausesOf p h) (hok.agg h hh) ?_ ts tsF hev hF t ht
      intro r hr
      constructor
      · intro a ha
        by_cases hin : a.rel ∈ hs
        · exact hinv.le a.rel hin
        · rw [hinv.frame a.rel hin]; exact (hok.pos h hh r hr a ha).resolve_left hin
      · intro a ha
        obtain ⟨hnin, hm⟩ := hok.neg h hh r hr a ha
        rw [hinv.frame a.rel hnin]; exact hm
  · intro g hg
    rw [h1 g hg]; exact hinv.frame g hg

theorem lfpStratum_inv (p : Program) (hs : List String) (P : DB → Prop)
    (hstep : ∀ db d, P db → roundStratum hs p db = some d → P d) :
    ∀ (fuel : Nat) (db db' : DB), P db → lfpStratum hs p fuel db = some db' → P db'
  | fuel + 1, db, db', hinv, h => by
    rw [lfpStratum] at h
    split at h
    · cases h
    · next d hr =>
      split at h
      · cases h; exact hinv
      · exact lfpStratum_inv p hs P hstep fuel d db' (hstep db d hinv hr) h

theorem lfpStratum_frame (p : Program) (hs : List String) (fuel : Nat) (db db' : DB)
    (h : lfpStratum hs p fuel db = some db') (g : String) (hg : g ∉ hs) : db'.get g = db.get g :=
  lfpStratum_inv p hs (fun d => d.get g = db.get g)
    (fun x d hx hr => ((roundStratum_get hs p x d hr).1 g hg).trans hx) fuel db db' rfl h

def stratumHeads (p : Program) (rk : Ranks) (k : Nat) : List String := (heads p).filter (fun h => Ranks.get rk h == k)

theorem mem_stratumHeads {p : Program} {rk : Ranks} {k : Nat} {h : String} :
    h ∈ stratumHeads p rk k ↔ h ∈ heads p ∧ Ranks.get rk h = k := by
  simp [stratumHeads, List.mem_filter]

theorem evalStrata_frame (p : Program) (rk : Ranks) (fuel : Nat) : ∀ (ks : List Nat) (db db' : DB),
    evalStrata p rk fuel ks db = some db' → ∀ g, (g ∈ heads p → Ranks.get rk g ∉ ks) → db'.get g = db.get g
  | [], db, db', h, g, _ => by cases h; rfl
  | k :: ks, db, db', h, g, hg => by
    rw [evalStrata] at h
    split at h
    · next d hl =>
      rw [evalStrata_frame p rk fuel ks d db' h g (fun hh hc => hg hh (List.mem_cons_of_mem _ hc)),
        lfpStratum_frame p _ fuel db d hl g fun hc => hg (mem_stratumHeads.1 hc).1
          ((mem_stratumHeads.1 hc).2 ▸ List.mem_cons_self ..)]
    · cases h

/-- a run over ascending strata, cut at stratum `k`: `dk` is the state before it (strata below `k` done),
    `dk'` the state after it (only strata above `k` to come). -/
theorem evalStrata_at (p : Program) (rk : Ranks) (fuel : Nat) (k : Nat) : ∀ (ks : List Nat) (db dbf : DB),
    ks.Pairwise (· < ·) → k ∈ ks → evalStrata p rk fuel ks db = some dbf →
    ∃ dk dk', lfpStratum (stratumHeads p rk k) p fuel dk = some dk' ∧
      (∀ g, (g ∈ heads p → k ≤ Ranks.get rk g) → dk.get g = db.get g) ∧
      (∀ g, (g ∈ heads p → Ranks.get rk g ≤ k) → dbf.get g = dk'.get g)
  | j :: ks, db, dbf, hpw, hk, hev => by
    obtain ⟨hj, hpw'⟩ := List.pairwise_cons.1 hpw
    rw [evalStrata] at hev
    split at hev
    · next d hl =>
      rcases List.mem_cons.1 hk with rfl | hk'
      · exact ⟨db, d, hl, fun _ _ => rfl, fun g hg => evalStrata_frame p rk fuel ks d dbf hev g
          fun hh hc => Nat.lt_irrefl _ (Nat.lt_of_lt_of_le (hj _ hc) (hg hh))⟩
      · obtain ⟨dk, dk', hl', hpre, hpost⟩ := evalStrata_at p rk fuel k ks d dbf hpw' hk' hev
        refine ⟨dk, dk', hl', fun g hg => ?_, hpost⟩
        rw [hpre g hg, lfpStratum_frame p _ fuel db d hl g fun hc =>
          Nat.lt_irrefl _ (Nat.lt_of_lt_of_le (hj k hk') ((mem_stratumHeads.1 hc).2 ▸ hg (mem_stratumHeads.1 hc).1))]
    · cases hev

theorem evalStrata_below (p : Program) (rk : Ranks) (fuel : Nat) (k : Nat) (F : String → List Tuple)
    (hagg : ∀ r, r ∈ p → r.hasAgg = false)
    (hweak : ∀ r, r ∈ p → ∀ a, a ∈ r.posAtoms → Ranks.get rk a.rel ≤ Ranks.get rk r.hrel)
    (hstrict : ∀ r, r ∈ p → ∀ a, a ∈ r.negAtoms → Ranks.get rk a.rel < Ranks.get rk r.hrel)
    (hclosed : ∀ h, h ∈ heads p → ∃ tsF, evalRules F (clausesOf p h) = some tsF ∧ Sub tsF (F h))
    (ks : List Nat) (db dbf : DB) (hpw : ks.Pairwise (· < ·)) (hk : k ∈ ks)
    (hev : evalStrata p rk fuel ks db = some dbf)
    (hstart : ∀ h, h ∈ stratumHeads p rk k → Sub (db.get h) (F h))
    (hnon : ∀ g, g ∉ heads p → MemEq (db.get g) (F g))
    (hlow : ∀ g, g ∈ heads p → Ranks.get rk g < k → MemEq (dbf.get g) (F g)) :
    ∀ h, h ∈ stratumHeads p rk k → Sub (dbf.get h) (F h) := by
  obtain ⟨dk, dk', hl, hpre, hpost⟩ := evalStrata_at p rk fuel k ks db dbf hpw hk hev
  -- what the rules of stratum `k` read from outside the stratum is final already, or stored
  have hout : ∀ g, (g ∈ heads p → Ranks.get rk g < k) → MemEq (dk.get g) (F g) := fun g hg => by
    by_cases hgh : g ∈ heads p
    · rw [← lfpStratum_frame p _ fuel dk dk' hl g fun hc => Nat.lt_irrefl _ ((mem_stratumHeads.1 hc).2 ▸ hg hgh),
        ← hpost g fun hh => Nat.le_of_lt (hg hh)]
      exact hlow g hgh (hg hgh)
    · rw [hpre g fun hh => (hgh hh).elim]; exact hnon g hgh
  have hok : StratumOk p (stratumHeads p rk k) dk F := by
    refine ⟨fun h _ r hr => hagg r (mem_clausesOf.1 hr).1, fun h hh r hr a ha => ?_, fun h hh r hr a ha => ?_,
      fun h hh => hclosed h (mem_stratumHeads.1 hh).1⟩
    · obtain ⟨hrp, hrel⟩ := mem_clausesOf.1 hr
      have hle := hweak r hrp a ha
      rw [hrel, (mem_stratumHeads.1 hh).2] at hle
      by_cases hin : a.rel ∈ stratumHeads p rk k
      · exact Or.inl hin
      · exact Or.inr (hout a.rel fun hah => Nat.lt_of_le_of_ne hle fun e => hin (mem_stratumHeads.2 ⟨hah, e⟩)).sub
    · obtain ⟨hrp, hrel⟩ := mem_clausesOf.1 hr
      have hlt := hstrict r hrp a ha
      rw [hrel, (mem_stratumHeads.1 hh).2] at hlt
      exact ⟨fun hc => Nat.lt_irrefl _ ((mem_stratumHeads.1 hc).2 ▸ hlt), hout a.rel fun _ => hlt⟩
  have hk0 : ∀ h, h ∈ stratumHeads p rk k → dk.get h = db.get h :=
    fun h hh => hpre h fun _ => Nat.le_of_eq (mem_stratumHeads.1 hh).2.symm
  have hb := lfpStratum_inv p _ (Below (stratumHeads p rk k) dk F) (round_below p _ dk F hok) fuel dk dk'
    ⟨fun h hh => hk0 h hh ▸ hstart h hh, fun _ _ => rfl⟩ hl
  intro h hh
  rw [hpost h fun _ => Nat.le_of_eq (mem_stratumHeads.1 hh).2]
  exact hb.le h hh

theorem pmEval_run {fuel : Nat} {p : Program} {edb m : DB} (h : pmEval fuel p edb = some m) :
    ∃ rk db, stratify p = some rk ∧
      evalStrata p rk fuel (List.range ((heads p).length + 1)) ((heads p).map (fun h => (h, dedupT (edb.get h))) ++ edb) = some db ∧
      m = overlay (heads p) db edb ∧ isFix p edb m = true := by
  unfold pmEval at h
  split at h
  · cases h
  · rename_i rk hst
    dsimp only at h
    split at h
    · rename_i db hev
      split at h
      · rename_i hfix
        cases h
        exact ⟨rk, db, hst, hev, rfl, hfix⟩
      · cases h
    · cases h

theorem stratify_ok {p : Program} {rk : Ranks} (h : stratify p = some rk) :
    ranksOk p rk = true ∧ ∀ hr, hr ∈ rk → hr.2 ≤ (heads p).length := by
  unfold stratify at h
  dsimp only at h
  split at h
  · rename_i hc
    cases h
    simp only [Bool.and_eq_true, List.all_eq_true, decide_eq_true_eq] at hc
    exact ⟨hc.2, hc.1.2⟩
  · cases h

theorem ranks_get_le {rk : Ranks} {n : Nat} (h : ∀ hr, hr ∈ rk → hr.2 ≤ n) (g : String) : Ranks.get rk g ≤ n := by
  unfold Ranks.get
  induction rk with
  | nil => simp
  | cons x xs ih =>
    obtain ⟨y, v⟩ := x
    by_cases hgy : g = y
    · subst hgy
      rw [lookup_cons_self]
      exact h (g, v) (List.mem_cons_self ..)
    · rw [lookup_cons_ne g y v xs hgy]
      exact ih (fun hr hm => h hr (List.mem_cons_of_mem _ hm))

theorem ranks_atoms {p : Program} {rk : Ranks} (hok : ranksOk p rk = true) (r : Rule) (hr : r ∈ p) (hagg : r.hasAgg = false) :
    (∀ a, a ∈ r.posAtoms → Ranks.get rk a.rel ≤ Ranks.get rk r.hrel) ∧
    (∀ a, a ∈ r.negAtoms → Ranks.get rk a.rel < Ranks.get rk r.hrel) := by
  unfold ranksOk at hok
  have := List.all_eq_true.1 hok r hr
  simp only [Bool.and_eq_true, List.all_eq_true, decide_eq_true_eq] at this
  constructor
  · intro a ha
    apply this.1
    unfold Rule.weakDeps
    rw [mem_dedupS]; exact List.mem_map.2 ⟨a, ha, rfl⟩
  · intro a ha
    apply this.2
    unfold Rule.strictDeps
    simp only [hagg, Bool.false_eq_true, if_false]
    rw [mem_dedupS]; exact List.mem_map.2 ⟨a, ha, rfl⟩

theorem pmEval_least {fuel : Nat} {p : Program} {edb M : DB} (hpm : pmEval fuel p edb = some M)
    (hagg : ∀ r, r ∈ p → r.hasAgg = false) (hno : ∀ h, h ∈ heads p → edb.get h = [])
    (rk : Ranks) (hst : stratify p = some rk) (F : String → List Tuple)
    (hnon : ∀ g, g ∉ heads p → MemEq (edb.get g) (F g))
    (hclosed : ∀ h, h ∈ heads p → ∃ tsF, evalRules F (clausesOf p h) = some tsF ∧ Sub tsF (F h))
    (k : Nat) (hlow : ∀ g, g ∈ heads p → Ranks.get rk g < k → MemEq (M.get g) (F g)) :
    ∀ h, h ∈ heads p → Ranks.get rk h = k → Sub (M.get h) (F h) := by
  obtain ⟨rk', db, hst', hev, rfl, _⟩ := pmEval_run hpm
  rw [hst] at hst'; cases hst'
  obtain ⟨hok, hbound⟩ := stratify_ok hst
  intro h hh hrk
  rw [overlay_get_head _ _ _ h hh]
  have hk : k ∈ List.range ((heads p).length + 1) := by
    rw [List.mem_range, ← hrk]
    exact Nat.lt_succ_of_le (ranks_get_le hbound h)
  refine evalStrata_below p rk fuel k F hagg
    (fun r hr => (ranks_atoms hok r hr (hagg r hr)).1) (fun r hr => (ranks_atoms hok r hr (hagg r hr)).2)
    hclosed _ _ db List.pairwise_lt_range hk hev ?_ ?_ ?_ h (mem_stratumHeads.2 ⟨hh, hrk⟩)
  · intro g hg
    rw [get_map_append, if_pos (mem_stratumHeads.1 hg).1, hno g (mem_stratumHeads.1 hg).1]
    intro t ht; cases ht
  · intro g hg
    rw [get_map_append, if_neg hg]; exact hnon g hg
  · intro g hg hr
    rw [← overlay_get_head (heads p) db edb g hg]; exact hlow g hg hr

theorem isFix_closed {p : Program} {edb M : DB} (hfix : isFix p edb M = true) (h : String) (hh : h ∈ heads p) :
    ∃ ts, evalRules M.get (clausesOf p h) = some ts ∧ Sub ts (M.get h) := by
  have := List.all_eq_true.1 hfix h hh
  split at this
  · next ts hev => exact ⟨ts, hev, fun t ht => (sameSet_iff.1 this t).2 (mem_unionT.2 (Or.inr ht))⟩
  · cases this

end ILV.DL

namespace ILV.Engine
open ILV ILV.DL

theorem pmEval_isFix {fuel : Nat} {p : Program} {edb m : DB} (h : pmEval fuel p edb = some m) :
    isFix p edb m = true := by
  obtain ⟨_, _, _, _, _, hfix⟩ := pmEval_run h
  exact hfix

theorem pmEval_nonhead {fuel : Nat} {p : Program} {edb m : DB} (h : pmEval fuel p edb = some m)
    (r : String) (hr : r ∉ heads p) : m.get r = edb.get r := by
  obtain ⟨_, _, _, _, rfl, _⟩ := pmEval_run h
  exact overlay_get_nonhead _ _ _ r hr

end ILV.Engine
