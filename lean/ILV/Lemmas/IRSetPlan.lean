/-
  `setPlan_nodup`: a join tree over set-valued scans has no duplicate rows
  (the join keeps all left columns and the non-key right columns, the key columns being equal, so
  two different pairs of input rows give two different output rows).  Hence the multiplicities an
  `Aggregate` above it sees are all 1: it aggregates over *distinct* body valuations.
-/
import ILV.Lemmas.IRRules
namespace ILV.IR
open ILV

theorem project_pointwise {b b' : Tuple} : ∀ {rk : List Nat}, (∀ k ∈ rk, k < b.length) → (∀ k ∈ rk, k < b'.length) →
    project b rk = project b' rk → ∀ k ∈ rk, b[k]? = b'[k]?
  | [], _, _, _, k, hk => by simp at hk
  | i :: rk, h1, h2, he, k, hk => by
    have hi1 := h1 i (by simp)
    have hi2 := h2 i (by simp)
    rw [project_cons_lt b i rk hi1, project_cons_lt b' i rk hi2] at he
    have hh := List.cons.inj he
    rcases List.mem_cons.1 hk with rfl | hk
    · rw [List.getElem?_eq_getElem hi1, List.getElem?_eq_getElem hi2, hh.1]
    · exact project_pointwise (fun x hx => h1 x (by simp [hx])) (fun x hx => h2 x (by simp [hx])) hh.2 k hk

theorem excludingAux_inj (ex : List Nat) : ∀ (vs vs' : Tuple) (i : Nat), vs.length = vs'.length →
    excludingAux ex i vs = excludingAux ex i vs' → (∀ j, ex.contains (i + j) = true → vs[j]? = vs'[j]?) → vs = vs'
  | [], [], _, _, _, _ => rfl
  | [], _ :: _, _, h, _, _ => nomatch h
  | _ :: _, [], _, h, _, _ => nomatch h
  | v :: vs, v' :: vs', i, hl, he, hk => by
    have ih := excludingAux_inj ex vs vs' (i + 1) (Nat.succ.inj hl)
    have hk' : ∀ j, ex.contains (i + 1 + j) = true → vs[j]? = vs'[j]? :=
      fun j hj => hk (j + 1) (Nat.add_right_comm i 1 j ▸ hj)
    unfold excludingAux at he
    split at he
    · next hc => rw [Option.some.inj (hk 0 hc), ih he hk']
    · rw [(List.cons.inj he).1, ih (List.cons.inj he).2 hk']

theorem joinRow_inj {lk rk : List Nat} {a a' b b' x : Tuple} (hla : a.length = a'.length) (hlb : b.length = b'.length)
    (hrk : ∀ k ∈ rk, k < b.length) (h1 : joinRow lk rk a b = some x) (h2 : joinRow lk rk a' b' = some x) :
    a = a' ∧ b = b' := by
  unfold joinRow at h1 h2
  split at h1
  · rename_i hc
    simp only [hc, ↓reduceIte, Option.some.injEq] at h1 h2
    rw [← h2] at h1
    exact List.append_inj h1 hla
  · rename_i hc
    simp only [hc, Bool.false_eq_true, ↓reduceIte] at h2
    split at h1 <;> split at h2 <;> simp only [Option.some.injEq, reduceCtorEq] at h1 h2
    rename_i hk1 hk2
    rw [← h2] at h1
    have hh := List.append_inj h1 hla
    refine ⟨hh.1, ?_⟩
    have hk1 : project a lk = project b rk := by simpa using hk1
    have hk2 : project a' lk = project b' rk := by simpa using hk2
    have hp : project b rk = project b' rk := by rw [← hk1, ← hk2, hh.1]
    have pw := project_pointwise hrk (fun k hk => by rw [← hlb]; exact hrk k hk) hp
    exact excludingAux_inj rk b b' 0 hlb hh.2 (fun j hj => pw j (by simpa using hj))

theorem nodup_filterMap_of_inj {R : List Tuple} {J : Tuple → Option Tuple} (hR : R.Nodup)
    (hinj : ∀ b ∈ R, ∀ b' ∈ R, ∀ x, J b = some x → J b' = some x → b = b') : (R.filterMap J).Nodup := by
  induction R with
  | nil => simp
  | cons b R ih =>
    have hb := List.nodup_cons.1 hR
    have ih := ih hb.2 (fun c hc c' hc' x h h' => hinj c (by simp [hc]) c' (by simp [hc']) x h h')
    simp only [List.filterMap_cons]
    cases hj : J b with
    | none => exact ih
    | some x =>
      refine List.nodup_cons.2 ⟨?_, ih⟩
      intro hx
      obtain ⟨b', hb', e⟩ := List.mem_filterMap.1 hx
      have := hinj b (by simp) b' (by simp [hb']) x hj e
      subst this
      exact hb.1 hb'

theorem nodup_joinRows {L R : List Tuple} {lk rk : List Nat} {wl wr : Nat} (hL : L.Nodup) (hR : R.Nodup)
    (hLw : ∀ a ∈ L, a.length = wl) (hRw : ∀ b ∈ R, b.length = wr) (hrk : ∀ k ∈ rk, k < wr) :
    (joinRows L R lk rk).Nodup := by
  unfold joinRows
  induction L with
  | nil => simp
  | cons a L ih =>
    have ha := List.nodup_cons.1 hL
    have ih := ih ha.2 (fun x hx => hLw x (by simp [hx]))
    simp only [List.flatMap_cons]
    refine List.nodup_append.2 ⟨?_, ih, ?_⟩
    · apply nodup_filterMap_of_inj hR
      intro b hb b' hb' x h h'
      exact (joinRow_inj rfl (by rw [hRw b hb, hRw b' hb']) (fun k hk => by rw [hRw b hb]; exact hrk k hk) h h').2
    · intro x hx y hy hxy
      subst hxy
      obtain ⟨b, hb, e⟩ := List.mem_filterMap.1 hx
      obtain ⟨a', ha', hy'⟩ := List.mem_flatMap.1 hy
      obtain ⟨b', hb', e'⟩ := List.mem_filterMap.1 hy'
      have := (joinRow_inj (by rw [hLw a (by simp), hLw a' (by simp [ha'])]) (by rw [hRw b hb, hRw b' hb'])
        (fun k hk => by rw [hRw b hb]; exact hrk k hk) e e').1
      subst this
      exact ha.1 ha'

theorem setPlan_induction {P : Node → Prop} (scan : ∀ rel s, P (.scan rel s))
    (filter : ∀ i p, P i → P (.filter i p)) (join : ∀ l r lk rk s, P l → P r → P (.join l r lk rk s)) :
    ∀ t, isSetPlan t = true → P t
  | .scan rel s, _ => scan rel s
  | .filter i p, h => filter i p (setPlan_induction scan filter join i h)
  | .join l r lk rk s, h =>
    have h := (Bool.and_eq_true _ _).mp h
    join l r lk rk s (setPlan_induction scan filter join l h.1) (setPlan_induction scan filter join r h.2)
  | .map .., h => nomatch h
  | .distinct .., h => nomatch h
  | .union .., h => nomatch h
  | .aggregate .., h => nomatch h
  | .antijoin .., h => nomatch h
  | .compute .., h => nomatch h
  | .hnsw .., h => nomatch h
  | .flatMap .., h => nomatch h
  | .joinFlatMap .., h => nomatch h

theorem setPlan_nodup (db : Db) (hdb : DbSet db) : ∀ t, wf db t = true → isSetPlan t = true → (eval db t).Nodup :=
  fun t h hs => setPlan_induction (P := fun t => wf db t = true → (eval db t).Nodup)
    (fun rel _ _ => hdb rel)
    (fun i p ih h => List.Pairwise.filter _ (ih (wf_filter h)))
    (fun l r lk rk s ihl ihr h => by
      have hw := h
      unfold wf at hw
      simp only [Bool.and_eq_true] at hw
      exact nodup_joinRows (ihl (wf_join h).1) (ihr (wf_join h).2) (rowsOk db l (wf_join h).1)
        (rowsOk db r (wf_join h).2) (allLt_iff.1 hw.1.1.1.2))
    t hs h

end ILV.IR
