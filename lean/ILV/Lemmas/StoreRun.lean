/-
  Whole histories: the invariants of ILV.Lemmas.StoreInv / StoreWrites / ArityOk along `Store.run`.
-/
import ILV.Lemmas.ArityOk
import ILV.Lemmas.StoreWrites
namespace ILV.Store
open ILV ILV.Batch ILV.Props.C31

/-- the requests of one operation are *effective* in state `e`: an insert names pairwise different
    absent (and admissible) tuples, a delete names pairwise different present tuples. -/
def OpEffective (G : String → Tuple → Prop) (e : Engine) : Op → Prop
  | .ins r ts => ts.Nodup ∧ (∀ t ∈ ts, t ∉ liveOf e r) ∧ (∀ t ∈ ts, G r t)
  | .del r ts => ts.Nodup ∧ (∀ t ∈ ts, t ∈ liveOf e r)
  | _ => True

/-- every operation of the history is effective in the state it is applied to. -/
def Effective (c : Codec) (G : String → Tuple → Prop) : Engine → List Op → Prop
  | _, [] => True
  | e, o :: os => OpEffective G e o ∧ Effective c G (step c e o) os

instance decOpEffective (G : String → Tuple → Prop) [∀ r t, Decidable (G r t)] (e : Engine) (o : Op) :
    Decidable (OpEffective G e o) := by
  cases o <;> simp only [OpEffective] <;> infer_instance

instance decEffective (c : Codec) (G : String → Tuple → Prop) [∀ r t, Decidable (G r t)] :
    ∀ (e : Engine) (h : List Op), Decidable (Effective c G e h)
  | _, [] => isTrue trivial
  | e, o :: os =>
    have := decEffective c G (step c e o) os
    by unfold Effective; infer_instance

structure Inv (G : String → Tuple → Prop) (e : Engine) : Prop where
  p : PInv G e
  l : LInv G e
  a : ArityOk e

theorem deleteCore_spec {c : Codec} {G} (hc : CodecOk c G) (e : Engine) (rel : String) (ts : List Tuple)
    (hP : PInv G e) (hL : LInv G e) (hA : ArityOk e) (hn : ts.Nodup) (hpr : ∀ t ∈ ts, t ∈ liveOf e rel) :
    PInv G (deleteCore c e rel ts).1 ∧ LInv G (deleteCore c e rel ts).1 ∧ (deleteCore c e rel ts).1.cfg = e.cfg := by
  have := deleteCoreRaw_spec hc e rel ts hP hL hn hpr
  rwa [← deletable_of_stored e hA rel ts hpr] at this

theorem Inv_init (G : String → Tuple → Prop) (cfg : Cfg) : Inv G { cfg := cfg } := by
  refine ⟨⟨rfl, by simp [keys], fun _ => rfl, ?_, ?_, fun _ _ => rfl, fun _ => ⟨rfl, fun _ => rfl⟩⟩, ⟨?_, ?_, ?_⟩,
    fun r t ht => by simp [liveOf, aget] at ht⟩
  · intro r u hu; simp [logOf, shardOf, aget, readShard] at hu
  · intro p hp; simp at hp
  · intro r t; simp [logOf, shardOf, aget, readShard, liveOf]
  · intro r; simp [liveOf, aget]
  · intro r t ht; simp [liveOf, aget] at ht

/-- "infer schema from first tuple" is right when the recovered tuples of a relation have one length. -/
theorem ArityOk_loadKgs (e : Engine) (hk : (keys e.shards).Nodup)
    (h : ∀ r, ∀ x ∈ recoverRel (shardOf e r), ∀ y ∈ recoverRel (shardOf e r), x.length = y.length) :
    ArityOk (loadKgs e) := by
  intro r t ht
  have hu := h r
  rw [liveOf_loadKgs e hk, shardOf] at ht
  rw [shardOf] at hu
  show aget (e.shards.filterMap _) r = _
  rw [aget_filterMap _ shardArity r hk]
  cases hg : aget e.shards r with
  | none => rw [hg] at ht; cases ht
  | some sh =>
    rw [hg] at ht hu
    show shardArity sh = _
    unfold shardArity
    split
    · next x xs hrec => rw [hu x (hrec ▸ List.mem_cons_self) t ht]
    · next hrec => rw [Option.getD_some, hrec] at ht; cases ht

/-- after a restart the live state is the set of tuples with a positive sum; under `LInv` that is the
    old live state, and `LInv` holds again. -/
theorem restart_inv {c : Codec} {G} (hc : CodecOk c G) (hwf : ∀ r t, G r t → TupleWF t) (e : Engine) (h : Inv G e)
    (hB : ∀ r, walFor (e.wal ++ e.walBuf) r = bufferOf e r) :
    (restart c e).2 = none ∧ Inv G (restart c e).1 ∧ (restart c e).1.cfg = e.cfg ∧
    (∀ r t, t ∈ liveOf (restart c e).1 r ↔ t ∈ liveOf e r) := by
  obtain ⟨r1, r2, r3, r4, r5⟩ := restart_spec hc e h.p hB
  have hmem : ∀ r t, t ∈ liveOf (restart c e).1 r ↔ t ∈ liveOf e r := by
    intro r t
    rw [r5, mem_recover_iff _ (fun u hu => hwf r _ (h.p.good r u hu)), h.l.sums r t]
    split
    · next ht => exact iff_of_true Int.one_pos ht
    · next ht => exact iff_of_false (Int.lt_irrefl 0) ht
  refine ⟨r1, ⟨r2, ⟨fun r t => ?_, fun r => ?_, fun r t ht => h.l.liveGood r t ((hmem r t).1 ht)⟩, ?_⟩, r3, hmem⟩
  · rw [r4, h.l.sums r t]
    simp only [hmem r t]
  · rw [r5]
    exact recover_nodup _ (fun u hu => hwf r _ (h.p.good r u hu))
  · obtain ⟨f1, f2, _, _⟩ := reopenPersist_spec hc e h.p hB
    have hlive : ∀ r, recoverRel (shardOf (reopenPersist c e).1 r) = liveOf (restart c e).1 r := fun r => by
      rw [restart_ok f1, liveOf_loadKgs _ f2.keysNodup]
    rw [restart_ok f1]
    refine ArityOk_loadKgs _ f2.keysNodup (fun r x hx y hy => ?_)
    rw [hlive] at hx hy
    exact Option.some.inj ((h.a r x ((hmem r x).1 hx)).symm.trans (h.a r y ((hmem r y).1 hy)))

theorem walMirrors_of_immediate {G} {e : Engine} (h : PInv G e) (hm : e.cfg.mode = .immediate) :
    ∀ r, walFor (e.wal ++ e.walBuf) r = bufferOf e r := by
  intro r
  have := h.walImm hm
  rw [this.1, List.append_nil]; exact this.2 r

theorem walMirrors_of_empty {G} {e : Engine} (h : PInv G e) (hb : ∀ r, bufferOf e r = []) :
    ∀ r, walFor (e.wal ++ e.walBuf) r = bufferOf e r := by
  intro r
  rw [hb r]; exact h.walEmpty r (hb r)

/-- inserts and deletes; with `isRestart` this splits the operations of a history into writes, restarts,
    and the rest (maintenance, observations). -/
def isWrite : Op → Bool
  | .ins _ _ | .del _ _ => true
  | _ => false

def isRestart : Op → Bool
  | .restart | .shutdown => true
  | _ => false

theorem step_ins {c : Codec} {e : Engine} (h : e.dead = false) (r : String) (ts : List Tuple) :
    step c e (.ins r ts) = (insertCore c e r ts).1 := by
  unfold step; rw [if_neg (by rw [h]; exact Bool.noConfusion)]; rfl

theorem step_del {c : Codec} {e : Engine} (h : e.dead = false) (r : String) (ts : List Tuple) :
    step c e (.del r ts) = (deleteCore c e r ts).1 := by
  unfold step; rw [if_neg (by rw [h]; exact Bool.noConfusion)]; rfl

theorem step_maint {c : Codec} {G} (hc : CodecOk c G) (e : Engine) (o : Op) (hP : PInv G e)
    (hw : isWrite o = false) (hr : isRestart o = false) :
    PInv G (step c e o) ∧ Maint e (step c e o) := by
  unfold step
  simp only [hP.notDead, Bool.false_eq_true, if_false]
  cases o with
  | ins r ts => cases hw
  | del r ts => cases hw
  | restart => cases hr
  | shutdown => cases hr
  | save => exact (saveAll_spec hc e hP).2.imp_right And.left
  | savekg => exact (saveAll_spec hc e hP).2.imp_right And.left
  | compact => exact (compactAll_spec hc e hP).2
  | compactIf n => exact (compactIf_spec hc e n hP).2
  | obs | files | q | bad => exact ⟨hP, Maint.refl e⟩

theorem Inv_of_maint {G} {e e' : Engine} (h : Inv G e) (p : PInv G e') (m : Maint e e') : Inv G e' :=
  ⟨p, LInv_of_absEq h.l (AbsEq_of_maint m), ArityOk_of_eq h.a m.live m.arity⟩

theorem step_inv {c : Codec} {G} (hc : CodecOk c G) (hwf : ∀ r t, G r t → TupleWF t) (e : Engine) (o : Op)
    (h : Inv G e) (hm : e.cfg.mode = .immediate) (he : OpEffective G e o) :
    Inv G (step c e o) ∧ (step c e o).cfg = e.cfg := by
  by_cases hwr : isWrite o = false ∧ isRestart o = false
  · obtain ⟨p, m⟩ := step_maint hc e o h.p hwr.1 hwr.2
    exact ⟨Inv_of_maint h p m, m.cfg⟩
  · unfold step
    simp only [h.p.notDead, Bool.false_eq_true, if_false]
    cases o with
    | ins r ts =>
      obtain ⟨a, b, d⟩ := insertCore_spec hc e r ts h.p h.l he.1 he.2.1 he.2.2
      exact ⟨⟨a, b, insertCore_arityOk c e r ts h.a⟩, d⟩
    | del r ts =>
      obtain ⟨a, b, d⟩ := deleteCore_spec hc e r ts h.p h.l h.a he.1 he.2
      exact ⟨⟨a, b, deleteCore_arityOk c e r ts h.a⟩, d⟩
    | restart =>
      obtain ⟨_, a, b, _⟩ := restart_inv hc hwf e h (walMirrors_of_immediate h.p hm)
      exact ⟨a, b⟩
    | shutdown =>
      obtain ⟨_, a, m, hb⟩ := saveAll_spec hc e h.p
      obtain ⟨_, a', b', _⟩ := restart_inv hc hwf (saveAll c e).1 (Inv_of_maint h a m) (walMirrors_of_empty a hb)
      exact ⟨a', b'.trans m.cfg⟩
    | save | savekg | compact | compactIf _ | obs | files | q | bad => exact absurd ⟨rfl, rfl⟩ hwr

theorem run_inv_from {c : Codec} {G} (hc : CodecOk c G) (hwf : ∀ r t, G r t → TupleWF t) :
    ∀ (h : List Op) (e : Engine), Inv G e → e.cfg.mode = .immediate → Effective c G e h →
      Inv G (h.foldl (step c) e) ∧ (h.foldl (step c) e).cfg.mode = .immediate := by
  intro h
  induction h with
  | nil => intro e hi hm _; exact ⟨hi, hm⟩
  | cons o os ih =>
    intro e hi hm he
    obtain ⟨a, b⟩ := step_inv hc hwf e o hi hm he.1
    exact ih (step c e o) a (by rw [b]; exact hm) he.2

end ILV.Store
