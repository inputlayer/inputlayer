/-
  The facts about ILV.Model.Temporal that the C26 theorems rest on: `sat` lands in the `i64` range
  and is the identity on it; the interval predicates as conjunctions of inequalities.
-/
import ILV.Model.Temporal
namespace ILV.Temporal

theorem i64Min_le_i64Max : i64Min ≤ i64Max := by decide

theorem sat_inI64 (x : Int) : InI64 (sat x) := by
  unfold sat
  split
  · exact ⟨Int.le_refl _, i64Min_le_i64Max⟩
  · split
    · exact ⟨i64Min_le_i64Max, Int.le_refl _⟩
    · exact ⟨Int.not_lt.1 ‹_›, Int.not_lt.1 ‹_›⟩

theorem sat_of_inI64 {x : Int} (h : InI64 x) : sat x = x := by
  unfold sat
  rw [if_neg (Int.not_lt.2 h.1), if_neg (Int.not_lt.2 h.2)]

theorem intervalsOverlap_iff (s1 e1 s2 e2 : Int) : intervalsOverlap s1 e1 s2 e2 = true ↔ s1 ≤ e2 ∧ s2 ≤ e1 := by
  unfold intervalsOverlap
  rw [Bool.and_eq_true, decide_eq_true_eq, decide_eq_true_eq]

theorem intervalContains_iff (s1 e1 s2 e2 : Int) : intervalContains s1 e1 s2 e2 = true ↔ s1 ≤ s2 ∧ e2 ≤ e1 := by
  unfold intervalContains
  rw [Bool.and_eq_true, decide_eq_true_eq, decide_eq_true_eq]

end ILV.Temporal
