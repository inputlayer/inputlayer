/-
  The builder invariant for C21: every node of the DAG is locally valid (`NodeOK`), the memo table points
  at nodes with the right conclusion. The node table only grows at its end, so node ids stay valid
  (`Pre`, monotonicity of `KidsOK`/`NodeOK`); each `insert*` of the builder keeps the invariant.
-/
import ILV.Lemmas.ProvMatch
namespace ILV.Prov
open ILV

def NodeKind.isNeg : NodeKind → Bool
  | .neg _ => true
  | _ => false

/-- children (node ids) against the child-owning literals, in the node table `ns`. -/
def KidsOK (base M : DB) (ns : List Node) (β : Bindings) : List Lit → List Nat → Prop
  | [], [] => True
  | .pos a :: ls, k :: ks =>
    (∃ kn, ns[k]? = some kn ∧ kn.pred = a.rel ∧ argsMatch β a.args kn.args = true ∧ kn.kind.isNeg = false) ∧
    KidsOK base M ns β ls ks
  | .neg a :: ls, k :: ks =>
    (∃ kn, ns[k]? = some kn ∧ kn.kind = .neg (substituteAtom a β) ∧ kn.pred = a.rel ∧
      kn.args = concPart (substituteAtom a β) ∧ AtomClosed β a ∧
      (world base M a.rel).all (fun t => !negBlockedBy β a t) = true) ∧
    KidsOK base M ns β ls ks
  | _, _ => False

def NodeOK (prog : Program) (base M : DB) (ns : List Node) (i : Nat) (n : Node) : Prop :=
  (∀ k ∈ n.children, k < i) ∧
  match n.kind with
  | .fact .edb => memL n.args (base.get n.pred) = true ∧ n.children = []
  | .fact .derived => memL n.args (world base M n.pred) = true ∧ n.children = []
  | .trunc _ => n.children = []
  | .neg _ => n.children = []
  | .rule idx β => ∃ r, prog[idx]? = some r ∧ r.head.rel = n.pred ∧ headMatches β r.head.args n.args = true ∧
      cmpsHold β r.body = true ∧ KidsOK base M ns β (r.body.filter Lit.needsChild) n.children

structure BInv (prog : Program) (base M : DB) (b : Builder) : Prop where
  nodes : ∀ i n, b.nodes[i]? = some n → NodeOK prog base M b.nodes i n
  seen : ∀ key id, (key, id) ∈ b.seen → ∃ n, b.nodes[id]? = some n ∧ n.pred = key.1 ∧ n.args = key.2 ∧ n.kind.isNeg = false

def Pre (b b' : Builder) : Prop := b.nodes <+: b'.nodes

theorem Pre.refl (b : Builder) : Pre b b := List.prefix_refl _
theorem Pre.trans {a b c : Builder} (h1 : Pre a b) (h2 : Pre b c) : Pre a c := List.IsPrefix.trans h1 h2

/-- what every step of the chainer, started in builder `b`, guarantees of its result `r` (some items and the
    new builder). -/
def Stepped (Inv : Builder → Prop) {α : Type} (b : Builder) (good : Builder → α → Prop) (r : List α × Builder) : Prop :=
  Inv r.2 ∧ Pre b r.2 ∧ ∀ x ∈ r.1, good r.2 x

theorem Stepped.stay {Inv : Builder → Prop} {α : Type} {b : Builder} {good : Builder → α → Prop} {xs : List α}
    (hb : Inv b) (h : ∀ x ∈ xs, good b x) : Stepped Inv b good (xs, b) :=
  ⟨hb, Pre.refl b, h⟩

theorem Stepped.after {Inv : Builder → Prop} {α : Type} {b b1 : Builder} {good : Builder → α → Prop} {r : List α × Builder}
    (p : Pre b b1) (h : Stepped Inv b1 good r) : Stepped Inv b good r :=
  ⟨h.1, Pre.trans p h.2.1, h.2.2⟩

theorem prefix_getElem? {α} {l l' : List α} (h : l <+: l') {i : Nat} {x : α} (hx : l[i]? = some x) : l'[i]? = some x := by
  obtain ⟨t, rfl⟩ := h
  obtain ⟨hi, rfl⟩ := List.getElem?_eq_some_iff.mp hx
  rw [List.getElem?_append_left hi, List.getElem?_eq_getElem hi]

/-! The cases of `fun_induction KidsOK`: 1 nil; 2 a positive atom with its kid; 3 a negated atom with its kid;
    4 lists that do not fit (where `KidsOK` is `False`). -/

theorem KidsOK_mono {base M : DB} {ns ns' : List Node} (h : ns <+: ns') {β : Bindings} {ls : List Lit} {ks : List Nat}
    (hk : KidsOK base M ns β ls ks) : KidsOK base M ns' β ls ks := by
  fun_induction KidsOK base M ns β ls ks with
  | case1 => trivial
  | case2 _ _ _ _ ih | case3 _ _ _ _ ih =>
    obtain ⟨⟨kn, h1, h2⟩, hr⟩ := hk
    exact ⟨⟨kn, prefix_getElem? h h1, h2⟩, ih hr⟩
  | case4 => exact hk.elim

theorem KidsOK_ext {base M : DB} {ns : List Node} {β β' : Bindings} (h : Ext β β') {ls : List Lit} {ks : List Nat}
    (hk : KidsOK base M ns β ls ks) : KidsOK base M ns β' ls ks := by
  fun_induction KidsOK base M ns β ls ks with
  | case1 => trivial
  | case2 _ _ _ _ ih =>
    obtain ⟨⟨kn, h1, h2, h3, h4⟩, hr⟩ := hk
    exact ⟨⟨kn, h1, h2, argsMatch_ext h h3, h4⟩, ih hr⟩
  | case3 a _ _ _ ih =>
    obtain ⟨⟨kn, h1, h2, h3, h4, h5, h6⟩, hr⟩ := hk
    have hs := substituteAtom_ext h h5
    refine ⟨⟨kn, h1, by rw [hs]; exact h2, h3, by rw [hs]; exact h4, AtomClosed_ext h h5, ?_⟩, ih hr⟩
    simpa only [negBlockedBy, hs] using h6
  | case4 => exact hk.elim

theorem KidsOK_append {base M : DB} {ns : List Node} {β : Bindings} {ls : List Lit} {ks : List Nat} {l : Lit} {k : Nat}
    (hk : KidsOK base M ns β ls ks) (h2 : KidsOK base M ns β [l] [k]) : KidsOK base M ns β (ls ++ [l]) (ks ++ [k]) := by
  fun_induction KidsOK base M ns β ls ks with
  | case1 => exact h2
  | case2 _ _ _ _ ih | case3 _ _ _ _ ih => exact ⟨hk.1, ih hk.2⟩
  | case4 => exact hk.elim

theorem KidsOK_lt {base M : DB} {ns : List Node} {β : Bindings} {ls : List Lit} {ks : List Nat}
    (hk : KidsOK base M ns β ls ks) : ∀ k ∈ ks, k < ns.length := by
  fun_induction KidsOK base M ns β ls ks with
  | case1 => exact fun _ h => absurd h List.not_mem_nil
  | case2 _ _ _ _ ih | case3 _ _ _ _ ih =>
    obtain ⟨⟨kn, h1, _⟩, hr⟩ := hk
    exact List.forall_mem_cons.mpr ⟨(List.getElem?_eq_some_iff.mp h1).1, ih hr⟩
  | case4 => exact hk.elim

theorem NodeOK_mono {prog : Program} {base M : DB} {ns ns' : List Node} (h : ns <+: ns') {i : Nat} {n : Node}
    (hn : NodeOK prog base M ns i n) : NodeOK prog base M ns' i n := by
  obtain ⟨kind, pred, args, children⟩ := n
  cases kind with
  | rule idx β =>
    obtain ⟨hc, r, h1, h2, h3, h4, h5⟩ := hn
    exact ⟨hc, r, h1, h2, h3, h4, KidsOK_mono h h5⟩
  | fact s => cases s <;> exact hn
  | _ => exact hn

theorem BInv_empty (prog : Program) (base M : DB) : BInv prog base M {} :=
  ⟨fun i n h => by simp at h, fun k id h => by simp at h⟩

theorem getElem?_append_new {α} (l : List α) (x : α) : (l ++ [x])[l.length]? = some x := by simp

theorem getElem?_push {α} {l : List α} {x y : α} {i : Nat} (h : (l ++ [x])[i]? = some y) :
    l[i]? = some y ∨ (i = l.length ∧ y = x) := by
  rw [List.getElem?_append] at h
  split at h
  · exact Or.inl h
  · obtain ⟨hi, rfl⟩ := List.getElem?_eq_some_iff.mp h
    exact Or.inr ⟨by simp at hi; omega, by simp⟩

theorem NodeOK_push {prog : Program} {base M : DB} {ns : List Node} {n : Node}
    (hns : ∀ i m, ns[i]? = some m → NodeOK prog base M ns i m) (hn : NodeOK prog base M ns ns.length n) :
    ∀ i m, (ns ++ [n])[i]? = some m → NodeOK prog base M (ns ++ [n]) i m := by
  intro i m hi
  rcases getElem?_push hi with hi | ⟨rfl, rfl⟩
  · exact NodeOK_mono (List.prefix_append _ _) (hns i m hi)
  · exact NodeOK_mono (List.prefix_append _ _) hn

theorem BInv_insertUnique {prog : Program} {base M : DB} {b : Builder} (n : Node) (hb : BInv prog base M b)
    (hn : NodeOK prog base M b.nodes b.nodes.length n) :
    BInv prog base M (b.insertUnique n).2 ∧ Pre b (b.insertUnique n).2 ∧
      (b.insertUnique n).2.nodes[(b.insertUnique n).1]? = some n := by
  refine ⟨⟨NodeOK_push hb.nodes hn, fun key id hk => ?_⟩, List.prefix_append _ _, getElem?_append_new _ _⟩
  obtain ⟨m, h1, h2⟩ := hb.seen key id hk
  exact ⟨m, prefix_getElem? (List.prefix_append _ _) h1, h2⟩

theorem BInv_insertIncomplete {prog : Program} {base M : DB} {b : Builder} (n : Node) (hb : BInv prog base M b)
    (hn : NodeOK prog base M b.nodes b.nodes.length n) :
    BInv prog base M (b.insertIncomplete n).2 ∧ Pre b (b.insertIncomplete n).2 ∧
      (b.insertIncomplete n).2.nodes[(b.insertIncomplete n).1]? = some n := by
  obtain ⟨⟨h1, h2⟩, h3, h4⟩ := BInv_insertUnique n hb hn
  exact ⟨⟨h1, h2⟩, h3, h4⟩

theorem BInv_insert {prog : Program} {base M : DB} {b : Builder} (n : Node) (hb : BInv prog base M b)
    (hn : NodeOK prog base M b.nodes b.nodes.length n) (hneg : n.kind.isNeg = false) :
    BInv prog base M (b.insert n).2 ∧ Pre b (b.insert n).2 ∧
      ∃ m, (b.insert n).2.nodes[(b.insert n).1]? = some m ∧ m.pred = n.pred ∧ m.args = n.args ∧ m.kind.isNeg = false := by
  unfold Builder.insert
  split
  · rename_i id hid
    refine ⟨hb, Pre.refl b, ?_⟩
    split at hid
    · exact hb.seen (n.pred, n.args) id (lookup_mem hid)
    · cases hid
  · refine ⟨⟨NodeOK_push hb.nodes hn, fun key id hk => ?_⟩, List.prefix_append _ _, n, getElem?_append_new _ _, rfl, rfl, hneg⟩
    rcases List.mem_cons.mp hk with hk | hk
    · cases hk
      exact ⟨n, getElem?_append_new _ _, rfl, rfl, hneg⟩
    · obtain ⟨m, h1, h2⟩ := hb.seen key id hk
      exact ⟨m, prefix_getElem? (List.prefix_append _ _) h1, h2⟩

theorem BInv_insertRule {prog : Program} {base M : DB} {b : Builder} (n : Node) (hb : BInv prog base M b)
    (hn : NodeOK prog base M b.nodes b.nodes.length n) (hneg : n.kind.isNeg = false) :
    BInv prog base M (b.insertRule n).2 ∧ Pre b (b.insertRule n).2 ∧
      ∃ m, (b.insertRule n).2.nodes[(b.insertRule n).1]? = some m ∧ m.pred = n.pred ∧ m.args = n.args ∧ m.kind.isNeg = false := by
  unfold Builder.insertRule
  split
  · obtain ⟨h1, h2, h3⟩ := BInv_insertIncomplete n hb hn
    exact ⟨h1, h2, n, h3, rfl, rfl, hneg⟩
  · exact BInv_insert n hb hn hneg

end ILV.Prov
