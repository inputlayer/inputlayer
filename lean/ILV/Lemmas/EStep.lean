/-
  The storage-engine step system (ILV.Model.EStep): the kinds of transition a step can make (`Step`,
  through which every statement about `step` goes), facts about runs, and the invariant of runs without
  the incremental engine, used by Props/C20.
-/
import ILV.Model.EStep
namespace ILV.EStep

@[simp] theorem setThread_same (ts : Tid → Thread) (t : Tid) (v : Thread) : setThread ts t v t = v := by
  simp [setThread]
theorem setThread_other (ts : Tid → Thread) {t i : Tid} (v : Thread) (h : i ≠ t) : setThread ts t v i = ts i := by
  simp [setThread, h]

theorem forall_setThread {P : Tid → Thread → Prop} {ts : Tid → Thread} {t : Tid} {v : Thread}
    (ht : P t v) (ho : ∀ i, P i (ts i)) (i : Tid) : P i (setThread ts t v i) := by
  by_cases hit : i = t
  · subst hit; rw [setThread_same]; exact ht
  · rw [setThread_other _ _ hit]; exact ho i

theorem finish_done {th : Thread} {op : Op} {rest : List Op} (h : th.todo = op :: rest) (out : Out) (k : Nat) :
    (th.finish out k).done = th.done ++ [(op, out, k)] := by
  simp [Thread.finish, h]

theorem finish_pc {th : Thread} {op : Op} {rest : List Op} (h : th.todo = op :: rest) (o : Out) (g : Nat) :
    (th.finish o g).pc = .start := by simp [Thread.finish, h]

theorem replay_snoc (l : List (Tid × Op)) (x : Tid × Op) : replay (l ++ [x]) = applyW (replay l) x.2 := by
  simp [replay, List.foldl_append]

theorem replayR_snoc (l : List (Tid × Op)) (x : Tid × Op) : replayR (l ++ [x]) = applyR (replayR l) x.2 := by
  simp [replayR, List.foldl_append]

theorem setRel_self (f : Rel → List Tup) (r : Rel) : setRel f r (f r) = f := by
  funext x; by_cases h : x = r <;> simp [setRel, h]

def isWrite : Op → Bool
  | .insert _ ts => !ts.isEmpty
  | .delete _ ts => !ts.isEmpty
  | .regRule _ _ => true
  | .dropRule _ => true
  | _ => false

/-- the kinds of transition a step of thread `t`, standing at operation `op`, can make -/
inductive Step (st : State) (t : Tid) (op : Op) : State → Prop
  /-- the call returns `out`; the shared state is untouched (queries; a consistent read with the
      engine off; an empty batch; a delete on an unknown relation) -/
  | ret (out : Out) (hq : ∀ r, op = .query r → out = .rows (st.snap r))
      (hv : ∀ v, op = .queryV v → out = .rows (evalView st.snap st.snapRules v))
      (hw : isWrite op = true → out = .del 0) :
      Step st t op { st with threads := setThread st.threads t ((st.threads t).finish out st.applied.length) }
  | readc (i : Inc) (r : Rel) (hi : st.inc = some i) :
      Step st t op { st with inc := some (i.readc r).1,
                             threads := setThread st.threads t ((st.threads t).finish (i.readc r).2 st.applied.length) }
  | rule (hop : (∃ v r, op = .regRule v r) ∨ ∃ v, op = .dropRule v) : Step st t op (ruleStep st t (st.threads t) op)
  | time :
      Step st t op { st with clock := st.clock + 1,
                             threads := setThread st.threads t { st.threads t with pc := .afterTime st.clock } }
  | persist (τ : Nat) (lg : List (Rel × Tup × Nat × Int)) (hpc : (st.threads t).pc = .afterTime τ) :
      Step st t op { st with log := lg, threads := setThread st.threads t { st.threads t with pc := .afterPersist τ } }
  | apply (τ : Nat) (hpc : (st.threads t).pc = .afterPersist τ) : Step st t op (applyStep st t (st.threads t) op τ)

theorem step_of_ge {st : State} {t : Tid} (h : t ≥ st.n) : step st t = .skip := by
  unfold step; exact if_pos h

theorem step_cases {st st' : State} {t : Tid} (hs : step st t = .ok st') :
    ∃ op rest, t < st.n ∧ (st.threads t).todo = op :: rest ∧ Step st t op st' := by
  by_cases htn : t ≥ st.n
  · rw [step_of_ge htn] at hs; cases hs
  unfold step at hs
  rw [if_neg htn] at hs
  extract_lets th at hs
  split at hs
  · cases hs
  next op rest htodo =>
  refine ⟨op, rest, Nat.lt_of_not_le htn, htodo, ?_⟩
  cases op with
  | query r =>
    simp only at hs; cases hs
    exact .ret _ (fun _ h => by cases h; rfl) (fun _ h => nomatch h) (fun h => nomatch h)
  | queryV v =>
    simp only at hs; cases hs
    exact .ret _ (fun _ h => nomatch h) (fun _ h => by cases h; rfl) (fun h => nomatch h)
  | regRule v r => simp only at hs; cases hs; exact .rule (.inl ⟨v, r, rfl⟩)
  | dropRule v => simp only at hs; cases hs; exact .rule (.inr ⟨v, rfl⟩)
  | readc r =>
    simp only at hs
    split at hs <;> cases hs
    · exact .ret _ (fun _ h => nomatch h) (fun _ h => nomatch h) (fun h => nomatch h)
    · exact .readc _ r ‹_›
  | insert r ts =>
    cases hpc : th.pc with
    | start =>
      simp only [hpc, opRows, Bool.false_eq_true, if_false] at hs
      by_cases hemp : ts.isEmpty = true
      · rw [if_pos hemp] at hs; cases hs
        exact .ret _ (fun _ h => nomatch h) (fun _ h => nomatch h) (fun h => by rw [isWrite, hemp] at h; cases h)
      · rw [if_neg hemp] at hs; cases hs; exact .time
    | afterTime τ => simp only [hpc, opRows] at hs; cases hs; exact .persist τ _ hpc
    | afterPersist τ => simp only [hpc] at hs; cases hs; exact .apply τ hpc
  | delete r ts =>
    cases hpc : th.pc with
    | start =>
      by_cases hemp : ts.isEmpty = true
      · simp only [hpc, opRows, hemp, if_true] at hs; cases hs
        exact .ret _ (fun _ h => nomatch h) (fun _ h => nomatch h) (fun _ => rfl)
      · by_cases hk : (!st.known r) = true
        · simp only [hpc, opRows, hemp, hk, if_true, if_false] at hs; cases hs
          exact .ret _ (fun _ h => nomatch h) (fun _ h => nomatch h) (fun _ => rfl)
        · simp only [hpc, opRows, hemp, hk, if_false] at hs; cases hs; exact .time
    | afterTime τ => simp only [hpc, opRows] at hs; cases hs; exact .persist τ _ hpc
    | afterPersist τ => simp only [hpc] at hs; cases hs; exact .apply τ hpc

theorem trace_induct {P : State → Prop} (hP : ∀ st t st', P st → step st t = .ok st' → P st') :
    ∀ (sched : List Tid) (st : State), P st → ∀ st' ∈ trace st sched, P st'
  | [], st, h, st', hm => by rw [trace, List.mem_singleton] at hm; exact hm ▸ h
  | t :: ts, st, h, st', hm => by
    unfold trace at hm
    split at hm <;> rcases List.mem_cons.mp hm with hm | hm
    · exact hm ▸ h
    · exact trace_induct hP ts _ (hP st t _ h ‹_›) st' hm
    · exact hm ▸ h
    · exact trace_induct hP ts st h st' hm

theorem head_mem_trace (st : State) : ∀ sched : List Tid, st ∈ trace st sched
  | [] => List.mem_singleton.mpr rfl
  | t :: ts => by unfold trace; split <;> exact List.mem_cons_self

theorem lastState_mem : ∀ (sched : List Tid) (st : State), lastState st sched ∈ trace st sched
  | [], st => List.mem_singleton.mpr rfl
  | t :: ts, st => by
    unfold lastState trace
    split <;> exact List.mem_cons_of_mem _ (lastState_mem ts _)

theorem applyStep_frame (st : State) (t : Tid) (th : Thread) (op : Op) (τ : Nat) :
    (applyStep st t th op τ).n = st.n ∧ st.applied <+: (applyStep st t th op τ).applied := by
  cases op with
  | insert r ts | delete r ts =>
    simp only [applyStep, apply_ite State.n, apply_ite State.applied, ite_self, true_and]; exact List.prefix_append _ _
  | _ => exact ⟨rfl, List.prefix_refl _⟩

theorem ruleStep_frame (st : State) (t : Tid) (th : Thread) (op : Op) :
    (ruleStep st t th op).n = st.n ∧ st.applied <+: (ruleStep st t th op).applied := by
  cases op with
  | regRule v r => exact ⟨rfl, List.prefix_append _ _⟩
  | dropRule v => simp only [ruleStep]; split <;> exact ⟨rfl, List.prefix_append _ _⟩
  | _ => exact ⟨rfl, List.prefix_refl _⟩

theorem step_frame {st st' : State} {t : Tid} (hs : step st t = .ok st') : st'.n = st.n ∧ st.applied <+: st'.applied := by
  obtain ⟨op, rest, _, _, h⟩ := step_cases hs
  cases h with
  | rule => exact ruleStep_frame ..
  | apply => exact applyStep_frame ..
  | _ => exact ⟨rfl, List.prefix_refl _⟩

theorem lastState_n (sched : List Tid) (st : State) : (lastState st sched).n = st.n :=
  trace_induct (P := fun s => s.n = st.n) (fun _ _ _ h hs => (step_frame hs).1.trans h) sched st rfl _
    (lastState_mem sched st)

theorem trace_applied_prefix : ∀ (sched : List Tid) (st : State), ∀ st' ∈ trace st sched,
    st'.applied <+: (lastState st sched).applied
  | [], st, st', hm => by rw [trace, List.mem_singleton] at hm; exact hm ▸ List.prefix_refl _
  | t :: ts, st, st', hm => by
    cases hs : step st t with
    | ok st2 =>
      simp only [trace, lastState, hs] at hm ⊢
      rcases List.mem_cons.mp hm with hm | hm
      · exact hm ▸ (step_frame hs).2.trans (trace_applied_prefix ts _ _ (head_mem_trace _ ts))
      · exact trace_applied_prefix ts _ st' hm
    | skip =>
      simp only [trace, lastState, hs] at hm ⊢
      rcases List.mem_cons.mp hm with hm | hm
      · exact hm ▸ trace_applied_prefix ts _ _ (head_mem_trace _ ts)
      · exact trace_applied_prefix ts st st' hm

/-- what is recorded about one returned call: its ghost index `k` is a length of the application order;
    a query's answer is computed from the facts *and rules* after the first `k` applications; a write
    sits at position `k-1` of the application order (a delete that reports 0 removed tuples may have been
    filtered out before being applied — unknown relation — and has no effect either way) -/
def EntryOk (applied : List (Tid × Op)) (t : Tid) (e : Op × Out × Nat) : Prop :=
  e.2.2 ≤ applied.length ∧
  ((∀ r, e.1 = .query r → e.2.1 = .rows (replay (applied.take e.2.2) r)) ∧
   (∀ v, e.1 = .queryV v → e.2.1 = .rows (evalView (replay (applied.take e.2.2)) (replayR (applied.take e.2.2)) v))) ∧
  (isWrite e.1 = true → e.2.1 ≠ .del 0 → 1 ≤ e.2.2 ∧ applied[e.2.2 - 1]? = some (t, e.1))

theorem EntryOk.snoc {applied : List (Tid × Op)} {t : Tid} {e : Op × Out × Nat} (x : Tid × Op)
    (h : EntryOk applied t e) : EntryOk (applied ++ [x]) t e := by
  obtain ⟨h1, h2, h3⟩ := h
  refine ⟨by simp; omega, ⟨?_, ?_⟩, ?_⟩
  · intro r hr
    rw [List.take_append_of_le_length h1]; exact h2.1 r hr
  · intro v hv
    rw [List.take_append_of_le_length h1]; exact h2.2 v hv
  · intro hw hne
    obtain ⟨h4, h5⟩ := h3 hw hne
    refine ⟨h4, ?_⟩
    rw [List.getElem?_append_left (by omega)]; exact h5

/-- the record of one thread: every entry is justified, and the ghost indices grow -/
def DoneOk (applied : List (Tid × Op)) (t : Tid) (d : List (Op × Out × Nat)) : Prop :=
  (∀ e ∈ d, EntryOk applied t e) ∧ d.Pairwise (fun a b => a.2.2 ≤ b.2.2)

theorem DoneOk.snoc {applied : List (Tid × Op)} {t : Tid} {d : List (Op × Out × Nat)} (x : Tid × Op)
    (h : DoneOk applied t d) : DoneOk (applied ++ [x]) t d :=
  ⟨fun e he => (h.1 e he).snoc x, h.2⟩

theorem DoneOk.push {applied : List (Tid × Op)} {t : Tid} {d : List (Op × Out × Nat)} {op : Op} {out : Out}
    (h : DoneOk applied t d) (he : EntryOk applied t (op, out, applied.length)) :
    DoneOk applied t (d ++ [(op, out, applied.length)]) := by
  refine ⟨fun e hm => ?_, List.pairwise_append.mpr ⟨h.2, List.pairwise_singleton .., fun a ha b hb => ?_⟩⟩
  · rcases List.mem_append.mp hm with hm | hm
    · exact h.1 e hm
    · rw [List.mem_singleton.mp hm]; exact he
  · rw [List.mem_singleton.mp hb]; exact (h.1 a ha).1

structure Inv (st : State) : Prop where
  noInc : st.inc = none
  live : st.live = replay st.applied
  rulesI : st.rules = replayR st.applied
  snap : st.snap = st.live
  snapR : st.snapRules = st.rules
  done : ∀ t, DoneOk st.applied t (st.threads t).done

theorem inv_init (progs : List (List Op)) : Inv (init progs false) :=
  ⟨rfl, rfl, rfl, rfl, rfl, fun _ => And.intro (fun _ he => nomatch he) List.Pairwise.nil⟩

theorem inv_finish {st : State} {t : Tid} {op : Op} {rest : List Op} {out : Out} (h : Inv st)
    (htodo : (st.threads t).todo = op :: rest)
    (he : EntryOk st.applied t (op, out, st.applied.length)) :
    Inv { st with threads := setThread st.threads t ((st.threads t).finish out st.applied.length) } :=
  ⟨h.noInc, h.live, h.rulesI, h.snap, h.snapR,
    forall_setThread (P := fun i th => DoneOk st.applied i th.done) (finish_done htodo .. ▸ (h.done t).push he) h.done⟩

theorem inv_pc {st : State} {t : Tid} {th' : Thread} {c : Nat} {lg : List (Rel × Tup × Nat × Int)} (h : Inv st)
    (hd : th'.done = (st.threads t).done) :
    Inv { st with clock := c, log := lg, threads := setThread st.threads t th' } :=
  ⟨h.noInc, h.live, h.rulesI, h.snap, h.snapR, forall_setThread (P := fun i th => DoneOk st.applied i th.done) (hd ▸ h.done t) h.done⟩

/-- a write (fact or rule operation) is applied and published under the KG write lock -/
theorem inv_write {st st' : State} {t : Tid} {op : Op} {rest : List Op} {out : Out} (h : Inv st)
    (htodo : (st.threads t).todo = op :: rest) (hq : ∀ r, op ≠ .query r) (hv : ∀ v, op ≠ .queryV v)
    (hinc : st'.inc = none) (happ : st'.applied = st.applied ++ [(t, op)])
    (hlive : st'.live = applyW st.live op) (hrules : st'.rules = applyR st.rules op)
    (hsnap : st'.snap = st'.live) (hsnapR : st'.snapRules = st'.rules)
    (hth : st'.threads = setThread st.threads t ((st.threads t).finish out st'.applied.length)) : Inv st' := by
  refine ⟨hinc, ?_, ?_, hsnap, hsnapR, ?_⟩
  · rw [hlive, happ, replay_snoc, ← h.live]
  · rw [hrules, happ, replayR_snoc, ← h.rulesI]
  · rw [hth, happ]
    refine forall_setThread (P := fun i th => DoneOk (st.applied ++ [(t, op)]) i th.done) ?_ fun i => (h.done i).snoc _
    rw [finish_done htodo]
    refine ((h.done t).snoc _).push ⟨Nat.le_refl _, ⟨fun r hr => absurd hr (hq r), fun v hv' => absurd hv' (hv v)⟩, fun _ _ => ?_⟩
    simp

theorem insertMem_nochange : ∀ (ts cur : List Tup), (insertMem cur ts).2 = [] → (insertMem cur ts).1 = cur := by
  intro ts
  induction ts with
  | nil => intro cur _; rfl
  | cons t ts ih =>
    intro cur h
    unfold insertMem at h ⊢
    split
    · rename_i hc; simp only [hc, if_true] at h; exact ih cur h
    · rename_i hc; simp only [hc] at h; simp at h

theorem deleteMem_nochange (cur ts : List Tup) (h : cur.length - (deleteMem cur ts).1.length = 0) :
    (deleteMem cur ts).1 = cur := by
  unfold deleteMem at h ⊢
  simp only at h ⊢
  have hle := List.length_filter_le (fun x => !ts.contains x) cur
  have : (cur.filter (fun x => !ts.contains x)).length = cur.length := by omega
  exact List.filter_eq_self.mpr (List.length_filter_eq_length_iff.mp this)

/-- the in-memory apply of a fact write: what is not published did not change -/
theorem inv_apply {st : State} {t : Tid} {op : Op} {rest : List Op} {τ : Nat} (h : Inv st)
    (htodo : (st.threads t).todo = op :: rest) :
    Inv (applyStep st t (st.threads t) op τ) := by
  cases op with
  | insert r ts =>
    simp only [applyStep, h.noInc, Bool.not_true, Bool.false_eq_true, if_false]
    refine inv_write h htodo (fun _ => nofun) (fun _ => nofun) rfl rfl rfl rfl ?_ ?_ rfl
    · show (if _ then _ else _) = _
      split
      · next hnw =>
        rw [h.snap, insertMem_nochange ts _ (List.isEmpty_iff.mp hnw), setRel_self]
      · rfl
    · show (if _ then _ else _) = _
      split
      · exact h.snapR
      · rfl
  | delete r ts =>
    simp only [applyStep, h.noInc, Bool.not_true, Bool.false_eq_true, if_false]
    refine inv_write h htodo (fun _ => nofun) (fun _ => nofun) rfl rfl rfl rfl ?_ ?_ rfl
    · show (if _ then _ else _) = _
      split
      · next hrem =>
        rw [h.snap, deleteMem_nochange _ _ (by simpa using hrem), setRel_self]
      · rfl
    · show (if _ then _ else _) = _
      split
      · exact h.snapR
      · rfl
  | _ => exact h

theorem filter_of_lookupR_none (v : Nat) : ∀ (rules : Rules), lookupR v rules = none → rules.filter (fun e => e.1 != v) = rules := by
  intro rules
  induction rules with
  | nil => intro _; rfl
  | cons e l ih =>
    intro h
    obtain ⟨a, b⟩ := e
    simp only [lookupR] at h
    split at h
    · cases h
    · rename_i hne
      have hb : (a != v) = true := by simpa using hne
      simp [List.filter, hb, ih h]

/-- register / drop of a rule: catalog update and publish in one critical section; a failing drop
    changes nothing and publishes nothing -/
theorem inv_rule {st : State} {t : Tid} {op : Op} {rest : List Op} (h : Inv st)
    (htodo : (st.threads t).todo = op :: rest) (hop : (∃ v r, op = .regRule v r) ∨ ∃ v, op = .dropRule v) :
    Inv (ruleStep st t (st.threads t) op) := by
  rcases hop with ⟨v, r, hop⟩ | ⟨v, hop⟩ <;> subst hop
  · exact inv_write h htodo (fun _ => nofun) (fun _ => nofun) h.noInc rfl rfl rfl rfl rfl rfl
  · simp only [ruleStep]
    split
    · next hl =>
      refine inv_write h htodo (fun _ => nofun) (fun _ => nofun) h.noInc rfl rfl ?_ h.snap h.snapR rfl
      exact (filter_of_lookupR_none v st.rules hl).symm
    · exact inv_write h htodo (fun _ => nofun) (fun _ => nofun) h.noInc rfl rfl rfl rfl rfl rfl

theorem step_inv {st st' : State} {t : Tid} (h : Inv st) (hs : step st t = .ok st') : Inv st' := by
  obtain ⟨op, rest, _, htodo, hstep⟩ := step_cases hs
  cases hstep with
  | ret out hq hv hw =>
    refine inv_finish h htodo ⟨Nat.le_refl _, ⟨fun r hr => ?_, fun v hv' => ?_⟩, fun hw' hne => absurd (hw hw') hne⟩
    · rw [hq r hr, List.take_length, ← h.live, h.snap]
    · rw [hv v hv', List.take_length, ← h.live, ← h.rulesI, h.snap, h.snapR]
  | readc i r hi => rw [h.noInc] at hi; cases hi
  | rule hop => exact inv_rule h htodo hop
  | time => exact inv_pc h rfl
  | persist => exact inv_pc h rfl
  | apply => exact inv_apply h htodo

theorem trace_inv (sched : List Tid) (st : State) : Inv st → ∀ st' ∈ trace st sched, Inv st' :=
  trace_induct (fun _ _ _ => step_inv) sched st

end ILV.EStep
