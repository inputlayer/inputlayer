/-
  Boolean specialisation (`transform_for_semiring`): with a non-Boolean annotation it only collapses
  `Distinct(Distinct x)` (rows unchanged); with a Boolean annotation it inserts/removes `Distinct`
  around joins, antijoin inputs and scans, which preserves the *set* of rows of aggregate-free trees.
-/
import ILV.Lemmas.IRBasic
namespace ILV.IR
open ILV

theorem eval_isDistinct {db : Db} {t : Node} (h : isDistinct t = true) : dedup (eval db t) = eval db t := by
  cases t <;> simp [isDistinct] at h
  simp [eval, dedup_idem]

mutual
theorem bs_false_eval (db : Db) : ∀ t, eval db (bsTransform false t) = eval db t
  | .scan .. => rfl
  | .hnsw .. => rfl
  | .map i .. => by unfold bsTransform eval; rw [bs_false_eval db i]
  | .filter i _ => by unfold bsTransform eval; rw [bs_false_eval db i]
  | .join l r .. => by
    unfold bsTransform; rw [if_neg Bool.false_ne_true]; unfold eval; rw [bs_false_eval db l, bs_false_eval db r]
  | .distinct i => by
    have hi := bs_false_eval db i
    unfold bsTransform
    simp only [Bool.and_false, Bool.false_eq_true, ↓reduceIte]
    split
    · next hd => rw [← eval_isDistinct hd, hi]; rfl
    · unfold eval; rw [hi]
  | .union is => by unfold bsTransform eval; rw [bs_false_evalL db is]
  | .aggregate i .. => by unfold bsTransform eval; rw [bs_false_eval db i]
  | .antijoin l r .. => by
    unfold bsTransform; rw [if_neg Bool.false_ne_true]; unfold eval; rw [bs_false_eval db l, bs_false_eval db r]
  | .compute i _ => by unfold bsTransform eval; rw [bs_false_eval db i]
  | .flatMap i .. => by unfold bsTransform eval; rw [bs_false_eval db i]
  | .joinFlatMap l r .. => by
    unfold bsTransform; rw [if_neg Bool.false_ne_true]; unfold eval; rw [bs_false_eval db l, bs_false_eval db r]
theorem bs_false_evalL (db : Db) : ∀ ts, evalList db (bsTransformL false ts) = evalList db ts
  | .nil => rfl
  | .cons t ts => by unfold bsTransformL evalList; rw [bs_false_eval db t, bs_false_evalL db ts]
end

theorem SetEq.refl (a : List Tuple) : SetEq a a := fun _ => Iff.rfl

theorem setEq_dedup (a : List Tuple) : SetEq (dedup a) a := fun _ => mem_dedup

theorem SetEq.symm {a b : List Tuple} (h : SetEq a b) : SetEq b a := fun x => (h x).symm

theorem SetEq.trans {a b c : List Tuple} (h1 : SetEq a b) (h2 : SetEq b c) : SetEq a c := fun x => (h1 x).trans (h2 x)

theorem setEq_map {a b : List Tuple} (f : Tuple → Tuple) (h : SetEq a b) : SetEq (a.map f) (b.map f) := by
  intro x; simp only [List.mem_map, h _]

theorem setEq_filter {a b : List Tuple} (f : Tuple → Bool) (h : SetEq a b) : SetEq (a.filter f) (b.filter f) := by
  intro x; simp only [List.mem_filter, h x]

theorem setEq_filterMap {a b : List Tuple} (f : Tuple → Option Tuple) (h : SetEq a b) :
    SetEq (a.filterMap f) (b.filterMap f) := by
  intro x; simp only [List.mem_filterMap, h _]

theorem setEq_append {a b c d : List Tuple} (h1 : SetEq a b) (h2 : SetEq c d) : SetEq (a ++ c) (b ++ d) := by
  intro x; simp only [List.mem_append, h1 x, h2 x]

theorem setEq_joinRows {a b c d : List Tuple} (lk rk : List Nat) (h1 : SetEq a b) (h2 : SetEq c d) :
    SetEq (joinRows a c lk rk) (joinRows b d lk rk) := by
  intro x; simp only [joinRows, List.mem_flatMap, List.mem_filterMap, h1 _, h2 _]

theorem setEq_jfmRows {a b c d : List Tuple} (lk rk proj : List Nat) (fp : Option Pred) (h1 : SetEq a b) (h2 : SetEq c d) :
    SetEq (jfmRows a c lk rk proj fp) (jfmRows b d lk rk proj fp) := by
  intro x; simp only [jfmRows, List.mem_flatMap, List.mem_filterMap, h1 _, h2 _]

theorem setEq_antiRows {a b c d : List Tuple} (lk rk : List Nat) (h1 : SetEq a b) (h2 : SetEq c d) :
    SetEq (antiRows a c lk rk) (antiRows b d lk rk) := by
  intro x
  simp only [antiRows, List.mem_filter, h1 x, List.contains_eq_mem, List.mem_map, h2 _]

mutual
theorem bs_setEq (db : Db) (b : Bool) : ∀ t, aggFree t = true → SetEq (eval db (bsTransform b t)) (eval db t)
  | .scan .., _ => SetEq.refl _
  | .hnsw .., _ => SetEq.refl _
  | .map i .., h => by unfold bsTransform eval; exact setEq_map _ (bs_setEq db b i h)
  | .filter i _, h => by unfold bsTransform eval; exact setEq_filter _ (bs_setEq db b i h)
  | .compute i _, h => by unfold bsTransform eval; exact setEq_map _ (bs_setEq db b i h)
  | .flatMap i .., h => by unfold bsTransform eval; exact setEq_filterMap _ (bs_setEq db b i h)
  | .union is, h => by unfold bsTransform eval; exact bs_setEqL db b is h
  | .aggregate .., h => nomatch h
  | .join l r lk rk s, h => by
    have h := (Bool.and_eq_true _ _).mp h
    have hj := setEq_joinRows lk rk (bs_setEq db b l h.1) (bs_setEq db b r h.2)
    unfold bsTransform
    cases b with
    | true => exact (setEq_dedup _).trans hj
    | false => exact hj
  | .joinFlatMap l r lk rk proj fp s, h => by
    have h := (Bool.and_eq_true _ _).mp h
    have hj := setEq_jfmRows lk rk proj fp (bs_setEq db b l h.1) (bs_setEq db b r h.2)
    unfold bsTransform
    cases b with
    | true => exact (setEq_dedup _).trans hj
    | false => exact hj
  | .distinct i, h => by
    -- whether or not the `Distinct` is kept, the set of rows is that of the input
    have hi := (bs_setEq db b i h).trans (setEq_dedup _).symm
    simp only [bsTransform]
    split
    · exact hi
    · split
      · exact hi
      · exact (setEq_dedup _).trans hi
  | .antijoin l r lk rk s, h => by
    have h := (Bool.and_eq_true _ _).mp h
    have hl := bs_setEq db b l h.1
    have hr := bs_setEq db b r h.2
    cases b with
    | true =>
      simp only [bsTransform, ↓reduceIte]
      split
      · exact setEq_antiRows lk rk hl hr
      · exact setEq_antiRows lk rk ((setEq_dedup _).trans hl) hr
    | false => unfold bsTransform; exact setEq_antiRows lk rk hl hr
theorem bs_setEqL (db : Db) (b : Bool) : ∀ ts, aggFreeL ts = true → SetEq (evalList db (bsTransformL b ts)) (evalList db ts)
  | .nil, _ => SetEq.refl _
  | .cons t ts, h =>
    have h := (Bool.and_eq_true _ _).mp h
    setEq_append (bs_setEq db b t h.1) (bs_setEqL db b ts h.2)
end

end ILV.IR
