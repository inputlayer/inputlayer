/-
  One round `apply_all_rules` and its iteration; `fuse_to_flatmap`; and what
  `remap_projection_for_join_flatmap` does to a row (used by `fuse_to_join_flatmap`, IROptimize).
-/
import ILV.Lemmas.IROptRules2
namespace ILV.IR
open ILV

theorem applyAll_ok (db : Db) (t : Node) (h : wf db t = true) : Ok db t (applyAll t) := by
  have h1 := elimIdMaps_ok db t h
  have h2 := elimTrue_ok db _ h1.w
  have h3 := elimFalse_ok db _ h2.w
  have h4 := fuseMaps_ok db _ h3.w
  have h5 := fuseFilters_ok db _ h4.w
  have h6 := pushdown_ok db _ h5.w
  have h7 := elimEmpty_ok db _ h6.w
  exact (((((h1.trans h2).trans h3).trans h4).trans h5).trans h6).trans h7

theorem iterate_preserves {α β} (f : α → α) (den : α → β) (inv : α → Prop)
    (step : ∀ x, inv x → inv (f x) ∧ den (f x) = den x) : ∀ n x, inv x → inv (iter f n x) ∧ den (iter f n x) = den x
  | 0, _, h => ⟨h, rfl⟩
  | n + 1, x, h => by
    have h1 := step x h
    have h2 := iterate_preserves f den inv step n (f x) h1.1
    exact ⟨h2.1, h2.2.trans h1.2⟩

theorem iter_applyAll_ok (db : Db) (n : Nat) (t : Node) (h : wf db t = true) : Ok db t (iter applyAll n t) := by
  obtain ⟨hw, hd⟩ := iterate_preserves applyAll (fun t => (⟨width t, eval db t⟩ : Nat × List Tuple))
    (fun t => wf db t = true)
    (fun x hx => have hs := applyAll_ok db x hx; ⟨hs.w, by rw [hs.wd, hs.ev]⟩) n t h
  exact ⟨hw, (Prod.mk.inj hd).1, (Prod.mk.inj hd).2⟩

theorem filterMap_flatMapRow (l : List Tuple) (proj : List Nat) (p : Pred) :
    l.filterMap (flatMapRow proj (some p)) = (l.map (fun t => project t proj)).filter (fun t => p.eval t) := by
  induction l with
  | nil => rfl
  | cons a l ih =>
    simp only [List.filterMap_cons, List.map_cons, List.filter_cons, flatMapRow, fpOk]
    by_cases hp : p.eval (project a proj) = true
    · simp only [hp, ↓reduceIte]
      rw [← ih]
    · simp only [hp]
      rw [← ih]; simp

theorem Ok.filter_map {db : Db} {i : Node} {proj : List Nat} {s : List String} {p : Pred}
    (h : wf db (.filter (.map i proj s) p) = true) : Ok db (.filter (.map i proj s) p) (.flatMap i proj (some p) s) :=
  ⟨wf_filter h, rfl, by simp only [eval, filterMap_flatMapRow]⟩

theorem fuseFlatMap_ok (db : Db) : ∀ t, wf db t = true → Ok db t (fuseFlatMap t) :=
  Ok.bottomUp (fL := fuseFlatMapL) rfl (fun _ _ => rfl) fun t _ hk => by
    cases t with
    | filter i p =>
      simp only [fuseFlatMap]
      split
      · next heq =>
        simp only [Node.mapKids, heq] at hk
        exact hk.trans (Ok.filter_map hk.w)
      · exact hk
    | _ => exact hk

theorem fuseFlatMapL_ok (db : Db) : ∀ ts, wfL db ts = true → OkL db ts (fuseFlatMapL ts) :=
  OkL.ofOk rfl (fun _ _ => rfl) (fuseFlatMap_ok db)

theorem project_congr_map {x y : Tuple} {idx : List Nat} {f : Nat → Nat} (h : ∀ i ∈ idx, x[i]? = y[f i]?) :
    project x idx = project y (idx.map f) := by
  induction idx with
  | nil => rfl
  | cons i idx ih =>
    have ih := ih (fun j hj => h j (by simp [hj]))
    unfold project at ih ⊢
    simp only [List.filterMap_cons, List.map_cons, h i (by simp), ih]

theorem project_remap (a b : Tuple) (rk proj : List Nat) (h : nodupNat rk = true) :
    project (a ++ excluding b rk) proj = project (a ++ b) (remapProj proj a.length rk) := by
  unfold remapProj
  apply project_congr_map
  intro i _
  by_cases hi : i < a.length
  · simp [hi, List.getElem?_append_left hi]
  · have hge : a.length ≤ i := by omega
    simp only [hi, ↓reduceIte]
    rw [List.getElem?_append_right hge, List.getElem?_append_right (by omega), excluding_reinsert b rk h]
    congr 1
    omega

theorem remapProj_nil (proj : List Nat) (lw : Nat) : remapProj proj lw [] = proj := by
  unfold remapProj
  have : sortNat [] = [] := rfl
  simp only [this, reinsert]
  conv => rhs; rw [← List.map_id proj]
  apply List.map_congr_left
  intro i _
  by_cases h : i < lw <;> simp [h] <;> omega

theorem join_jfm_row (lk rk proj : List Nat) (fp : Option Pred) (a b : Tuple) (h : nodupNat rk = true) :
    (joinRow lk rk a b).bind (flatMapRow proj fp) = jfmRow lk rk (remapProj proj a.length rk) fp a b := by
  unfold joinRow jfmRow
  by_cases hc : (lk.isEmpty && rk.isEmpty) = true
  · simp only [Bool.and_eq_true, List.isEmpty_iff] at hc
    obtain ⟨rfl, rfl⟩ := hc
    simp [remapProj_nil, project, flatMapRow]
    rfl
  · simp only [hc, Bool.false_eq_true, ↓reduceIte]
    by_cases hk : (project a lk == project b rk) = true
    · simp only [hk, ↓reduceIte, Option.bind_some, flatMapRow, project_remap a b rk proj h]
    · simp [hk]

end ILV.IR
