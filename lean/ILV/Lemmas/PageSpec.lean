/-
  C35: the executable Spec oracle `specPageOk` is equivalent to the proposition
  "the page is `take limit (drop offset s)` for some permutation `s` of the answer whose rows without
  a NaN sort key are in the exact order" (`PageSpec`), for answers of well-formed rows.
-/
import ILV.Lemmas.WireOrder
namespace ILV

theorem specRowCmp_eq (keys : List SortKey) (x y : WRow)
    (hx : rowHasNaNKey keys x = false) (hy : rowHasNaNKey keys y = false) :
    specRowCmp keys x y = rowCmp keys x y := by
  refine specRowCmp_eq_of keys x y fun k hk => specCmpO_eq _ _ fun v w hv hw => specCmpV_eq v w ?_
  have nx := List.any_eq_false.1 hx k hk
  have ny := List.any_eq_false.1 hy k hk
  dsimp only at nx ny
  rw [hv] at nx
  rw [hw] at ny
  rintro a b (⟨rfl, rfl⟩ | ⟨rfl, rfl⟩)
  · exact Bool.eq_false_iff.2 ny
  · exact Bool.eq_false_iff.2 nx

/-- rows the Spec orders: well-formed and without a NaN sort key. -/
def NFW (keys : List SortKey) (r : WRow) : Prop := RowWF r ∧ nfRow keys r = true

theorem nfRow_false {keys : List SortKey} {r : WRow} (h : nfRow keys r = true) : rowHasNaNKey keys r = false := by
  simpa [nfRow] using h

theorem spec_tp (keys : List SortKey) : TP (NFW keys) (specRowCmp keys) :=
  ((rowCmp_tp keys).comap id fun _ h => h.1).congr fun a b pa pb =>
    specRowCmp_eq keys a b (nfRow_false pa.2) (nfRow_false pb.2)

theorem eraseOne_eq (r : WRow) (l : List WRow) :
    eraseOne r l = if r ∈ l then some (l.erase r) else none := by
  induction l with
  | nil => rfl
  | cons x xs ih =>
    rw [eraseOne, ih, List.erase_cons]
    by_cases e : x = r
    · simp [e]
    · by_cases hm : r ∈ xs <;> simp [e, Ne.symm e, hm]

theorem subMultiset_perm : ∀ (page a rest : List WRow), subMultiset page a = some rest → (page ++ rest).Perm a := by
  intro page
  induction page with
  | nil => intro a rest h; cases h; exact .refl _
  | cons r rs ih =>
    intro a rest h
    rw [subMultiset, eraseOne_eq] at h
    by_cases hm : r ∈ a
    · rw [if_pos hm] at h
      exact ((ih _ rest h).cons r).trans (List.perm_cons_erase hm).symm
    · rw [if_neg hm] at h; cases h

theorem subMultiset_complete : ∀ (page a r' : List WRow), (page ++ r').Perm a →
    ∃ rest, subMultiset page a = some rest ∧ rest.Perm r' := by
  intro page
  induction page with
  | nil => intro a r' h; exact ⟨a, rfl, h.symm⟩
  | cons r rs ih =>
    intro a r' h
    have hm : r ∈ a := h.mem_iff.1 (List.mem_cons_self ..)
    obtain ⟨rest, hr, hperm⟩ := ih (a.erase r) r' (h.trans (List.perm_cons_erase hm)).cons_inv
    exact ⟨rest, by rw [subMultiset, eraseOne_eq, if_pos hm]; exact hr, hperm⟩

theorem sortedBy_iff (cmp : WRow → WRow → Ordering) :
    ∀ (l : List WRow), (∀ a ∈ l, ∀ b ∈ l, ∀ c ∈ l, cmp a b ≠ .gt → cmp b c ≠ .gt → cmp a c ≠ .gt) →
      (sortedBy cmp l = true ↔ l.Pairwise (fun x y => cmp x y ≠ .gt))
  | [], _ => by simp [sortedBy]
  | [_], _ => by simp [sortedBy]
  | a :: b :: rest, htr => by
    have ih := sortedBy_iff cmp (b :: rest) fun x hx y hy z hz =>
      htr x (List.mem_cons_of_mem _ hx) y (List.mem_cons_of_mem _ hy) z (List.mem_cons_of_mem _ hz)
    rw [sortedBy, Bool.and_eq_true, bne_iff_ne, ih, List.pairwise_cons (a := a)]
    -- the head is below its neighbour, hence by transitivity below everything after it
    refine and_congr_left fun hp => ⟨fun hab c hc => ?_, fun h => h b (List.mem_cons_self ..)⟩
    rcases List.mem_cons.1 hc with rfl | hm
    · exact hab
    · exact htr a (List.mem_cons_self ..) b (List.mem_cons_of_mem _ (List.mem_cons_self ..)) c
        (List.mem_cons_of_mem _ hc) hab ((List.pairwise_cons.1 hp).1 c hm)

theorem prefix_of_downclosed {α} (le : α → α → Prop) (P : α → Bool) :
    ∀ (l : List α), l.Pairwise le → (∀ a ∈ l, ∀ b ∈ l, le a b → P b = true → P a = true) →
      (∀ x ∈ l.take (l.countP P), P x = true) ∧ (∀ x ∈ l.drop (l.countP P), P x = false) := by
  intro l
  induction l with
  | nil => intro _ _; simp
  | cons a l ih =>
    intro hp hd
    obtain ⟨hal, hl⟩ := List.pairwise_cons.1 hp
    obtain ⟨i1, i2⟩ := ih hl fun x hx y hy => hd x (List.mem_cons_of_mem _ hx) y (List.mem_cons_of_mem _ hy)
    by_cases pa : P a = true
    · rw [List.countP_cons_of_pos pa, List.take_succ_cons, List.drop_succ_cons]
      exact ⟨List.forall_mem_cons.2 ⟨pa, i1⟩, i2⟩
    · -- then nothing after `a` satisfies `P`
      have none : ∀ b ∈ l, P b = false := fun b hb => Bool.eq_false_iff.2 fun hb' =>
        pa (hd a (List.mem_cons_self ..) b (List.mem_cons_of_mem _ hb) (hal b hb) hb')
      rw [List.countP_cons_of_neg pa,
        List.countP_eq_zero.2 fun b hb => by rw [none b hb]; exact Bool.false_ne_true]
      exact ⟨by simp, List.forall_mem_cons.2 ⟨Bool.eq_false_iff.2 pa, none⟩⟩

theorem sorted_insert_middle {α} {P : α → Prop} {c : α → α → Ordering} (tp : TP P c) {X Z Y l : List α}
    (hs : (X ++ Z ++ Y).Pairwise (fun x y => c x y ≠ .gt)) (hl : l.Pairwise (fun x y => c x y ≠ .gt))
    (hp : l.Perm (X ++ Y)) (hP : ∀ x ∈ X ++ Z ++ Y, P x) :
    (l.take X.length ++ Z ++ l.drop X.length).Pairwise (fun x y => c x y ≠ .gt) := by
  obtain ⟨hXZ', _, hXZY⟩ := List.pairwise_append.1 hs
  obtain ⟨_, hZ, hXZ⟩ := List.pairwise_append.1 hXZ'
  have pZ : ∀ z ∈ Z, P z := fun z hz => hP z (List.mem_append_left _ (List.mem_append_right _ hz))
  have pl : ∀ x ∈ l, P x := fun x hx => hP x (by
    rcases List.mem_append.1 (hp.mem_iff.1 hx) with h | h
    · exact List.mem_append_left _ (List.mem_append_left _ h)
    · exact List.mem_append_right _ h)
  have hl' := hl
  rw [← List.take_append_drop X.length l, List.pairwise_append] at hl'
  obtain ⟨hT, hD, hTD⟩ := hl'
  refine List.pairwise_append.2 ⟨List.pairwise_append.2 ⟨hT, hZ, fun u hu z hz => ?_⟩, hD, fun u hu v hv => ?_⟩
  · -- `· ≤ z` is downward closed and holds on `X`: it holds on the first `|X|` elements of `l`
    have hdc : ∀ x ∈ l, ∀ y ∈ l, c x y ≠ .gt → (c y z != .gt) = true → (c x z != .gt) = true :=
      fun x hx y hy hxy hyz => bne_iff_ne.2 (tp.trans x y z (pl x hx) (pl y hy) (pZ z hz) hxy (bne_iff_ne.1 hyz))
    have hcount : X.length ≤ l.countP (fun v => c v z != .gt) := by
      rw [hp.countP_eq, List.countP_append, List.countP_eq_length.2 fun x hx => bne_iff_ne.2 (hXZ x hx z hz)]
      exact Nat.le_add_right _ _
    exact bne_iff_ne.1 ((prefix_of_downclosed _ _ l hl hdc).1 u (List.take_subset_take_left l hcount hu))
  · rcases List.mem_append.1 hu with hu | hz
    · exact hTD u hu v hv
    · -- `u > ·` is downward closed and fails on `Y`: it fails after the first `|X|` elements
      have hdc : ∀ x ∈ l, ∀ y ∈ l, c x y ≠ .gt → (c u y == .gt) = true → (c u x == .gt) = true := by
        intro x hx y hy hxy huy
        apply Decidable.byContradiction
        intro hux
        exact tp.trans u x y (pZ u hz) (pl x hx) (pl y hy) (fun e => hux (beq_iff_eq.2 e)) hxy (beq_iff_eq.1 huy)
      have hcount : l.countP (fun w => c u w == .gt) ≤ X.length := by
        rw [hp.countP_eq, List.countP_append, List.countP_eq_zero.2 fun y hy e =>
          hXZY u (List.mem_append_right _ hz) y hy (beq_iff_eq.1 e)]
        exact List.countP_le_length
      have := (prefix_of_downclosed _ _ l hl hdc).2 v (List.drop_subset_drop_left l hcount hv)
      exact fun e => Bool.false_ne_true (this ▸ beq_iff_eq.2 e)

theorem pageSlice_split (s : List WRow) (limit offset : Option Nat) :
    (∃ post, s = s.take (offset.getD 0) ++ pageSlice s limit offset ++ post) ∧
      (pageSlice s limit offset).length = wantLen s.length limit offset := by
  cases limit with
  | none => exact ⟨⟨[], by rw [List.append_nil]; exact (List.take_append_drop _ s).symm⟩, List.length_drop⟩
  | some n =>
    refine ⟨⟨(s.drop (offset.getD 0)).drop n, ?_⟩, ?_⟩
    · rw [List.append_assoc]
      exact ((List.take_append_drop _ s).symm.trans (congrArg _ (List.take_append_drop n _).symm))
    · exact (List.length_take).trans (congrArg _ List.length_drop)

theorem pageSlice_decomp (s page : List WRow) (limit offset : Option Nat) :
    page = pageSlice s limit offset ↔
      ∃ pre post, s = pre ++ page ++ post ∧ pre.length = min (offset.getD 0) s.length ∧
        page.length = wantLen s.length limit offset := by
  obtain ⟨⟨post', e⟩, hl⟩ := pageSlice_split s limit offset
  constructor
  · rintro rfl
    exact ⟨_, post', e, List.length_take, hl⟩
  · rintro ⟨pre, post, hs, hpre, hpage⟩
    have e' : pre ++ (page ++ post) = s.take (offset.getD 0) ++ (pageSlice s limit offset ++ post') := by
      rw [← List.append_assoc, ← hs, ← List.append_assoc]; exact e
    have e2 := (List.append_inj e' (hpre.trans List.length_take.symm)).2
    exact (List.append_inj e2 (hpage.trans hl.symm)).1

/-- rows without a NaN sort key are in the exact order. -/
def SpecSorted (keys : List SortKey) (s : List WRow) : Prop :=
  (s.filter (nfRow keys)).Pairwise (fun x y => specRowCmp keys x y ≠ .gt)

/-- the Spec of a page (the proposition of property C35). -/
def PageSpec (keys : List SortKey) (a : List WRow) (limit offset : Option Nat) (page : List WRow) : Prop :=
  if keys = [] then page = pageSlice a limit offset
  else ∃ s : List WRow, s.Perm a ∧ SpecSorted keys s ∧ page = pageSlice s limit offset

theorem nf_mem_filter {keys : List SortKey} {l : List WRow} {x : WRow} (hw : ∀ r ∈ l, RowWF r)
    (hx : x ∈ l.filter (nfRow keys)) : NFW keys x :=
  ⟨hw x (List.mem_filter.1 hx).1, (List.mem_filter.1 hx).2⟩

theorem specSorted_iff (keys : List SortKey) (s : List WRow) (hw : ∀ r ∈ s, RowWF r) :
    specSorted keys s = true ↔ SpecSorted keys s := by
  unfold specSorted SpecSorted
  have hf : (s.filter (fun r => !rowHasNaNKey keys r)) = s.filter (nfRow keys) := rfl
  rw [hf]
  apply sortedBy_iff
  intro a ha b hb c hc
  exact (spec_tp keys).trans a b c (nf_mem_filter hw ha) (nf_mem_filter hw hb) (nf_mem_filter hw hc)

/-- the rest's rows without a NaN key, sorted, and its rows with one. -/
def restNF (keys : List SortKey) (rest : List WRow) : List WRow :=
  stdInsertionSort (fun x y => specRowCmp keys x y == .lt) (rest.filter (nfRow keys))
def restN (keys : List SortKey) (rest : List WRow) : List WRow := rest.filter (fun r => !nfRow keys r)

theorem restNF_perm (keys : List SortKey) (rest : List WRow) : (restNF keys rest).Perm (rest.filter (nfRow keys)) :=
  stdInsertionSort_perm _ _

theorem restNF_sorted (keys : List SortKey) (rest : List WRow) (hw : ∀ r ∈ rest, RowWF r) :
    (restNF keys rest).Pairwise (fun x y => specRowCmp keys x y ≠ .gt) :=
  stdInsertionSort_sorted _ _
    ⟨fun a ha b hb => (spec_tp keys).swap a b (nf_mem_filter hw ha) (nf_mem_filter hw hb),
     fun a ha b hb c hc => (spec_tp keys).trans a b c (nf_mem_filter hw ha) (nf_mem_filter hw hb) (nf_mem_filter hw hc)⟩

theorem specPageOk_unfold {keys : List SortKey} (hk : keys ≠ []) (a : List WRow) (limit offset : Option Nat)
    (page : List WRow) :
    specPageOk keys a limit offset page = true ↔
      page.length = wantLen a.length limit offset ∧ ∃ rest, subMultiset page a = some rest ∧
        ∃ p, p ≤ (restNF keys rest).length ∧ p ≤ min (offset.getD 0) a.length ∧
          min (offset.getD 0) a.length - p ≤ (restN keys rest).length ∧
          specSorted keys (pageCand page (restNF keys rest) (restN keys rest) (min (offset.getD 0) a.length) p) = true := by
  have hne : keys.isEmpty = false := List.isEmpty_eq_false_iff.2 hk
  unfold specPageOk
  simp only [hne, Bool.false_eq_true, if_false, Bool.and_eq_true, decide_eq_true_eq]
  refine and_congr_right fun _ => ?_
  cases subMultiset page a with
  | none => exact ⟨nofun, nofun⟩
  | some rest =>
    simp only [List.any_eq_true, List.mem_range, Nat.lt_succ_iff, Bool.and_eq_true, decide_eq_true_eq,
      Option.some.injEq, exists_eq_left', and_assoc]
    rfl

theorem filter_nf_cand (keys : List SortKey) (page rest : List WRow) (off p : Nat) :
    (pageCand page (restNF keys rest) (restN keys rest) off p).filter (nfRow keys) =
      (restNF keys rest).take p ++ page.filter (nfRow keys) ++ (restNF keys rest).drop p := by
  have h1 : ∀ r ∈ restNF keys rest, nfRow keys r = true :=
    fun r hr => (List.mem_filter.1 ((restNF_perm keys rest).mem_iff.1 hr)).2
  have h2 : ∀ r ∈ restN keys rest, ¬ nfRow keys r = true :=
    fun r hr h => by have := (List.mem_filter.1 hr).2; rw [h] at this; exact Bool.false_ne_true this
  simp only [pageCand, List.filter_append,
    List.filter_eq_self.2 fun a ha => h1 a (List.mem_of_mem_take ha),
    List.filter_eq_self.2 fun a ha => h1 a (List.mem_of_mem_drop ha),
    List.filter_eq_nil_iff.2 fun a ha => h2 a (List.mem_of_mem_take ha),
    List.filter_eq_nil_iff.2 fun a ha => h2 a (List.mem_of_mem_drop ha), List.append_nil, List.nil_append]

theorem cand_perm (keys : List SortKey) (page rest : List WRow) (off p : Nat) :
    (pageCand page (restNF keys rest) (restN keys rest) off p).Perm (page ++ rest) := by
  unfold pageCand
  have hA := (List.take_append_drop p (restNF keys rest)) ▸ restNF_perm keys rest
  have hB : restN keys rest = _ := (List.take_append_drop (off - p) (restN keys rest)).symm
  generalize (restNF keys rest).take p = A1 at hA
  generalize (restNF keys rest).drop p = A2 at hA
  generalize (restN keys rest).take (off - p) = B1 at hB
  generalize (restN keys rest).drop (off - p) = B2 at hB
  -- (A1 ++ B1) ++ page ++ (B2 ++ A2) ~ page ++ ((A1 ++ A2) ++ (B1 ++ B2)) ~ page ++ rest
  have e1 : ((A1 ++ B1) ++ page ++ (B2 ++ A2)).Perm (page ++ ((A1 ++ B1) ++ (B2 ++ A2))) := by
    rw [List.append_assoc (A1 ++ B1)]
    exact List.perm_append_comm.trans (by rw [List.append_assoc]; exact .append_left page List.perm_append_comm)
  have e2 : ((A1 ++ B1) ++ (B2 ++ A2)).Perm ((A1 ++ A2) ++ (B1 ++ B2)) := by
    rw [List.append_assoc, List.append_assoc, ← List.append_assoc B1]
    exact .append_left A1 List.perm_append_comm
  refine e1.trans (.append_left page (e2.trans ?_))
  rw [← hB]
  exact (hA.append_right _).trans (List.filter_append_perm (nfRow keys) rest)

theorem specPageOk_sound (keys : List SortKey) (a : List WRow) (limit offset : Option Nat) (page : List WRow)
    (hw : ∀ r ∈ a, RowWF r) (hk : keys ≠ []) (h : specPageOk keys a limit offset page = true) :
    ∃ s : List WRow, s.Perm a ∧ SpecSorted keys s ∧ page = pageSlice s limit offset := by
  obtain ⟨hlen, rest, hsub, p, hp, hpo, hpn, hsorted⟩ := (specPageOk_unfold hk a limit offset page).1 h
  have hperm := (cand_perm keys page rest (min (offset.getD 0) a.length) p).trans (subMultiset_perm page a rest hsub)
  refine ⟨_, hperm, (specSorted_iff keys _ fun r hr => hw r (hperm.mem_iff.1 hr)).1 hsorted, ?_⟩
  rw [pageSlice_decomp]
  refine ⟨_, _, rfl, ?_, by rw [hperm.length_eq]; exact hlen⟩
  rw [hperm.length_eq, List.length_append, List.length_take, List.length_take, Nat.min_eq_left hp,
    Nat.min_eq_left hpn, Nat.add_sub_of_le hpo]

theorem specPageOk_complete (keys : List SortKey) (a : List WRow) (limit offset : Option Nat) (page : List WRow)
    (hw : ∀ r ∈ a, RowWF r) (hk : keys ≠ [])
    (h : ∃ s : List WRow, s.Perm a ∧ SpecSorted keys s ∧ page = pageSlice s limit offset) :
    specPageOk keys a limit offset page = true := by
  obtain ⟨s, hsa, hss, hps⟩ := h
  obtain ⟨pre, post, rfl, hprelen, hpagelen⟩ := (pageSlice_decomp s page limit offset).1 hps
  rw [hsa.length_eq] at hprelen hpagelen
  have hperm1 : (page ++ (pre ++ post)).Perm a := by
    rw [← List.append_assoc]
    exact (List.perm_append_comm.append_right post).trans hsa
  obtain ⟨rest, hsub, hrest⟩ := subMultiset_complete page a (pre ++ post) hperm1
  have hperm := (cand_perm keys page rest (min (offset.getD 0) a.length) (pre.filter (nfRow keys)).length).trans
    (subMultiset_perm page a rest hsub)
  have hrw : ∀ r ∈ rest, RowWF r := fun r hr =>
    hw r ((subMultiset_perm page a rest hsub).mem_iff.1 (List.mem_append_right _ hr))
  have hNF : (restNF keys rest).Perm (pre.filter (nfRow keys) ++ post.filter (nfRow keys)) := by
    rw [← List.filter_append]; exact (restNF_perm keys rest).trans (hrest.filter _)
  have hN : (restN keys rest).Perm (pre.filter (fun r => !nfRow keys r) ++ post.filter (fun r => !nfRow keys r)) := by
    rw [← List.filter_append]; exact hrest.filter _
  -- as many NaN-free rows before the page as `s` has there
  refine (specPageOk_unfold hk a limit offset page).2 ⟨hpagelen, rest, hsub, (pre.filter (nfRow keys)).length, ?_, ?_, ?_, ?_⟩
  · rw [hNF.length_eq, List.length_append]; exact Nat.le_add_right _ _
  · rw [← hprelen]; exact List.length_filter_le _ _
  · rw [hN.length_eq, List.length_append, ← hprelen]
    have := (List.filter_append_perm (nfRow keys) pre).length_eq
    rw [List.length_append] at this
    omega
  · refine (specSorted_iff keys _ fun r hr => hw r (hperm.mem_iff.1 hr)).2 ?_
    unfold SpecSorted at hss ⊢
    rw [filter_nf_cand]
    rw [List.filter_append, List.filter_append] at hss
    refine sorted_insert_middle (spec_tp keys) hss (restNF_sorted keys rest hrw) hNF fun x hx => ?_
    rw [← List.filter_append, ← List.filter_append] at hx
    exact nf_mem_filter (fun r hr => hw r (hsa.mem_iff.1 hr)) hx

theorem specPageOk_iff (keys : List SortKey) (a : List WRow) (limit offset : Option Nat) (page : List WRow)
    (hw : ∀ r ∈ a, RowWF r) :
    specPageOk keys a limit offset page = true ↔ PageSpec keys a limit offset page := by
  unfold PageSpec
  by_cases hk : keys = []
  · subst hk; simp [specPageOk]
  · simp only [hk, if_false]
    exact ⟨specPageOk_sound keys a limit offset page hw hk, specPageOk_complete keys a limit offset page hw hk⟩

end ILV
