/-
  Lemmas for C23: what `SatBody` says of a single literal (blocker soundness), and exactness of the greedy
  trace of `explain_why_not` when every positive body atom is ground after head unification
  (`Rule.noChoice`): the bindings never change, so the trace stops exactly at the first literal that does
  not hold in the world.
-/
import ILV.Lemmas.ProvMatch
namespace ILV.Prov
open ILV

/-- what `SatBody` says about one literal. -/
def LitSat (P : String → Tuple → Prop) (W : String → List Tuple) (β : Bindings) : Lit → Prop
  | .pos a => ∃ t, P a.rel t ∧ argsMatch β a.args t = true
  | .neg a => ∀ t ∈ W a.rel, negBlockedBy β a t = false
  | .cmp l op r => evalCmp l op r β = some true
  | .other => False

theorem SatBody_cons {P : String → Tuple → Prop} {W : String → List Tuple} {β : Bindings} {l : Lit} {ls : List Lit} :
    SatBody P W β (l :: ls) ↔ LitSat P W β l ∧ SatBody P W β ls := by
  cases l <;> simp [SatBody, LitSat]

theorem SatBody_get (P : String → Tuple → Prop) (W : String → List Tuple) (β : Bindings) :
    ∀ (ls : List Lit) (i : Nat) (l : Lit), SatBody P W β ls → ls[i]? = some l → LitSat P W β l
  | [], _, _, _, h => by simp at h
  | _ :: _, 0, _, hs, h => by cases h; exact (SatBody_cons.mp hs).1
  | _ :: ls, i + 1, l, hs, h => SatBody_get P W β ls i l (SatBody_cons.mp hs).2 h

/-- the literal is one the fixed-bindings argument applies to. -/
def LitClosed (β : Bindings) : Lit → Prop
  | .pos a => AtomClosed β a
  | .neg _ => True
  | .cmp _ _ _ => True
  | .other => False

/-- does the literal hold under the fixed bindings `β`, judged on the world `W`? -/
def litPass (W : String → List Tuple) (β : Bindings) : Lit → Bool
  | .pos a => (W a.rel).any (fun t => (matchTuple (substituteAtom a β) t).isSome)
  | .neg a => (W a.rel).all (fun t => !(matchTuple (substituteAtom a β) t).isSome)
  | .cmp x op y => evalCmp x op y β == some true
  | .other => false

theorem evalLit_closed (W : String → List Tuple) (β : Bindings) (l : Lit) (hg : LitClosed β l) :
    (∀ b ∈ evalLit W W l β, b = β) ∧ (evalLit W W l β = [] ↔ litPass W β l = false) := by
  cases l with
  | pos a =>
    constructor
    · intro b hb
      obtain ⟨t, _, he⟩ := List.mem_filterMap.mp hb
      obtain ⟨nb, hm, rfl⟩ := Option.map_eq_some_iff.mp he
      rw [matchTuple_closed hg hm]; rfl
    · rw [evalLit, List.filterMap_eq_nil_iff, litPass, List.any_eq_false]
      exact forall₂_congr fun t _ => by cases matchTuple (substituteAtom a β) t <;> simp
  | neg a =>
    have he : evalLit W W (.neg a) β = if litPass W β (.neg a) then [β] else [] := rfl
    rw [he]
    cases litPass W β (.neg a) <;> simp
  | cmp x op y =>
    have he : evalLit W W (.cmp x op y) β = if litPass W β (.cmp x op y) then [β] else [] := rfl
    rw [he]
    cases litPass W β (.cmp x op y) <;> simp
  | other => exact hg.elim

theorem evalBody_exact (W : String → List Tuple) (β : Bindings) :
    ∀ (ls : List Lit), (∀ l ∈ ls, LitClosed β l) → ∀ (bs : List Bindings), (∀ b ∈ bs, b = β) →
      (evalBody W W ls bs = [] ↔ (bs = [] ∨ ∃ l ∈ ls, litPass W β l = false))
  | [], _, bs, _ => by simp [evalBody]
  | l :: ls, hg, bs, hr => by
    obtain ⟨hrep, hemp⟩ := evalLit_closed W β l (hg l List.mem_cons_self)
    have hr' : ∀ b ∈ bs.flatMap (evalLit W W l), b = β := by
      intro b hb
      obtain ⟨b0, hb0, hb⟩ := List.mem_flatMap.mp hb
      rw [hr b0 hb0] at hb; exact hrep b hb
    have he : bs.flatMap (evalLit W W l) = [] ↔ bs = [] ∨ litPass W β l = false := by
      rw [← hemp, List.flatMap_eq_nil_iff]
      cases bs with
      | nil => simp
      | cons b0 rest =>
        obtain rfl := hr b0 List.mem_cons_self
        exact ⟨fun h => Or.inr (h b0 List.mem_cons_self), fun h b hb => by rw [hr b hb]; exact h.resolve_left (by simp)⟩
    rw [evalBody, evalBody_exact W β ls (fun l' hl' => hg l' (List.mem_cons_of_mem _ hl')) _ hr', he]
    simp only [List.mem_cons, exists_eq_or_imp, or_assoc]

theorem traceBody_cons (ctx : Ctx) {M : DB} (hd : ctx.derived = some M) (β : Bindings) (l : Lit) (hg : LitClosed β l)
    (ls : List Lit) (i : Nat) (fs : List (String × Tuple × Src)) :
    (litPass (world ctx.base M) β l = true ∧
      ∃ fs', traceBody ctx (l :: ls) i β fs = traceBody ctx ls (i + 1) β fs') ∨
    (litPass (world ctx.base M) β l = false ∧ ∃ blk, traceBody ctx (l :: ls) i β fs = (β, fs, some blk) ∧
      ∀ (r : Rule) (target : Tuple), r.body[i]? = some l → blockerHolds ctx.base M r target β blk = true) := by
  cases l with
  | pos a =>
    have found : ∀ {db : DB} {t : Tuple} {nb : Bindings} {rest}, db.get a.rel ⊆ world ctx.base M a.rel →
        findMatching a.rel (substituteAtom a β) db = (t, nb) :: rest →
        nb = [] ∧ litPass (world ctx.base M) β (.pos a) = true := by
      intro db t nb rest hsub hf
      obtain ⟨ht, hm⟩ := mem_findMatching.mp (hf ▸ List.mem_cons_self)
      exact ⟨matchTuple_closed hg hm, List.any_eq_true.mpr ⟨t, hsub ht, by rw [hm]; rfl⟩⟩
    simp only [traceBody, hd]
    split
    · rename_i t nb rest hf
      obtain ⟨rfl, hp⟩ := found (fun _ => List.mem_append_left _) hf
      exact Or.inl ⟨hp, _, rfl⟩
    · rename_i hB
      split
      · rename_i t nb rest hf
        obtain ⟨rfl, hp⟩ := found (fun _ => List.mem_append_right _) hf
        exact Or.inl ⟨hp, _, rfl⟩
      · rename_i hM
        have hnone : ∀ t ∈ world ctx.base M a.rel, matchTuple (substituteAtom a β) t = none := fun t ht =>
          (List.mem_append.mp ht).elim (findMatching_eq_nil.mp hB t) (findMatching_eq_nil.mp hM t)
        refine Or.inr ⟨List.any_eq_false.mpr fun t ht => by simp [hnone t ht], _, rfl, fun r target hi => ?_⟩
        simp only [blockerHolds, hi, beq_self_eq_true, Bool.true_and, List.all_eq_true, negBlockedBy]
        intro t ht
        rw [hnone t ht]; rfl
  | neg a =>
    simp only [traceBody]
    split
    · rename_i t nb rest hf
      obtain ⟨ht, hm⟩ := mem_negMatches hd (hf ▸ List.mem_cons_self)
      refine Or.inr ⟨List.all_eq_false.mpr ⟨t, ht, by simp [hm]⟩, _, rfl, fun r target hi => ?_⟩
      simp [blockerHolds, hi, negBlockedBy, hm, ht]
    · rename_i hf
      refine Or.inl ⟨List.all_eq_true.mpr fun t ht => ?_, _, rfl⟩
      rw [negMatches_eq_nil hd hf t ht]; rfl
  | cmp x op y =>
    simp only [traceBody, litPass]
    split
    · rename_i hc
      exact Or.inl ⟨by simp [hc], _, rfl⟩
    · rename_i hc
      exact Or.inr ⟨by simp [hc], _, rfl, fun r target hi => by simp [blockerHolds, hi, hc]⟩
    · rename_i hc
      exact Or.inr ⟨by simp [hc], _, rfl, fun r target hi => by simp [blockerHolds, hi, hc]⟩
  | other => exact hg.elim

theorem traceBody_exact (ctx : Ctx) {M : DB} (hd : ctx.derived = some M) (r : Rule) (target : Tuple) (β : Bindings) :
    ∀ (ls : List Lit) (i : Nat) (fs : List (String × Tuple × Src)),
      (∀ l ∈ ls, LitClosed β l) → (∀ k, ls[k]? = r.body[i + k]?) →
      (traceBody ctx ls i β fs).1 = β ∧
      match (traceBody ctx ls i β fs).2.2 with
      | none => ∀ l ∈ ls, litPass (world ctx.base M) β l = true
      | some blk => (∃ l ∈ ls, litPass (world ctx.base M) β l = false) ∧ blockerHolds ctx.base M r target β blk = true
  | [], _, _, _, _ => ⟨rfl, fun _ hl => absurd hl List.not_mem_nil⟩
  | l :: ls, i, fs, hg, hidx => by
    rcases traceBody_cons ctx hd β l (hg l List.mem_cons_self) ls i fs with ⟨hp, fs', he⟩ | ⟨hp, blk, he, hblk⟩
    · obtain ⟨h1, h2⟩ := traceBody_exact ctx hd r target β ls (i + 1) fs' (fun l' hl' => hg l' (List.mem_cons_of_mem _ hl'))
        (fun k => by rw [← List.getElem?_cons_succ (a := l), hidx (k + 1), Nat.add_assoc, Nat.add_comm 1 k])
      rw [he]
      refine ⟨h1, ?_⟩
      split at h2
      · exact List.forall_mem_cons.mpr ⟨hp, h2⟩
      · exact ⟨h2.1.imp fun l' h => ⟨List.mem_cons_of_mem _ h.1, h.2⟩, h2.2⟩
    · rw [he]
      exact ⟨rfl, ⟨l, List.mem_cons_self, hp⟩, hblk r target (by simpa using (hidx 0).symm)⟩

theorem mem_headVars (r : Rule) (x : String) : x ∈ headVars r ↔ Term.var x ∈ r.head.args := mem_varsOf

theorem explainClause_exact (ctx : Ctx) {M : DB} (hd : ctx.derived = some M) (r : Rule) (target : Tuple) (i : Nat)
    (h1 : r.noChoice = true) (h2 : r.body.all Lit.supported = true) (h3 : r.plainVars = true) :
    (clauseFires ctx.base M r target = true → (explainClause ctx target r i).blocker = none) ∧
    (clauseFires ctx.base M r target = false → ∃ b, (explainClause ctx target r i).blocker = some b ∧
        blockerHolds ctx.base M r target (explainClause ctx target r i).bindings b = true) := by
  unfold explainClause clauseFires
  cases hu : unifyHead target r.head with
  | none => exact ⟨fun h => by simp at h, fun _ => ⟨_, rfl, by simp [blockerHolds, hu]⟩⟩
  | some β0 =>
    obtain ⟨_, hbound, hkeys⟩ := unifyArgs_spec (unifyHead_eq_some.mp hu).2
    have hgood : ∀ l ∈ r.body, LitClosed β0 l := by
      intro l hl
      cases l with
      | pos a =>
        intro x hx
        have := List.all_eq_true.mp (List.all_eq_true.mp h1 _ hl) _ hx
        exact hbound x ((mem_headVars r x).mp (by simpa using this))
      | other => simpa [Lit.supported] using List.all_eq_true.mp h2 _ hl
      | _ => trivial
    have hfilter : β0.filter (fun p => !isPlaceholderName p.1) = β0 := by
      rw [List.filter_eq_self]
      intro p hp
      have hv := ((hkeys p hp).resolve_left (by simp)).1
      exact List.all_eq_true.mp h3 p.1 ((mem_headVars r p.1).mpr hv)
    have hex := evalBody_exact (world ctx.base M) β0 r.body hgood [β0] (by simp)
    obtain ⟨e1, e2⟩ := traceBody_exact ctx hd r target β0 r.body 0 [] hgood (fun k => by simp)
    simp only [e1, hfilter, Bool.not_eq_true', Bool.not_eq_false', List.isEmpty_iff, List.isEmpty_eq_false_iff]
    cases hob : (traceBody ctx r.body 0 β0 []).2.2 with
    | none =>
      rw [hob] at e2
      refine ⟨fun _ => rfl, fun hf => ?_⟩
      obtain ⟨l, hl, hp⟩ := (hex.mp hf).resolve_left (by simp)
      rw [e2 l hl] at hp; cases hp
    | some blk =>
      rw [hob] at e2
      exact ⟨fun hf => absurd (hex.mpr (Or.inr e2.1)) hf, fun _ => ⟨blk, rfl, e2.2⟩⟩

theorem explainClauses_exact (ctx : Ctx) {M : DB} (hd : ctx.derived = some M) (target : Tuple) :
    ∀ (rs : List Rule) (i : Nat),
      (∀ r ∈ rs, r.noChoice = true ∧ r.body.all Lit.supported = true ∧ r.plainVars = true) →
      (rs.any (fun r => clauseFires ctx.base M r target) = true →
        (explainClauses ctx target rs i).any (fun c => c.blocker.isNone) = true) ∧
      (rs.any (fun r => clauseFires ctx.base M r target) = false →
        ((explainClauses ctx target rs i).length == rs.length &&
         (rs.zip (explainClauses ctx target rs i)).all (fun p => match p.2.blocker with
            | none => false
            | some b => blockerHolds ctx.base M p.1 target p.2.bindings b)) = true)
  | [], i, _ => by simp [explainClauses]
  | r :: rs, i, hg => by
    obtain ⟨g1, g2, g3⟩ := hg r List.mem_cons_self
    obtain ⟨c1, c2⟩ := explainClause_exact ctx hd r target i g1 g2 g3
    obtain ⟨ih1, ih2⟩ := explainClauses_exact ctx hd target rs (i + 1)
      (fun r' hr' => hg r' (List.mem_cons_of_mem _ hr'))
    simp only [explainClauses, List.any_cons, List.length_cons, List.zip_cons_cons, List.all_cons]
    constructor
    · intro h
      rw [Bool.or_eq_true] at h ⊢
      exact h.imp (fun h => by rw [c1 h]; rfl) ih1
    · intro h
      rw [Bool.or_eq_false_iff] at h
      obtain ⟨b, hb1, hb2⟩ := c2 h.1
      have := ih2 h.2
      simp only [Bool.and_eq_true, beq_iff_eq] at this ⊢
      refine ⟨by omega, ?_, this.2⟩
      rw [hb1]; exact hb2

end ILV.Prov
