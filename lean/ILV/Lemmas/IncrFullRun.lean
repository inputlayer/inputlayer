/-
  C18 (after the repair): every step preserves the invariant, for all well-used histories.
-/
import ILV.Lemmas.IncrFull
namespace ILV.C18

theorem insRefused_none {s : St} {r : Name} {ts : List Tup} (h : insRefused s r ts = none) : clausesNow s r = [] := by
  unfold clausesNow
  cases hg : aget s.catalog r with
  | none => rfl
  | some v =>
    unfold insRefused at h
    rw [hg, if_pos (show (some v).isSome = true from rfl)] at h
    cases h

/-- `insert_in_memory` / `delete_in_memory`: the tuples of a relation `r` without clauses are replaced, `r` is notified. -/
theorem finv_setFacts {s : St} (h : FInv s) (r : Name) (ts : List Tup) (ar : List (Name × Nat))
    (hr : clausesNow s r = []) :
    FInv (publish (mapInc { s with facts := aset s.facts r ts, arity := ar } (·.notify r))) :=
  finv_facts h _ _ (·.notify r) (fun x => x = r) (fun i _ => notify_upd i r) (fun _ hx => hx ▸ hr)
    (fun _ hx => congrArg (fun o : Option (List Tup) => o.getD []) (aget_aset_ne (Ne.symm hx)))

theorem finv_ins {s : St} (h : FInv s) (r : Name) (ts : List Tup) : FInv (step s (.ins r ts)).1 := by
  unfold step
  simp only
  by_cases he : ts.isEmpty = true
  · rw [if_pos he]; exact h
  rw [if_neg he]
  split
  · exact h
  · next hnone =>
    unfold insApply
    simp only
    split
    · exact finv_setFacts h r _ _ (insRefused_none hnone)
    · exact h

theorem finv_del {s : St} (h : FInv s) (r : Name) (ts : List Tup) : FInv (step s (.del r ts)).1 := by
  unfold step
  simp only
  split
  · exact h
  · next old hold =>
    split
    · next hpos =>
      refine finv_setFacts h r _ s.arity (h.noClauses fun e => ?_)
      simp only [factsDb, hold, Option.getD_some] at e
      subst e
      exact absurd hpos (by simp)
    · exact h

theorem clrpFacts_get (s : St) (pre x : Name) :
    (aget (clrpFacts s pre) x).getD [] = if (akeys (clrpHit s pre)).contains x = true then [] else factsDb s x := by
  unfold clrpFacts
  rw [aget_map_val s.facts (fun k v => if (akeys (clrpHit s pre)).contains k = true then ([] : List Tup) else v)]
  unfold factsDb
  cases aget s.facts x with
  | none => simp
  | some v => simp

theorem clrpHit_noclauses {s : St} (h : FInv s) (pre r : Name) (hr : r ∈ akeys (clrpHit s pre)) : clausesNow s r = [] := by
  obtain ⟨⟨a, c⟩, hm, rfl⟩ := List.mem_map.mp hr
  obtain ⟨k, _, hk⟩ := List.mem_filterMap.mp hm
  apply h.noClauses
  intro e
  by_cases hz : ((aget s.facts k).getD []).length = 0
  · simp [hz] at hk
  · simp only [hz, if_false, Option.some.injEq, Prod.mk.injEq] at hk
    rw [← hk.1] at e
    exact hz (congrArg List.length e)

theorem finv_clrp {s : St} (h : FInv s) (pre : Name) : FInv (step s (.clrp pre)).1 := by
  unfold step
  simp only
  by_cases he : (clrpHit s pre).isEmpty = true
  · rw [if_pos he]; exact h
  · rw [if_neg he]
    refine finv_facts h _ s.arity _ (fun x => x ∈ akeys (clrpHit s pre)) (fun i _ => foldNotify_upd _ i)
      (clrpHit_noclauses h pre) ?_
    intro x hx
    rw [clrpFacts_get, if_neg fun hc => hx (List.contains_iff_mem.mp hc)]

theorem regCls_mem {s : St} (h : FInv s) (c : Clause) : ∀ c' ∈ regCls s c, c'.head.rel = c.head.rel := by
  intro c' hc'
  unfold regCls at hc'
  cases hg : aget s.catalog c.head.rel with
  | none =>
    simp only [hg, List.mem_singleton] at hc'
    exact hc' ▸ rfl
  | some cs =>
    have hold := h.cat.heads _ cs (aget_some_mem hg)
    simp only [hg] at hc'
    by_cases hcc : cs.contains c = true
    · rw [if_pos hcc] at hc'
      exact hold c' hc'
    · rw [if_neg hcc] at hc'
      rcases List.mem_append.mp hc' with e | e
      · exact hold c' e
      · exact List.mem_singleton.mp e ▸ rfl

theorem finv_reg {s : St} (h : FInv s) (c : Clause) (hw : stepWellUsed s (.reg c) = true) :
    FInv (step s (.reg c)).1 := by
  unfold step
  simp only
  split
  · exact h
  · exact finv_set h c.head.rel (regCls s c) (regCls_mem h c) (fun _ => List.isEmpty_iff.mp hw)

theorem finv_rmc {s : St} (h : FInv s) (n : Name) (k : Nat) : FInv (step s (.rmc n k)).1 := by
  unfold step
  simp only
  split
  · exact h
  · next cs hcs =>
    by_cases hk : k ≥ cs.length
    · rw [if_pos hk]; exact h
    · rw [if_neg hk]
      by_cases he : (removeAt cs k).isEmpty = true
      · rw [if_pos he]; exact finv_erase h n
      · rw [if_neg he]
        refine finv_set h n (removeAt cs k) (fun c hc => h.cat.heads n cs (aget_some_mem hcs) c (mem_removeAt _ _ _ hc))
          (fun _ => h.headsNoFacts n ?_)
        unfold clausesNow
        rw [hcs]
        intro (e : cs = [])
        subst e
        exact hk (Nat.zero_le k)

theorem finv_rep {s : St} (h : FInv s) (n : Name) (k : Nat) (c : Clause) (hw : stepWellUsed s (.rep n k c) = true) :
    FInv (step s (.rep n k c)).1 := by
  simp only [stepWellUsed, Bool.and_eq_true, beq_iff_eq, List.isEmpty_iff] at hw
  unfold step
  simp only
  split
  · exact h
  · next cs hcs =>
    by_cases hk : k ≥ cs.length
    · rw [if_pos hk]; exact h
    · rw [if_neg hk]
      by_cases hs : (!clauseSafe c) = true
      · rw [if_pos hs]; exact h
      · rw [if_neg hs]
        refine finv_set h n (replaceAt cs k c) ?_ (fun _ => hw.2)
        intro c' hc'
        rcases mem_replaceAt _ _ _ _ hc' with e | e
        · exact e ▸ hw.1
        · exact h.cat.heads n cs (aget_some_mem hcs) c' e

theorem finv_publish {s : St} (h : FInv s) : FInv (publish s) :=
  ⟨⟨h.cat.heads, h.cat.nodup⟩, h.headsNoFacts,
    fun i hi => ⟨(h.mgr i hi).nodup, (h.mgr i hi).edges, (h.mgr i hi).mats⟩, rfl⟩

/-- `drop_by_prefix` is `drop` name by name; the snapshots published in between are overwritten. -/
theorem finv_eraseAll (ns : List Name) {s : St} (h : FInv s) :
    FInv (publish (mapInc { s with catalog := ns.foldl aerase s.catalog }
      fun i => ns.foldl (fun i n => i.reindex n []) i)) := by
  induction ns generalizing s with
  | nil =>
    show FInv (publish (mapInc s fun i => i))
    rw [mapInc_id]
    exact finv_publish h
  | cons n ns ih =>
    have e : publish (mapInc { s with catalog := (n :: ns).foldl aerase s.catalog }
          fun i => (n :: ns).foldl (fun i n => i.reindex n []) i) =
        publish (mapInc
          { publish (mapInc { s with catalog := aerase s.catalog n } fun i => i.reindex n []) with
            catalog := ns.foldl aerase (aerase s.catalog n) }
          fun i => ns.foldl (fun i n => i.reindex n []) i) := by
      cases s with
      | mk f a c inc sn => cases inc <;> rfl
    rw [e]
    exact ih (finv_erase h n)

theorem finv_drel {s : St} (h : FInv s) (r : Name) : FInv (step s (.drel r)).1 := by
  unfold step
  simp only
  split
  · exact h
  · have hfacts : ∀ x, x ≠ r → (aget (aerase s.facts r) x).getD [] = factsDb s x :=
      fun x hx => congrArg (fun o : Option (List Tup) => o.getD []) (aget_aerase_ne (Ne.symm hx))
    have hcl : ∀ x, x ≠ r → (aget (aerase s.catalog r) x).getD [] = clausesNow s x :=
      fun x hx => congrArg (fun o : Option (List Clause) => o.getD []) (aget_aerase_ne (Ne.symm hx))
    have hclr : (aget (aerase s.catalog r) r).getD [] = ([] : List Clause) := by rw [aget_aerase_eq]; rfl
    refine finv_mapInc h _ (fun i => (i.notify r).remove r) (fun x => x = r) rfl (fun i _ => drel_upd i r)
      (catOk_aerase h.cat rfl) ?_ hfacts hcl (fun i n m _ hm _ => (aget_aerase_some hm).2) ?_
    · intro n hn
      by_cases e : n = r
      · exact absurd (e ▸ hclr) hn
      · exact (hfacts n e).trans (h.headsNoFacts n (hcl n e ▸ hn))
    · intro i n c _ e hc
      rw [e] at hc
      have hc' : c ∈ (aget (aerase s.catalog r) r).getD [] := hc
      rw [hclr] at hc'
      exact absurd hc' List.not_mem_nil

theorem finv_withInc {s : St} (h : FInv s) {i' : Inc} (hM : MgrOk s i') (sn : Snap)
    (hsn : sn = mkSnap { s with inc := some i' }) : FInv { s with inc := some i', snap := sn } :=
  ⟨⟨h.cat.heads, h.cat.nodup⟩, h.headsNoFacts,
    fun _ hj => Option.some.inj hj ▸ ⟨hM.nodup, hM.edges, hM.mats⟩, hsn⟩

theorem finv_hasIndex {s : St} (h : FInv s) {i : Inc} (hi : s.inc = some i) (b : Bool) :
    FInv { s with inc := some { i with hasIndex := b } } :=
  have hM := h.mgr i hi
  finv_withInc h (i' := { i with hasIndex := b }) ⟨hM.nodup, hM.edges, hM.mats⟩ s.snap
    (h.snap.trans ((mkSnap_of_some hi).trans (mkSnap_of_some (s := { s with inc := some { i with hasIndex := b } }) rfl).symm))

theorem finv_idx {s : St} (h : FInv s) : FInv (step s .idx).1 := by
  unfold step
  simp only
  split
  · next hnone =>
    have hm0 := enableInc_mats s
    refine finv_withInc h ⟨?_, ?_, ?_⟩ s.snap ?_
    · rw [hm0]; exact List.nodup_nil
    · intro n c hc r hr hrn
      unfold clausesNow at hc
      cases hg : aget s.catalog n with
      | none => rw [hg] at hc; exact absurd hc List.not_mem_nil
      | some cs =>
        rw [hg] at hc
        exact enableInc_edges s (aget_some_mem hg) hc hr hrn
    · intro n m hm
      rw [hm0] at hm
      cases hm
    · rw [h.snap, mkSnap_of_none hnone, mkSnap_of_some rfl]
      simp only [validMats, isValid, hm0, aget, mergeMats, List.filterMap_nil, Bool.not_false]
      rw [List.filter_eq_self.mpr (fun _ _ => rfl)]
  · next i hi =>
    by_cases hx : i.hasIndex = true
    · rw [if_pos hx]; exact h
    · rw [if_neg hx]; exact finv_hasIndex h hi true

theorem finv_idxdrop {s : St} (h : FInv s) : FInv (step s .idxdrop).1 := by
  unfold step
  simp only
  split
  · exact h
  · next i hi =>
    by_cases hx : i.hasIndex = true
    · rw [if_pos hx]; exact finv_hasIndex h hi false
    · rw [if_neg hx]; exact h

theorem mgrOk_setMat {s : St} {i : Inc} (hM : MgrOk s i) (n : Name) (ts : List Tup)
    (hne : clausesNow s n ≠ []) (hts : SetEq ts (fresh s n)) : MgrOk s (i.setMat n ts) := by
  refine ⟨nodup_aset _ _ hM.nodup, hM.edges, ?_⟩
  intro n' m hm hv
  by_cases e : n = n'
  · rw [← e, show (i.setMat n ts).mats = aset i.mats n _ from rfl, aget_aset_eq] at hm
    rw [← e, ← Option.some.inj hm]
    exact ⟨hne, hts⟩
  · rw [show (i.setMat n ts).mats = aset i.mats n _ from rfl, aget_aset_ne e] at hm
    exact hM.mats n' m hm hv

theorem finv_mat {s : St} (h : FInv s) (n : Name) (ar : Nat) (hw : stepWellUsed s (.mat n ar) = true) :
    FInv (step s (.mat n ar)).1 := by
  unfold step
  simp only
  split
  · exact h
  · next i hi =>
    simp only [stepWellUsed, Bool.and_eq_true, Bool.not_eq_eq_eq_not, Bool.not_true, List.isEmpty_eq_false_iff] at hw
    exact finv_withInc h (mgrOk_setMat (h.mgr i hi) n _ hw.1 ((setEqb_iff _ _).mp hw.2)) _ rfl

theorem finv_step {s : St} (h : FInv s) (st : Step) (hw : stepWellUsed s st = true) : FInv (step s st).1 := by
  cases st with
  | ins r ts => exact finv_ins h r ts
  | del r ts => exact finv_del h r ts
  | reg c => exact finv_reg h c hw
  | rmc n k => exact finv_rmc h n k
  | rep n k c => exact finv_rep h n k c hw
  | clr n =>
    unfold step
    simp only
    split
    · exact h
    · exact finv_set h n [] (fun _ hc => absurd hc List.not_mem_nil) (fun e => absurd rfl e)
  | drop n =>
    unfold step
    simp only
    split
    · exact h
    · exact finv_erase h n
  | dropp pre =>
    unfold step
    simp only
    by_cases he : (droppNames s pre).isEmpty = true
    · rw [if_pos he]; exact h
    · rw [if_neg he]; exact finv_eraseAll _ h
  | drel r => exact finv_drel h r
  | clrp pre => exact finv_clrp h pre
  | idx => exact finv_idx h
  | idxdrop => exact finv_idxdrop h
  | mat n ar => exact finv_mat h n ar hw
  | q a => exact h
  | m => exact h

theorem finv_init : FInv init :=
  ⟨⟨fun _ _ h => absurd h List.not_mem_nil, List.nodup_nil⟩, fun _ hn => absurd rfl hn,
    fun _ h => absurd h.symm (Option.some_ne_none _), rfl⟩

theorem finv_runFrom (l : List Step) {s : St} (h : FInv s) (hw : wellUsed s l = true) : FInv (runFrom s l) := by
  induction l generalizing s with
  | nil => exact h
  | cons st l ih =>
    simp only [wellUsed, Bool.and_eq_true] at hw
    exact ih (finv_step h st hw.1) hw.2

theorem finv_run (l : List Step) (hw : wellUsed init l = true) : FInv (run l) :=
  finv_runFrom l finv_init hw

end ILV.C18
