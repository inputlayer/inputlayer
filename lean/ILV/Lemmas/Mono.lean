/-
  Clause evaluation (aggregate-free rules) is monotone: more tuples in the positively scanned
  relations, the same tuples in the negated ones ⇒ more derived tuples (when both evaluations
  succeed). Hence it only sees the *set* of tuples of each scanned relation. Used for the
  least-fix-point arguments of C01 (self-recursive heads, `pmEval`) and for C04.
-/
import ILV.Lemmas.Datalog
namespace ILV.DL

theorem evalPos_sub {lk1 lk2 : String → List Tuple} : ∀ {atoms : List Atom},
    (∀ a, a ∈ atoms → Sub (lk1 a.rel) (lk2 a.rel)) →
    ∀ {envs1 envs2 : List Env}, Sub envs1 envs2 → Sub (evalPos lk1 atoms envs1) (evalPos lk2 atoms envs2)
  | [], _, _, _, h => h
  | a :: as, hA, envs1, envs2, h => by
    unfold evalPos
    apply evalPos_sub (fun b hb => hA b (List.mem_cons_of_mem _ hb))
    intro e he
    obtain ⟨env, henv, hf⟩ := List.mem_flatMap.1 he
    obtain ⟨t, ht, hm⟩ := List.mem_filterMap.1 hf
    exact List.mem_flatMap.2 ⟨env, h env henv, List.mem_filterMap.2 ⟨t, hA a (List.mem_cons_self ..) t ht, hm⟩⟩

theorem specCmps_sub (cs : List Cmp) {envs1 envs2 : List Env} (h : Sub envs1 envs2) :
    Sub (specCmps cs envs1) (specCmps cs envs2) := by
  intro x hx
  unfold specCmps at hx ⊢
  simp only [List.mem_filter, List.mem_map] at hx ⊢
  obtain ⟨⟨⟨e, he, rfl⟩, h1⟩, h2⟩ := hx
  exact ⟨⟨⟨e, h e he, rfl⟩, h1⟩, h2⟩

theorem negHolds_congr (lk1 lk2 : String → List Tuple) (a : Atom) (env : Env)
    (h : MemEq (lk1 a.rel) (lk2 a.rel)) : negHolds lk1 a env = negHolds lk2 a env := by
  rw [negHolds, negHolds, Bool.eq_iff_iff, List.all_eq_true, List.all_eq_true]
  exact ⟨fun g t ht => g t ((h t).2 ht), fun g t ht => g t ((h t).1 ht)⟩

theorem evalNegs_sub {lk1 lk2 : String → List Tuple} {negs : List Atom}
    (hN : ∀ a, a ∈ negs → MemEq (lk1 a.rel) (lk2 a.rel)) {envs1 envs2 : List Env} (h : Sub envs1 envs2) :
    Sub (evalNegs lk1 negs envs1) (evalNegs lk2 negs envs2) := by
  intro x hx
  unfold evalNegs at hx ⊢
  obtain ⟨hx1, hp⟩ := List.mem_filter.1 hx
  refine List.mem_filter.2 ⟨h x hx1, ?_⟩
  rw [List.all_eq_true] at hp ⊢
  intro a ha
  rw [← negHolds_congr lk1 lk2 a x (hN a ha)]
  exact hp a ha

/-- lookups ordered on the positive atoms of a rule and set-equal on its negated atoms. -/
def LeOn (r : Rule) (lk1 lk2 : String → List Tuple) : Prop :=
  (∀ a, a ∈ r.posAtoms → Sub (lk1 a.rel) (lk2 a.rel)) ∧ (∀ a, a ∈ r.negAtoms → MemEq (lk1 a.rel) (lk2 a.rel))

theorem bodyEnvs_sub {lk1 lk2 : String → List Tuple} (r : Rule) (h : LeOn r lk1 lk2) :
    Sub (bodyEnvs lk1 r) (bodyEnvs lk2 r) :=
  evalNegs_sub h.2 (specCmps_sub _ (evalPos_sub h.1 (Sub.refl _)))

theorem evalRuleLk_sub {lk1 lk2 : String → List Tuple} (r : Rule) (hagg : r.hasAgg = false) (h : LeOn r lk1 lk2)
    (t1 t2 : List Tuple) (h1 : evalRuleLk lk1 r = some t1) (h2 : evalRuleLk lk2 r = some t2) : Sub t1 t2 := by
  rw [evalRuleLk_noAgg _ hagg] at h1 h2
  intro t ht
  obtain ⟨env, henv, hf⟩ := (optMapM_some_mem _ _ _ h1 t).1 ht
  exact (optMapM_some_mem _ _ _ h2 t).2 ⟨env, bodyEnvs_sub r h env henv, hf⟩

theorem evalRules_sub {lk1 lk2 : String → List Tuple} (cs : List Rule) (hagg : ∀ r, r ∈ cs → r.hasAgg = false)
    (h : ∀ r, r ∈ cs → LeOn r lk1 lk2) (t1 t2 : List Tuple)
    (h1 : evalRules lk1 cs = some t1) (h2 : evalRules lk2 cs = some t2) : Sub t1 t2 := by
  unfold evalRules at h1 h2
  intro t ht
  obtain ⟨r, a, hr, ha, hta⟩ := (evalRulesWith_some_mem _ _ _ h1 t).1 ht
  obtain ⟨b, hb⟩ := evalRulesWith_isSome.1 ⟨t2, h2⟩ r hr
  exact (evalRulesWith_some_mem _ _ _ h2 t).2 ⟨r, b, hr, hb, evalRuleLk_sub r (hagg r hr) (h r hr) a b ha hb t hta⟩

/-- lookups that agree as sets on the relations a rule scans. -/
def AgreeOn (rels : List String) (lk1 lk2 : String → List Tuple) : Prop :=
  ∀ r, r ∈ rels → MemEq (lk1 r) (lk2 r)

theorem AgreeOn.symm {rels : List String} {lk1 lk2 : String → List Tuple} (h : AgreeOn rels lk1 lk2) :
    AgreeOn rels lk2 lk1 := fun r hr => (h r hr).symm

theorem AgreeOn.leOn {r : Rule} {lk1 lk2 : String → List Tuple} (h : AgreeOn r.scans lk1 lk2) : LeOn r lk1 lk2 :=
  ⟨fun _ ha => (h _ (mem_posAtoms_scans ha)).sub, fun _ ha => h _ (mem_negAtoms_scans ha)⟩

theorem bodyEnvs_memEq {lk1 lk2 : String → List Tuple} (r : Rule) (h : AgreeOn r.scans lk1 lk2) :
    MemEq (bodyEnvs lk1 r) (bodyEnvs lk2 r) :=
  memEq_of_sub (bodyEnvs_sub r h.leOn) (bodyEnvs_sub r h.symm.leOn)

theorem evalRuleLk_memEq {lk1 lk2 : String → List Tuple} (r : Rule) (hagg : r.hasAgg = false)
    (h : AgreeOn r.scans lk1 lk2) : OptMemEq (evalRuleLk lk1 r) (evalRuleLk lk2 r) := by
  rw [evalRuleLk_noAgg _ hagg, evalRuleLk_noAgg _ hagg]
  exact optMapM_memEq _ (bodyEnvs_memEq r h)

theorem evalRules_memEq {p : Program} {h : String} {lk1 lk2 : String → List Tuple}
    (hagg : ∀ r, r ∈ p → r.hasAgg = false)
    (hA : AgreeOn (scansOf p h) lk1 lk2) :
    OptMemEq (evalRules lk1 (clausesOf p h)) (evalRules lk2 (clausesOf p h)) :=
  evalRulesWith_memEq _ _ _ fun r hr =>
    evalRuleLk_memEq r (hagg r (mem_clausesOf.1 hr).1) fun x hx => hA x (mem_scansOf.2 ⟨r, hr, hx⟩)

end ILV.DL
