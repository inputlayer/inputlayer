/-
  C18: first facts about the evaluator of ILV.Model.Incr — `addNew` as set union, a clause fires the
  same on databases that agree on its body, the iteration is a power of `tstep`, the keys of the
  derived tables are always the heads of the program, and what `evalProg` reads at a head / a non-head.
-/
import ILV.Lemmas.IncrList
namespace ILV.C18

theorem mem_heads (prog : List Clause) (n : Name) : n ∈ heads prog ↔ ∃ c ∈ prog, c.head.rel = n := by
  simp [heads, mem_dedupNames]

theorem mem_addNew (l ts : List Tup) (t : Tup) : t ∈ addNew l ts ↔ t ∈ l ∨ t ∈ ts := by
  induction ts generalizing l with
  | nil => exact ⟨Or.inl, fun h => h.elim id fun h => absurd h List.not_mem_nil⟩
  | cons a ts ih =>
    unfold addNew
    by_cases h : a ∈ l
    · rw [if_pos h, ih, List.mem_cons]
      exact ⟨fun h' => h'.imp_right Or.inr,
        fun h' => h'.elim Or.inl fun h' => h'.elim (fun e => Or.inl (e ▸ h)) Or.inr⟩
    · rw [if_neg h, ih, List.mem_append, List.mem_singleton, List.mem_cons, or_assoc]

theorem addNew_of_subset (l ts : List Tup) (h : ∀ t ∈ ts, t ∈ l) : addNew l ts = l := by
  induction ts with
  | nil => simp [addNew]
  | cons a ts ih =>
    have ha : a ∈ l := h a (by simp)
    simp only [addNew, ha, if_true]
    exact ih (fun t ht => h t (List.mem_cons_of_mem _ ht))

theorem solveBody_congr (db1 db2 : Name → List Tup) (body : List Atom) (envs : List Env)
    (h : ∀ a ∈ body, db1 a.rel = db2 a.rel) : solveBody db1 body envs = solveBody db2 body envs := by
  induction body generalizing envs with
  | nil => simp [solveBody]
  | cons a as ih =>
    simp only [solveBody]
    rw [h a (by simp)]
    exact ih _ (fun b hb => h b (List.mem_cons_of_mem _ hb))

theorem fire_congr (db1 db2 : Name → List Tup) (c : Clause)
    (h : ∀ r ∈ bodyRels c, db1 r = db2 r) : fire db1 c = fire db2 c := by
  unfold fire
  rw [solveBody_congr db1 db2 c.body _ (fun a ha => h a.rel (List.mem_map.mpr ⟨a, ha, rfl⟩))]

theorem mem_consequences (prog : List Clause) (db : Name → List Tup) (n : Name) (t : Tup) :
    t ∈ consequences prog db n ↔ ∃ c ∈ prog, c.head.rel = n ∧ t ∈ fire db c := by
  simp [consequences, clausesOf, List.mem_flatMap, List.mem_filter, and_assoc]

theorem consequences_congr (prog : List Clause) (db1 db2 : Name → List Tup) (n : Name)
    (h : ∀ c ∈ prog, c.head.rel = n → ∀ r ∈ bodyRels c, db1 r = db2 r) :
    consequences prog db1 n = consequences prog db2 n := by
  unfold consequences
  rw [List.flatMap_def, List.flatMap_def]
  congr 1
  apply List.map_congr_left
  intro c hc
  have hc' := List.mem_filter.mp hc
  exact fire_congr db1 db2 c (h c hc'.1 (by simpa using hc'.2))

def inDb (inputs : List (Name × List Tup)) (r : Name) : List Tup := (aget inputs r).getD []

theorem iter_succ (prog : List Clause) (inputs d : List (Name × List Tup)) (k : Nat) :
    iter prog inputs (k + 1) d =
      if tstep prog inputs d = d then d else iter prog inputs k (tstep prog inputs d) := rfl

theorem evalProg_eq (prog : List Clause) (inputs : List (Name × List Tup)) :
    evalProg prog inputs = look inputs (res prog inputs) := rfl

def tpow (prog : List Clause) (inputs : List (Name × List Tup)) : Nat → List (Name × List Tup) → List (Name × List Tup)
  | 0, d => d
  | j + 1, d => tpow prog inputs j (tstep prog inputs d)

theorem iter_is_pow (prog : List Clause) (inputs : List (Name × List Tup)) (k : Nat) (d : List (Name × List Tup)) :
    ∃ j, iter prog inputs k d = tpow prog inputs j d := by
  induction k generalizing d with
  | zero => exact ⟨0, rfl⟩
  | succ k ih =>
    rw [iter_succ]
    by_cases h : tstep prog inputs d = d
    · exact ⟨0, if_pos h⟩
    · obtain ⟨j, hj⟩ := ih (tstep prog inputs d)
      exact ⟨j + 1, (if_neg h).trans hj⟩

theorem res_is_pow (prog : List Clause) (inputs : List (Name × List Tup)) :
    ∃ j, res prog inputs = tpow prog inputs j (d0 prog) :=
  iter_is_pow prog inputs (evalFuel prog inputs) (d0 prog)

theorem aget_tstep (prog : List Clause) (inputs d : List (Name × List Tup)) (n : Name) :
    aget (tstep prog inputs d) n =
      (aget d n).map fun tbl => addNew tbl (consequences prog (look inputs d) n) :=
  aget_map_val d (fun k v => addNew v (consequences prog (look inputs d) k)) n

theorem akeys_tstep (prog : List Clause) (inputs d : List (Name × List Tup)) : akeys (tstep prog inputs d) = akeys d :=
  akeys_map_val d fun k v => addNew v (consequences prog (look inputs d) k)

theorem akeys_tpow (prog : List Clause) (inputs : List (Name × List Tup)) (j : Nat) (d : List (Name × List Tup)) :
    akeys (tpow prog inputs j d) = akeys d := by
  induction j generalizing d with
  | zero => rfl
  | succ j ih => exact (ih _).trans (akeys_tstep prog inputs d)

theorem akeys_d0 (prog : List Clause) : akeys (d0 prog) = heads prog :=
  akeys_mapNames _ _

theorem aget_d0 (prog : List Clause) {n : Name} (hn : n ∈ heads prog) : aget (d0 prog) n = some [] := by
  unfold d0
  rw [aget_mapNames, if_pos hn]

theorem akeys_res (prog : List Clause) (inputs : List (Name × List Tup)) : akeys (res prog inputs) = heads prog := by
  obtain ⟨j, hj⟩ := res_is_pow prog inputs
  rw [hj, akeys_tpow, akeys_d0]

theorem look_nonhead (inputs d : List (Name × List Tup)) (x : Name) (hx : x ∉ akeys d) :
    look inputs d x = inDb inputs x := by
  unfold look inDb
  rw [aget_none_of_not_key hx]

theorem look_head {inputs d : List (Name × List Tup)} {x : Name} {tbl : List Tup} (h : aget d x = some tbl) :
    look inputs d x = tbl := by
  unfold look
  rw [h]

theorem evalProg_nonhead (prog : List Clause) (inputs : List (Name × List Tup)) (n : Name) (hn : n ∉ heads prog) :
    evalProg prog inputs n = inDb inputs n :=
  look_nonhead inputs (res prog inputs) n (by rw [akeys_res]; exact hn)

theorem evalProg_head (prog : List Clause) (inputs : List (Name × List Tup)) (n : Name) (hn : n ∈ heads prog) :
    ∃ tbl, aget (res prog inputs) n = some tbl ∧ evalProg prog inputs n = tbl := by
  obtain ⟨tbl, ht⟩ := key_aget (l := res prog inputs) (n := n) (by rw [akeys_res]; exact hn)
  exact ⟨tbl, ht, look_head ht⟩

theorem mem_answer (db : Name → List Tup) (q : Atom) (t : Tup) :
    t ∈ answer db q ↔ t ∈ db q.rel ∧ (matchArgs q.args t []).isSome = true := by
  simp [answer, mem_addNew, List.mem_filter]

theorem setEqb_iff (a b : List Tup) : setEqb a b = true ↔ SetEq a b := by
  simp only [setEqb, Bool.and_eq_true, List.all_eq_true, List.contains_iff_mem, SetEq]
  constructor
  · rintro ⟨h1, h2⟩ t; exact ⟨h1 t, h2 t⟩
  · intro h; exact ⟨fun t ht => (h t).mp ht, fun t ht => (h t).mpr ht⟩

end ILV.C18
