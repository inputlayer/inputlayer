/-
  The engine's database (programs whose only cycles are self-loops, aggregate-free, clauses
  evaluated faithfully) coincides with `pmEval`'s stratified least model: by induction on the
  stratum, `pmEval ≤ engine` because the engine's database is closed (`pmEval_least`), and
  `engine ≤ pmEval` head by head along the execution order because each engine head is the least
  closed set (`LeastFor`) and `pmEval`'s model is closed (`isFix`). Databases that are least closed
  head by head are unique (`least_le`); without cycles so are supported ones (`supported_unique`).
-/
import ILV.Lemmas.Recursion
import ILV.Lemmas.PmEval
namespace ILV.Engine
open ILV ILV.DL

theorem engine_le_pm (p : Program) (edb M : DB) (rk : Ranks) (F : String → List Tuple) (k : Nat)
    (hagg : ∀ r, r ∈ p → r.hasAgg = false) (hfix : isFix p edb M = true)
    (hnon : ∀ g, g ∉ heads p → F g = M.get g)
    (hweak : ∀ r, r ∈ p → ∀ a, a ∈ r.posAtoms → Ranks.get rk a.rel ≤ Ranks.get rk r.hrel)
    (hstrict : ∀ r, r ∈ p → ∀ a, a ∈ r.negAtoms → Ranks.get rk a.rel < Ranks.get rk r.hrel)
    (hlow : ∀ g, g ∈ heads p → Ranks.get rk g < k → MemEq (F g) (M.get g))
    (hge : ∀ g, g ∈ heads p → Ranks.get rk g = k → Sub (M.get g) (F g))
    (order : List String) (hd : depOrderedS p order [] = true) (hheads : ∀ g, g ∈ order → g ∈ heads p)
    (hleast : ∀ g, g ∈ order → LeastFor p F g) :
    ∀ h, h ∈ order → Ranks.get rk h = k → MemEq (F h) (M.get h) := by
  refine depOrderedS_induction order [] hd (fun _ hg => nomatch hg) fun g hg ih hgk => ?_
  refine memEq_of_sub ((hleast g hg).le_closed hagg (fun r hr hne => ?_) (isFix_closed hfix g (hheads g hg)))
    (hge g (hheads g hg) hgk)
  by_cases hrh : r ∈ heads p
  · have hrle : Ranks.get rk r ≤ k := by
      obtain ⟨cl, hcl, hat⟩ := mem_scansOf.1 hr
      obtain ⟨hclp, hrel⟩ := mem_clausesOf.1 hcl
      rw [← hgk, ← hrel]
      rcases mem_scans.1 hat with ⟨a, ha, rfl⟩ | ⟨a, ha, rfl⟩
      · exact hweak cl hclp a ha
      · exact Nat.le_of_lt (hstrict cl hclp a ha)
    exact (Nat.lt_or_eq_of_le hrle).elim (hlow r hrh) (ih r hr hne hrh)
  · rw [hnon r hrh]; exact .refl _

theorem engine_eq_pm (p : Program) (edb M : DB) (fuel' : Nat) (hpm : pmEval fuel' p edb = some M)
    (F : String → List Tuple) (order : List String)
    (hagg : ∀ r, r ∈ p → r.hasAgg = false) (hno : ∀ h, h ∈ heads p → edb.get h = [])
    (hnon : ∀ g, g ∉ heads p → F g = edb.get g)
    (hdep : depOrderedS p order [] = true) (hheads : ∀ g, g ∈ order → g ∈ heads p)
    (hall : ∀ g, g ∈ heads p → g ∈ order) (hleast : ∀ g, g ∈ order → LeastFor p F g) :
    ∀ h, h ∈ heads p → MemEq (F h) (M.get h) := by
  obtain ⟨rk, db, hst, _, _, hfix⟩ := pmEval_run hpm
  obtain ⟨hok, _⟩ := stratify_ok hst
  have hweak : ∀ r, r ∈ p → ∀ a, a ∈ r.posAtoms → Ranks.get rk a.rel ≤ Ranks.get rk r.hrel :=
    fun r hr => (ranks_atoms hok r hr (hagg r hr)).1
  have hstrict : ∀ r, r ∈ p → ∀ a, a ∈ r.negAtoms → Ranks.get rk a.rel < Ranks.get rk r.hrel :=
    fun r hr => (ranks_atoms hok r hr (hagg r hr)).2
  have hnonM : ∀ g, g ∉ heads p → F g = M.get g := fun g hg => by rw [hnon g hg, pmEval_nonhead hpm g hg]
  have main : ∀ k, ∀ h, h ∈ heads p → Ranks.get rk h = k → MemEq (F h) (M.get h) := by
    intro k
    induction k using Nat.strongRecOn with
    | ind k ih =>
      have hlow : ∀ g, g ∈ heads p → Ranks.get rk g < k → MemEq (F g) (M.get g) := fun g hg hlt => ih _ hlt g hg rfl
      have hge : ∀ g, g ∈ heads p → Ranks.get rk g = k → Sub (M.get g) (F g) :=
        pmEval_least hpm hagg hno rk hst F (fun g hg => by rw [hnon g hg]; exact MemEq.refl _)
          (fun h hh => (hleast h (hall h hh)).1) k (fun g hg hlt => (hlow g hg hlt).symm)
      exact fun h hh => engine_le_pm p edb M rk F k hagg hfix hnonM hweak hstrict hlow hge order hdep hheads hleast
        h (hall h hh)
  exact fun h hh => main _ h hh rfl

theorem neg_not_self {p : Program} {edb M : DB} {fuel' : Nat} (hpm : pmEval fuel' p edb = some M)
    (hagg : ∀ r, r ∈ p → r.hasAgg = false) : ∀ r, r ∈ p → ∀ a, a ∈ r.negAtoms → a.rel ≠ r.hrel := by
  obtain ⟨rk, _, hst, _, _, _⟩ := pmEval_run hpm
  obtain ⟨hok, _⟩ := stratify_ok hst
  intro r hr a ha heq
  have := (ranks_atoms hok r hr (hagg r hr)).2 a ha
  rw [heq] at this
  exact Nat.lt_irrefl _ this

theorem least_le (p : Program) (hagg : ∀ r, r ∈ p → r.hasAgg = false) (F1 F2 : String → List Tuple)
    (hnon : ∀ g, g ∉ heads p → F1 g = F2 g) :
    ∀ (order seen : List String), depOrderedS p order seen = true →
      (∀ g, g ∈ order → LeastFor p F1 g) → (∀ g, g ∈ order → LeastFor p F2 g) →
      (∀ g, g ∈ seen → MemEq (F1 g) (F2 g)) →
      ∀ h, h ∈ order → MemEq (F1 h) (F2 h) := by
  intro order seen hd h1 h2 hseen
  refine depOrderedS_induction order seen hd hseen fun g hg ih => ?_
  have hab : ∀ r, r ∈ scansOf p g → r ≠ g → MemEq (F1 r) (F2 r) := fun r hr hne => by
    by_cases hrh : r ∈ heads p
    · exact ih r hr hne hrh
    · rw [hnon r hrh]; exact .refl _
  exact memEq_of_sub ((h1 g hg).le_closed hagg hab (h2 g hg).1)
    ((h2 g hg).le_closed hagg (fun r hr hne => (hab r hr hne).symm) (h1 g hg).1)

theorem supported_unique (p : Program) (hagg : ∀ r, r ∈ p → r.hasAgg = false)
    (F1 F2 : String → List Tuple) (hnon : ∀ r, r ∉ heads p → F1 r = F2 r) :
    ∀ (order seen : List String), depOrdered p order seen = true →
      Supported p F1 order → Supported p F2 order →
      (∀ r, r ∈ seen → MemEq (F1 r) (F2 r)) →
      ∀ g, g ∈ order → MemEq (F1 g) (F2 g) := by
  intro order seen hd hs1 hs2 hseen
  refine depOrderedS_induction order seen (depOrderedS_of_depOrdered hd) hseen fun g hg ih => ?_
  by_cases hgh : g ∈ heads p
  · obtain ⟨t1, he1, hm1⟩ := hs1 g hg
    obtain ⟨t2, he2, hm2⟩ := hs2 g hg
    have hns := depOrdered_not_self hd g hg hgh
    have := evalRules_memEq (h := g) hagg (lk1 := F1) (lk2 := F2) fun r hr => by
      by_cases hrh : r ∈ heads p
      · exact ih r hr (fun e => hns (e ▸ hr)) hrh
      · rw [hnon r hrh]; exact .refl _
    rw [he1, he2] at this
    exact (hm1.trans this).trans hm2.symm
  · rw [hnon g hgh]; exact .refl _

theorem leastFor_sameRules {p p' : Program} (hs : sameRules p p') (F : String → List Tuple) (g : String)
    (h : LeastFor p' F g) : LeastFor p F g := by
  constructor
  · obtain ⟨d, hd, hsub⟩ := h.1
    have := sameRules_evalRules hs F g
    rw [hd] at this
    obtain ⟨d', hd', hm⟩ := this.of_some
    exact ⟨d', hd', fun t ht => hsub t ((hm t).1 ht)⟩
  · intro X dX hX hXs
    have := sameRules_evalRules hs (override F g X) g
    rw [hX] at this
    obtain ⟨d', hd', hm⟩ := this.of_some'
    exact h.2 X d' hd' (fun t ht => hXs t ((hm t).2 ht))

/-- Decidable description of the fragment with self-recursion: the execution order the code chooses
    lists every head after the *other* heads it scans (a head may scan itself), exactly the heads
    are executed, heads have no stored facts, no aggregates, the last executed head is the head of
    the last rule. -/
def inFragmentRec (p : Program) (edb : DB) : Bool :=
  depOrderedS p (execOrder p) [] &&
  (execOrder p).all (heads p).contains &&
  (heads p).all (execOrder p).contains &&
  (heads p).all (fun h => (edb.get h).isEmpty) &&
  p.all (fun r => !r.hasAgg) &&
  ((execOrder p).getLast? == some (queryRel p))

theorem inFragmentRec_parts {p : Program} {edb : DB} (hfrag : inFragmentRec p edb = true) :
    depOrderedS p (execOrder p) [] = true ∧ (∀ g, g ∈ execOrder p → g ∈ heads p) ∧ (∀ g, g ∈ heads p → g ∈ execOrder p) ∧
    (∀ h, h ∈ heads p → edb.get h = []) ∧ (∀ r, r ∈ p → r.hasAgg = false) ∧
    (execOrder p).getLast? = some (queryRel p) := by
  simp only [inFragmentRec, Bool.and_eq_true, List.all_eq_true, beq_iff_eq, Bool.not_eq_true',
    List.isEmpty_iff, List.contains_iff_mem] at hfrag
  exact ⟨hfrag.1.1.1.1.1, hfrag.1.1.1.1.2, hfrag.1.1.1.2, hfrag.1.1.2, hfrag.1.2, hfrag.2⟩

theorem inFragmentRec_of_inFragment {p : Program} {edb : DB} (hfrag : inFragment p edb = true) :
    inFragmentRec p edb = true := by
  have h := hfrag
  simp only [inFragment, Bool.and_eq_true] at h
  obtain ⟨⟨⟨⟨hdep, hheads⟩, hno⟩, hagg⟩, hlast⟩ := h
  simp only [inFragmentRec, Bool.and_eq_true]
  exact ⟨⟨⟨⟨⟨depOrderedS_of_depOrdered hdep, hheads⟩,
    List.all_eq_true.2 fun g hg => List.contains_iff_mem.2 (heads_sub_execOrder p g hg)⟩, hno⟩, hagg⟩, hlast⟩

theorem neg_not_self_of_inFragment {p : Program} {edb : DB} (hfrag : inFragment p edb = true) :
    ∀ r, r ∈ p → ∀ a, a ∈ r.negAtoms → a.rel ≠ r.hrel := by
  obtain ⟨hdep, _, _, _, _⟩ := inFragment_parts hfrag
  intro r hr a ha heq
  have hh : r.hrel ∈ heads p := mem_heads.2 ⟨r, hr, rfl⟩
  exact depOrdered_not_self hdep _ (heads_sub_execOrder p _ hh) hh
    (mem_scansOf.2 ⟨r, mem_clausesOf.2 ⟨hr, rfl⟩, heq ▸ mem_negAtoms_scans ha⟩)

theorem run_least (p : Program) (edb : DB) (hash : Tuple → Nat) (ord : String → List Tuple → List Tuple)
    (fuel : Nat) (A : List Tuple) (acc : DB)
    (hfrag : inFragmentRec p edb = true) (hcf : ClauseFaithful p)
    (hnegself : ∀ r, r ∈ p → ∀ a, a ∈ r.negAtoms → a.rel ≠ r.hrel)
    (hrun : Engine.run allOff hash ord fuel p edb = .ok A acc) :
    (∀ g, g ∈ execOrder p → LeastFor p (lkOf edb acc) g) ∧
    (∀ r, r ∉ heads p → lkOf edb acc r = edb.get r) ∧
    lkOf edb acc (queryRel p) = A := by
  obtain ⟨hdep, hheads, _, hno, hagg, hlastq⟩ := inFragmentRec_parts hfrag
  obtain ⟨hframe, hleast, hlast⟩ := execLoop_least hash ord fuel p edb hcf hagg hno hnegself (execOrder p) [] [] [] A acc
    hdep hheads (fun _ _ => rfl) (run_loop hrun)
  exact ⟨hleast, fun r hr => lkOf_of_lookup_none edb acc r (hframe r fun hc => hr (hheads r hc)),
    lkOf_of_lookup edb acc _ A (hlast _ hlastq)⟩

end ILV.Engine
