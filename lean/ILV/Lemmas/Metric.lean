/-
  Exact identities behind `transform_distance` (src/hnsw_index.rs:157): on unit vectors the squared
  L2 distance determines the cosine and the dot product.  Over ℚ (no rounding).
-/
import Mathlib.Tactic.Ring
namespace ILV.Hnsw

def dotQ : List ℚ → List ℚ → ℚ
  | x :: xs, y :: ys => x * y + dotQ xs ys
  | _, _ => 0

def sqDistQ : List ℚ → List ℚ → ℚ
  | x :: xs, y :: ys => (x - y) * (x - y) + sqDistQ xs ys
  | _, _ => 0

theorem sqDist_expand (a b : List ℚ) (h : a.length = b.length) :
    sqDistQ a b = dotQ a a + dotQ b b - 2 * dotQ a b := by
  induction a generalizing b with
  | nil =>
    cases b with
    | nil => exact (by norm_num : (0 : ℚ) = 0 + 0 - 2 * 0)
    | cons y ys => cases h
  | cons x xs ih =>
    cases b with
    | nil => cases h
    | cons y ys =>
      rw [sqDistQ, dotQ, dotQ, dotQ, ih ys (Nat.succ.inj h)]
      ring

/-- cosine distance `1 - a·b` of unit vectors is `L2² / 2`. -/
theorem cosine_of_l2 (a b : List ℚ) (h : a.length = b.length) (ha : dotQ a a = 1) (hb : dotQ b b = 1) :
    sqDistQ a b / 2 = 1 - dotQ a b := by
  rw [sqDist_expand a b h, ha, hb]; ring

/-- negated dot product of unit vectors is `-(1 - L2² / 2)`. -/
theorem dot_of_l2 (a b : List ℚ) (h : a.length = b.length) (ha : dotQ a a = 1) (hb : dotQ b b = 1) :
    -(1 - sqDistQ a b / 2) = -(dotQ a b) := by
  rw [cosine_of_l2 a b h ha hb, sub_sub_cancel]

end ILV.Hnsw
