/-
  Lemmas about the probe enumeration of ILV.Model.Lsh (`flipSets`, `applyFlips`, `probesOf`):
  every flip set is a sublist of the index order, the enumeration has no duplicates, set sizes
  are non-decreasing, xor with the set's mask is injective and changes exactly `|set|` bits.
-/
import ILV.Model.Lsh
import Mathlib.Data.List.Nodup
import Mathlib.Data.Nat.Choose.Basic
namespace ILV.Lsh
open List

theorem sublist_ext_of_nodup {α} {l : List α} (hl : l.Nodup) :
    ∀ {s t : List α}, s <+ l → t <+ l → (∀ x, x ∈ s ↔ x ∈ t) → s = t := by
  induction l with
  | nil => intro s t hs ht _; rw [sublist_nil.1 hs, sublist_nil.1 ht]
  | cons a l ih =>
    have ha : a ∉ l := (nodup_cons.1 hl).1
    have hl' : l.Nodup := (nodup_cons.1 hl).2
    -- the tails of two sublists that both start with `a` have the same members again
    have tail : ∀ {u w : List α}, u <+ l → (∀ x, x ∈ a :: u → x ∈ a :: w) → ∀ x ∈ u, x ∈ w :=
      fun hu h x hx => (mem_cons.1 (h x (mem_cons_of_mem a hx))).resolve_left fun e => ha (e ▸ hu.subset hx)
    intro s t hs ht h
    cases hs with
    | cons _ hs' =>
      cases ht with
      | cons _ ht' => exact ih hl' hs' ht' h
      | cons_cons _ ht' => exact absurd (hs'.subset ((h a).2 mem_cons_self)) ha
    | cons_cons _ hs' =>
      cases ht with
      | cons _ ht' => exact absurd (ht'.subset ((h a).1 mem_cons_self)) ha
      | cons_cons _ ht' =>
        rw [ih hl' hs' ht' fun x => ⟨tail hs' (fun x => (h x).1) x, tail ht' (fun x => (h x).2) x⟩]

theorem mem_pairs_sublist {idx s : List Nat} (h : s ∈ pairs idx) : s <+ idx ∧ s.length = 2 := by
  induction idx with
  | nil => simp [pairs] at h
  | cons i rest ih =>
    simp only [pairs, mem_append, mem_map] at h
    rcases h with ⟨j, hj, rfl⟩ | h
    · exact ⟨Sublist.cons_cons _ (singleton_sublist.2 hj), rfl⟩
    · exact ⟨Sublist.cons _ (ih h).1, (ih h).2⟩

theorem mem_triples_sublist {idx s : List Nat} (h : s ∈ triples idx) : s <+ idx ∧ s.length = 3 := by
  induction idx with
  | nil => simp [triples] at h
  | cons i rest ih =>
    simp only [triples, mem_append, mem_map] at h
    rcases h with ⟨p, hp, rfl⟩ | h
    · exact ⟨Sublist.cons_cons _ (mem_pairs_sublist hp).1, by simp [(mem_pairs_sublist hp).2]⟩
    · exact ⟨Sublist.cons _ (ih h).1, (ih h).2⟩

theorem nodup_pairs {idx : List Nat} (h : idx.Nodup) : (pairs idx).Nodup := by
  induction idx with
  | nil => simp [pairs]
  | cons i rest ih =>
    have hi : i ∉ rest := (nodup_cons.1 h).1
    have hr : rest.Nodup := (nodup_cons.1 h).2
    simp only [pairs]
    refine nodup_append.2 ⟨?_, ih hr, ?_⟩
    · exact hr.map (fun a b hab => by simpa using hab)
    · intro a ha b hb hab
      rcases mem_map.1 ha with ⟨j, _, rfl⟩
      subst hab
      exact hi ((mem_pairs_sublist hb).1.subset (mem_cons_self))

theorem nodup_triples {idx : List Nat} (h : idx.Nodup) : (triples idx).Nodup := by
  induction idx with
  | nil => simp [triples]
  | cons i rest ih =>
    have hi : i ∉ rest := (nodup_cons.1 h).1
    have hr : rest.Nodup := (nodup_cons.1 h).2
    simp only [triples]
    refine nodup_append.2 ⟨?_, ih hr, ?_⟩
    · exact (nodup_pairs hr).map (fun a b hab => by simpa using hab)
    · intro a ha b hb hab
      rcases mem_map.1 ha with ⟨p, _, rfl⟩
      subst hab
      exact hi ((mem_triples_sublist hb).1.subset (mem_cons_self))

theorem mem_flipSets_sublist {idx s : List Nat} (h : s ∈ flipSets idx) : s <+ idx := by
  simp only [flipSets, mem_append, mem_singleton, mem_map] at h
  rcases h with ((rfl | ⟨i, hi, rfl⟩) | h) | h
  · exact nil_sublist _
  · exact singleton_sublist.2 hi
  · exact (mem_pairs_sublist h).1
  · exact (mem_triples_sublist h).1

/-- appending a block of sets of size `n` to sets that are all smaller keeps sizes non-decreasing
    and the enumeration duplicate-free. -/
theorem append_block {L B : List (List Nat)} {n : Nat} (hL : ∀ a ∈ L, a.length < n) (hB : ∀ b ∈ B, b.length = n) :
    (L.Pairwise (fun s t => s.length ≤ t.length) → (L ++ B).Pairwise (fun s t => s.length ≤ t.length)) ∧
    (L.Nodup → B.Nodup → (L ++ B).Nodup) ∧ ∀ a ∈ L ++ B, a.length < n + 1 := by
  refine ⟨fun h => pairwise_append.2 ⟨h, ?_, fun a ha b hb => ?_⟩, fun h h' => nodup_append.2 ⟨h, h', fun a ha b hb e => ?_⟩,
    fun a ha => ?_⟩
  · exact pairwise_of_forall_mem_list fun a ha b hb => by rw [hB a ha, hB b hb]
  · rw [hB b hb]; exact Nat.le_of_lt (hL a ha)
  · exact absurd (e ▸ hB b hb) (Nat.ne_of_lt (hL a ha))
  · rcases mem_append.1 ha with ha | ha
    · exact Nat.lt_succ_of_lt (hL a ha)
    · rw [hB a ha]; exact Nat.lt_succ_self n

/-- ∅, singles, pairs, triples are four such blocks. -/
theorem flipSets_blocks (idx : List Nat) :
    (flipSets idx).Pairwise (fun s t => s.length ≤ t.length) ∧ (idx.Nodup → (flipSets idx).Nodup) := by
  obtain ⟨p1, n1, l1⟩ := append_block (L := [[]]) (B := idx.map fun i => [i]) (n := 1)
    (fun a ha => by rw [mem_singleton.1 ha]; exact Nat.zero_lt_one)
    (fun b hb => by obtain ⟨i, _, rfl⟩ := mem_map.1 hb; rfl)
  obtain ⟨p2, n2, l2⟩ := append_block l1 fun s hs => (mem_pairs_sublist (idx := idx) hs).2
  obtain ⟨p3, n3, _⟩ := append_block l2 fun s hs => (mem_triples_sublist (idx := idx) hs).2
  refine ⟨p3 (p2 (p1 (pairwise_singleton _ _))), fun h => ?_⟩
  exact n3 (n2 (n1 (pairwise_singleton _ _) (h.map fun a b hab => (List.cons.inj hab).1)) (nodup_pairs h)) (nodup_triples h)

theorem nodup_flipSets {idx : List Nat} (h : idx.Nodup) : (flipSets idx).Nodup := (flipSets_blocks idx).2 h

theorem pairwise_length_flipSets (idx : List Nat) :
    (flipSets idx).Pairwise (fun s t => s.length ≤ t.length) := (flipSets_blocks idx).1

theorem length_pairs (idx : List Nat) : (pairs idx).length = idx.length.choose 2 := by
  induction idx with
  | nil => rfl
  | cons i rest ih =>
    simp only [pairs, length_append, length_map, length_cons, ih]
    rw [Nat.choose_succ_succ, Nat.choose_one_right]

theorem length_triples (idx : List Nat) : (triples idx).length = idx.length.choose 3 := by
  induction idx with
  | nil => rfl
  | cons i rest ih =>
    simp only [triples, length_append, length_map, length_cons, ih, length_pairs]
    rw [Nat.choose_succ_succ]

theorem length_flipSets (idx : List Nat) :
    (flipSets idx).length = 1 + idx.length + idx.length.choose 2 + idx.length.choose 3 := by
  rw [flipSets, length_append, length_append, length_append, length_map, length_pairs, length_triples]
  rfl

theorem applyFlips_eq_xor (b : Nat) (s : List Nat) : applyFlips b s = b ^^^ applyFlips 0 s := by
  unfold applyFlips
  induction s generalizing b with
  | nil => simp
  | cons i t ih =>
    simp only [foldl_cons]
    rw [ih (b ^^^ 1 <<< i), ih (0 ^^^ 1 <<< i), Nat.zero_xor, Nat.xor_assoc]

theorem testBit_foldl_flips (s : List Nat) (hs : s.Nodup) (a i : Nat) :
    (s.foldl (fun acc j => acc ^^^ (1 <<< j)) a).testBit i = (a.testBit i ^^ decide (i ∈ s)) := by
  induction s generalizing a with
  | nil => simp
  | cons j t ih =>
    have hj : j ∉ t := (nodup_cons.1 hs).1
    simp only [foldl_cons]
    rw [ih (nodup_cons.1 hs).2, Nat.testBit_xor, Nat.one_shiftLeft, Nat.testBit_two_pow]
    by_cases hij : j = i
    · subst hij; simp [hj]
    · have : ¬ i = j := fun h => hij h.symm
      simp [hij, this]

theorem testBit_mask {s : List Nat} (hs : s.Nodup) (i : Nat) :
    (applyFlips 0 s).testBit i = decide (i ∈ s) := by
  unfold applyFlips
  rw [testBit_foldl_flips s hs]; simp

theorem applyFlips_inj {idx : List Nat} (hidx : idx.Nodup) (b : Nat) {s t : List Nat}
    (hs : s ∈ flipSets idx) (ht : t ∈ flipSets idx) (h : applyFlips b s = applyFlips b t) : s = t := by
  have hs' := mem_flipSets_sublist hs
  have ht' := mem_flipSets_sublist ht
  rw [applyFlips_eq_xor b s, applyFlips_eq_xor b t] at h
  have hm : applyFlips 0 s = applyFlips 0 t := by
    have := congrArg (fun x => b ^^^ x) h
    simpa [← Nat.xor_assoc] using this
  apply sublist_ext_of_nodup hidx hs' ht'
  intro x
  have := congrArg (fun m => m.testBit x) hm
  simp only [testBit_mask (hidx.sublist hs'), testBit_mask (hidx.sublist ht')] at this
  simpa using this

theorem popCount64_mask {s : List Nat} (hs : s.Nodup) (hlt : ∀ i ∈ s, i < 64) :
    popCount64 (applyFlips 0 s) = s.length := by
  unfold popCount64
  apply Perm.length_eq
  apply (perm_ext_iff_of_nodup (nodup_range.filter _) hs).2
  intro i
  simp only [mem_filter, mem_range, testBit_mask hs]
  constructor
  · intro h; simpa using h.2
  · intro h; exact ⟨hlt i h, by simpa using h⟩

theorem hamming_applyFlips (b : Nat) {s : List Nat} (hs : s.Nodup) (hlt : ∀ i ∈ s, i < 64) :
    hamming b (applyFlips b s) = s.length := by
  unfold hamming
  rw [applyFlips_eq_xor, ← Nat.xor_assoc, Nat.xor_self, Nat.zero_xor]
  exact popCount64_mask hs hlt

theorem head?_probesOf (b : Nat) (idx : List Nat) (m : Nat) :
    (probesOf b idx m).head? = if m = 0 then none else some b := by
  cases m with
  | zero => rfl
  | succ k => exact (if_neg (Nat.succ_ne_zero k)).symm

theorem nodup_probesOf (b : Nat) {idx : List Nat} (hnd : idx.Nodup) (m : Nat) : (probesOf b idx m).Nodup :=
  ((nodup_flipSets hnd).map_on fun _ hs _ ht h => applyFlips_inj hnd b hs ht h).sublist (take_sublist _ _)

theorem pairwise_hamming_probesOf (b : Nat) {idx : List Nat} (hnd : idx.Nodup) (hlt : ∀ i ∈ idx, i < 64) (m : Nat) :
    (probesOf b idx m).Pairwise (fun p q => hamming b p ≤ hamming b q) := by
  refine Pairwise.sublist (take_sublist _ _) (pairwise_map.2 ((pairwise_length_flipSets idx).imp_of_mem ?_))
  intro s t hs ht hst
  have hs' := mem_flipSets_sublist hs
  have ht' := mem_flipSets_sublist ht
  rw [hamming_applyFlips b (hnd.sublist hs') (fun i hi => hlt i (hs'.subset hi)),
      hamming_applyFlips b (hnd.sublist ht') (fun i hi => hlt i (ht'.subset hi))]
  exact hst

theorem length_probesOf (b : Nat) (idx : List Nat) (m : Nat) :
    (probesOf b idx m).length = min m (1 + idx.length + idx.length.choose 2 + idx.length.choose 3) := by
  rw [probesOf, length_take, length_map, length_flipSets]

theorem insertStable_perm {α} (lt : α → α → Bool) (x : Nat × α) (l : List (Nat × α)) :
    insertStable lt x l ~ x :: l := by
  induction l with
  | nil => exact Perm.refl _
  | cons y ys ih =>
    simp only [insertStable]
    split
    · exact ((Perm.cons y ih).trans (Perm.swap x y ys))
    · exact Perm.refl _

theorem foldr_insertStable_perm {α} (lt : α → α → Bool) (l : List (Nat × α)) :
    l.foldr (insertStable lt) [] ~ l := by
  induction l with
  | nil => exact Perm.refl _
  | cons x xs ih => exact (insertStable_perm lt x _).trans (Perm.cons x ih)

theorem sortIdx_perm {α} (lt : α → α → Bool) (d : List α) : sortIdx lt d ~ List.range d.length := by
  unfold sortIdx
  have h := (foldr_insertStable_perm lt ((List.range d.length).zip d)).map (·.1)
  refine h.trans ?_
  have : ((List.range d.length).zip d).map (·.1) = List.range d.length := by
    apply List.map_fst_zip; simp
  rw [this]

end ILV.Lsh
