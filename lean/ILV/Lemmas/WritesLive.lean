/-
  The two write operations, for any codec and whether or not the persist layer fails.

  Both first run `persist` (bump the clock, make sure the shard exists, append one update per requested
  tuple), which never touches `live` or `arity`; only if that succeeds is the relation changed, by
  `insertLoop` / `deleteLive`. `insertCore_cases` / `deleteCoreRaw_cases` state this shape once; what
  the rest of the development knows about the writes is derived from them. `insertLoop` and `deleteLive`
  compute set union and set difference on duplicate-free lists.
-/
import ILV.Lemmas.StoreInv
namespace ILV.Store
open ILV ILV.Batch ILV.Props.C31

theorem any_eq_iff_mem (t : Tuple) (l : List Tuple) : l.any (Tuple.eq t) = true ↔ t ∈ l := by
  induction l with
  | nil => simp
  | cons x xs ih =>
    simp only [List.any_cons, Bool.or_eq_true, ih, List.mem_cons, tuple_eq_iff_eq]

theorem mem_deleteLive (ex rm : List Tuple) (t : Tuple) : t ∈ deleteLive ex rm ↔ t ∈ ex ∧ t ∉ rm := by
  rw [deleteLive, List.mem_filter, Bool.not_eq_true', ← Bool.not_eq_true, any_eq_iff_mem]

theorem deleteLive_nil (ex : List Tuple) : deleteLive ex [] = ex :=
  List.filter_eq_self.2 (fun _ _ => rfl)

theorem deleteLive_spec (ex ts : List Tuple) (h : ex.Nodup) :
    (deleteLive ex ts).Nodup ∧ (∀ t, t ∈ deleteLive ex ts ↔ t ∈ ex ∧ t ∉ ts) ∧
    (deleteLive ex ts).length ≤ ex.length :=
  ⟨h.filter _, mem_deleteLive ex ts, List.length_filter_le _ _⟩

theorem deleteLive_deleteLive (ex : List Tuple) (t : Tuple) (ts : List Tuple) :
    deleteLive (deleteLive ex [t]) ts = deleteLive ex (t :: ts) := by
  simp only [deleteLive, List.filter_filter]
  congr 1
  funext x
  simp only [List.any_cons, List.any_nil, Bool.or_false, Bool.not_or, Bool.and_comm]

theorem mem_insertLoop : ∀ (ts ex : List Tuple) (n d : Nat) (t : Tuple),
    t ∈ (insertLoop ex n d ts).1 ↔ t ∈ ex ∨ t ∈ ts := by
  intro ts
  induction ts with
  | nil => intro ex n d t; simp only [insertLoop, List.not_mem_nil, or_false]
  | cons x xs ih =>
    intro ex n d t
    rw [insertLoop]
    split
    · next h =>
      rw [ih, List.mem_cons]
      have := (any_eq_iff_mem x ex).1 h
      exact ⟨fun h' => h'.imp_right .inr, fun h' => h'.elim .inl (fun h' => h'.elim (fun e => .inl (e ▸ this)) .inr)⟩
    · rw [ih, List.mem_append, List.mem_singleton, List.mem_cons, or_assoc]

theorem insertLoop_spec : ∀ (ts ex : List Tuple) (n d : Nat), ex.Nodup →
    (insertLoop ex n d ts).1.Nodup ∧
    (insertLoop ex n d ts).2.1 + (insertLoop ex n d ts).2.2 = n + d + ts.length ∧
    (insertLoop ex n d ts).1.length + n = ex.length + (insertLoop ex n d ts).2.1 := by
  intro ts
  induction ts with
  | nil => exact fun ex n d h => ⟨h, rfl, rfl⟩
  | cons t ts ih =>
    intro ex n d h
    refine ite_ind (motive := fun x : List Tuple × Nat × Nat =>
      x.1.Nodup ∧ x.2.1 + x.2.2 = n + d + (t :: ts).length ∧ x.1.length + n = ex.length + x.2.1) _ _ _ (fun _ => ?_) (fun hm => ?_)
    · obtain ⟨a, c1, c2⟩ := ih ex n (d + 1) h
      exact ⟨a, by rw [c1, List.length_cons, ← Nat.add_assoc n d 1, Nat.add_assoc (n + d) 1, Nat.add_comm 1], c2⟩
    · have ht : t ∉ ex := fun hx => hm ((any_eq_iff_mem t ex).2 hx)
      have hnd : (ex ++ [t]).Nodup := List.nodup_append.2 ⟨h, List.nodup_cons.2 ⟨List.not_mem_nil, List.nodup_nil⟩,
        fun a ha b hb e' => ht (by rw [← List.mem_singleton.1 hb, ← e']; exact ha)⟩
      obtain ⟨a, c1, c2⟩ := ih (ex ++ [t]) (n + 1) d hnd
      rw [List.length_append, List.length_singleton, ← Nat.add_assoc, Nat.add_right_comm ex.length 1] at c2
      exact ⟨a, by rw [c1, List.length_cons, Nat.add_right_comm n 1 d, Nat.add_assoc (n + d) 1, Nat.add_comm 1],
        Nat.add_right_cancel c2⟩

theorem insertLoop_fresh : ∀ (ts ex : List Tuple) (n d : Nat), ts.Nodup → (∀ t ∈ ts, t ∉ ex) →
    (insertLoop ex n d ts).1 = ex ++ ts := by
  intro ts
  induction ts with
  | nil => exact fun ex _ _ _ _ => (List.append_nil ex).symm
  | cons t ts ih =>
    intro ex n d hn hab
    rw [List.nodup_cons] at hn
    rw [insertLoop, if_neg (fun h => hab t List.mem_cons_self ((any_eq_iff_mem t ex).1 h)),
      ih (ex ++ [t]) (n + 1) d hn.2, List.append_assoc, List.singleton_append]
    intro x hx hmem
    rcases List.mem_append.1 hmem with hmem | hmem
    · exact hab x (List.mem_cons_of_mem _ hx) hmem
    · exact hn.1 (List.mem_singleton.1 hmem ▸ hx)

def persist (c : Codec) (e : Engine) (rel : String) (us : List Update) : R :=
  append c (ensureShard { e with time := e.time + 1 } rel) rel us

theorem persist_frame (c : Codec) (e : Engine) (rel : String) (us : List Update) : Frame e (persist c e rel us).1 :=
  ((show Frame e { e with time := e.time + 1 } from ⟨rfl, rfl, rfl, rfl⟩).trans (ensureShard_frame _ rel)).trans
    (append_frame c _ rel us)

theorem persist_live {c : Codec} {e e2 : Engine} {rel : String} {us : List Update} {o : Option String}
    (h : persist c e rel us = (e2, o)) : e2.live = e.live := by
  have := (persist_frame c e rel us).live; rwa [h] at this

theorem persist_arity {c : Codec} {e e2 : Engine} {rel : String} {us : List Update} {o : Option String}
    (h : persist c e rel us = (e2, o)) : e2.arity = e.arity := by
  have := (persist_frame c e rel us).arity; rwa [h] at this

def firstLen (ts : List Tuple) : Nat := (ts.headD []).length

/-- is the insert accepted (non-empty, uniform arity, arity of the relation)? -/
def insAcc (e : Engine) (rel : String) (ts : List Tuple) : Bool :=
  !ts.isEmpty && ts.all (fun t => t.length == firstLen ts) && !arityMismatch e rel (firstLen ts)

theorem insAcc_congr {e1 e2 : Engine} (h : e1.arity = e2.arity) (rel : String) (ts : List Tuple) :
    insAcc e1 rel ts = insAcc e2 rel ts := by
  simp only [insAcc, arityMismatch, h]

def insLive (live : List (String × List Tuple)) (rel : String) (ts : List Tuple) : List (String × List Tuple) :=
  aset live rel (insertLoop ((aget live rel).getD []) 0 0 ts).1

theorem insertCore_cases {motive : Engine × Except String (Nat × Nat) → Prop} (c : Codec) (e : Engine) (rel : String)
    (ts : List Tuple)
    (nil : ts = [] → motive (e, .ok (0, 0)))
    (rej : ∀ k, insAcc e rel ts = false → motive (e, .error k))
    (fail : ∀ e2 k, insAcc e rel ts = true → persist c e rel (mkUpdates ts e.time 1) = (e2, some k) →
      motive (e2, .error k))
    (ok : ∀ e2, insAcc e rel ts = true → persist c e rel (mkUpdates ts e.time 1) = (e2, none) →
      motive ({ e2 with live := insLive e.live rel ts, arity := aset e.arity rel (firstLen ts) },
        .ok (insertLoop (liveOf e rel) 0 0 ts).2)) :
    motive (insertCore c e rel ts) := by
  cases ts with
  | nil => exact nil rfl
  | cons first rest =>
    have hacc : insAcc e rel (first :: rest) =
        ((first :: rest).all (fun t => t.length == first.length) && !arityMismatch e rel first.length) := rfl
    refine ite_ind _ _ _ (fun h => rej _ ?_) fun h => ite_ind _ _ _ (fun h2 => rej _ ?_) fun h2 => ?_
    · rw [hacc, Eq.mp (Bool.not_eq_true' _) h]; rfl
    · rw [hacc, h2, Bool.not_true, Bool.and_false]
    · rw [Bool.not_eq_true', Bool.not_eq_false] at h
      rw [Bool.not_eq_true] at h2
      rw [h, h2] at hacc
      show motive (match persist c e rel (mkUpdates (first :: rest) e.time 1) with
        | (e2, some k) => (e2, .error k)
        | (e2, none) =>
          ({ e2 with live := aset e2.live rel (insertLoop ((aget e2.live rel).getD []) 0 0 (first :: rest)).1,
                     arity := aset e2.arity rel first.length },
           .ok ((insertLoop ((aget e2.live rel).getD []) 0 0 (first :: rest)).2.1,
                (insertLoop ((aget e2.live rel).getD []) 0 0 (first :: rest)).2.2)))
      rcases hp : persist c e rel (mkUpdates (first :: rest) e.time 1) with ⟨e2, _ | k⟩
      · simp only [persist_live hp, persist_arity hp]
        exact ok e2 hacc hp
      · exact fail e2 k hacc hp

theorem insertCore_rej (c : Codec) {e : Engine} {rel : String} {ts : List Tuple} (h : insAcc e rel ts = false) :
    (insertCore c e rel ts).1 = e := by
  refine insertCore_cases c e rel ts (motive := fun x => x.1 = e) (fun _ => rfl) (fun _ _ => rfl) ?_ ?_
  · intro _ _ h'; rw [h] at h'; cases h'
  · intro _ h'; rw [h] at h'; cases h'

theorem liveOf_insLive (e e2 : Engine) (rel : String) (ts : List Tuple) (ar : List (String × Nat)) (r : String) :
    liveOf { e2 with live := insLive e.live rel ts, arity := ar } r =
      if r = rel then (insertLoop (liveOf e rel) 0 0 ts).1 else liveOf e r :=
  getD_aget_aset

/-- `insert_tuples_into`, live side: on `Ok((n, d))` the relation went through the dedup loop. -/
theorem insertCore_ok {c : Codec} {e e' : Engine} {rel : String} {ts : List Tuple} {n d : Nat}
    (h : insertCore c e rel ts = (e', .ok (n, d))) :
    liveOf e' rel = (insertLoop (liveOf e rel) 0 0 ts).1 ∧ n = (insertLoop (liveOf e rel) 0 0 ts).2.1 ∧
    d = (insertLoop (liveOf e rel) 0 0 ts).2.2 ∧ ∀ r, r ≠ rel → liveOf e' r = liveOf e r := by
  revert h
  refine insertCore_cases c e rel ts (motive := fun x => x = _ → _) ?_ ?_ ?_ ?_
  · rintro rfl h; cases h; exact ⟨rfl, rfl, rfl, fun _ _ => rfl⟩
  · intro k _ h; cases h
  · intro e2 k _ _ h; cases h
  · intro e2 _ _ h
    obtain ⟨rfl, h2⟩ := Prod.mk.inj h
    have h2 := Except.ok.inj h2
    exact ⟨by rw [liveOf_insLive, if_pos rfl], (congrArg Prod.fst h2).symm, (congrArg Prod.snd h2).symm,
      fun r hr => by rw [liveOf_insLive, if_neg hr]⟩

theorem insertCore_err {c : Codec} {e e' : Engine} {rel : String} {ts : List Tuple} {k : String}
    (h : insertCore c e rel ts = (e', .error k)) : e'.live = e.live := by
  revert h
  refine insertCore_cases c e rel ts (motive := fun x => x = _ → _) ?_ ?_ ?_ ?_
  · intro _ h; cases h
  · intro k _ h; cases h; rfl
  · intro e2 k _ hp h; cases h; exact persist_live hp
  · intro e2 _ _ h; cases h

def delLive (live : List (String × List Tuple)) (rel : String) (ts : List Tuple) : List (String × List Tuple) :=
  match ts, aget live rel with
  | [], _ => live
  | _ :: _, none => live
  | _ :: _, some ex => aset live rel (deleteLive ex ts)

def delArity (live : List (String × List Tuple)) (arity : List (String × Nat)) (rel : String) (ts : List Tuple) :
    List (String × Nat) :=
  match ts, aget live rel with
  | [], _ => arity
  | _ :: _, none => arity
  | _ :: _, some ex =>
    if ex.length - (deleteLive ex ts).length > 0 then aset arity rel ((aget arity rel).getD 2) else arity

theorem deleteCoreRaw_cases {motive : Engine × Except String Nat → Prop} (c : Codec) (e : Engine) (rel : String)
    (ts : List Tuple)
    (nil : ts = [] → motive (e, .ok 0))
    (fail : ∀ e2 k, persist c e rel (mkUpdates ts e.time (-1)) = (e2, some k) → motive (e2, .error k))
    (ok : ∀ e2, persist c e rel (mkUpdates ts e.time (-1)) = (e2, none) →
      motive ({ e2 with live := delLive e.live rel ts, arity := delArity e.live e.arity rel ts },
        .ok ((liveOf e rel).length - (deleteLive (liveOf e rel) ts).length))) :
    motive (deleteCoreRaw c e rel ts) := by
  cases ts with
  | nil => exact nil rfl
  | cons first rest =>
    rw [deleteCoreRaw]
    show motive (match persist c e rel (mkUpdates (first :: rest) e.time (-1)) with
      | (e2, some k) => (e2, .error k)
      | (e2, none) => _)
    rcases hp : persist c e rel (mkUpdates (first :: rest) e.time (-1)) with ⟨e2, _ | k⟩
    · have := ok e2 hp
      simp only [persist_live hp, persist_arity hp]
      cases hg : aget e.live rel with
      | none =>
        simp only [delLive, delArity, liveOf, hg, Option.getD_none, List.length_nil, Nat.zero_sub] at this
        rw [← persist_live hp, ← persist_arity hp] at this
        exact this
      | some ex =>
        simp only [delLive, delArity, liveOf, hg, Option.getD_some] at this
        simp only
        split
        · next hn => rwa [if_pos hn] at this
        · next hn => rwa [if_neg hn] at this
    · exact fail e2 k hp

theorem liveOf_delLive (e e2 : Engine) (rel : String) (ts : List Tuple) (ar : List (String × Nat)) (r : String) :
    liveOf { e2 with live := delLive e.live rel ts, arity := ar } r =
      if r = rel then deleteLive (liveOf e rel) ts else liveOf e r := by
  show (aget (delLive e.live rel ts) r).getD [] = if r = rel then deleteLive ((aget e.live rel).getD []) ts else (aget e.live r).getD []
  cases ts with
  | nil => rw [deleteLive_nil, delLive]; split <;> simp [*]
  | cons first rest =>
    cases hg : aget e.live rel with
    | none =>
      simp only [delLive, hg]
      split
      · next hr => rw [hr, hg]; rfl
      · rfl
    | some ex => simp only [delLive, hg]; exact getD_aget_aset

theorem deleteCoreRaw_ok {c : Codec} {e e' : Engine} {rel : String} {ts : List Tuple} {n : Nat}
    (h : deleteCoreRaw c e rel ts = (e', .ok n)) :
    liveOf e' rel = deleteLive (liveOf e rel) ts ∧ n = (liveOf e rel).length - (liveOf e' rel).length ∧
    ∀ r, r ≠ rel → liveOf e' r = liveOf e r := by
  revert h
  refine deleteCoreRaw_cases c e rel ts (motive := fun x => x = _ → _) ?_ ?_ ?_
  · rintro rfl h; cases h; exact ⟨(deleteLive_nil _).symm, (Nat.sub_self _).symm, fun _ _ => rfl⟩
  · intro e2 k _ h; cases h
  · intro e2 _ h
    cases h
    have : liveOf { e2 with live := delLive e.live rel ts, arity := delArity e.live e.arity rel ts } rel
        = deleteLive (liveOf e rel) ts := by rw [liveOf_delLive, if_pos rfl]
    exact ⟨this, by rw [this], fun r hr => by rw [liveOf_delLive, if_neg hr]⟩

theorem deleteCoreRaw_err {c : Codec} {e e' : Engine} {rel : String} {ts : List Tuple} {k : String}
    (h : deleteCoreRaw c e rel ts = (e', .error k)) : e'.live = e.live := by
  revert h
  refine deleteCoreRaw_cases c e rel ts (motive := fun x => x = _ → _) ?_ ?_ ?_
  · intro _ h; cases h
  · intro e2 k hp h; cases h; exact persist_live hp
  · intro e2 _ h; cases h

end ILV.Store
