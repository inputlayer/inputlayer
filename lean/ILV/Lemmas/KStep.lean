/-
  The KG lifecycle step system (ILV.Model.KStep), used by Props/C17: in-memory isolation of KGs,
  ownership of shard metadata files, exactness of the name functions, and the sequential invariant
  "no write is persisted for a KG that is not in the map".

  Statements about one step are made about `(step st t).All P` (`P` holds of the successor, if there is
  one): `step` is entered once and each of its branches is answered by a term.
-/
import ILV.Model.KStep
namespace ILV.KStep

/-- the KG an operation is addressed to -/
def target : Op → Option Name
  | .create k => some k | .drop k => some k | .ins k _ _ => some k | .del k _ _ => some k | .save k => some k
  | .restart => none | .saveAll => none

theorem lookup_put {β} (b a : Name) (v : β) (l : List (Name × β)) :
    lookup b (put a v l) = if b = a then some v else lookup b l := by
  induction l with
  | nil => simp only [put, lookup, eq_comm]
  | cons e l ih =>
    by_cases hx : e.1 = a
    · by_cases hb : b = a
      · simp only [put, lookup, hx, hb, if_true]
      · simp only [put, lookup, hx, if_true, Ne.symm hb, hb, if_false]
    · simp only [put, lookup, hx, if_false, ih]
      split
      · rename_i h; rw [if_neg (h ▸ hx)]
      · rfl

theorem lookup_erase {β} (b a : Name) (l : List (Name × β)) :
    lookup b (erase a l) = if b = a then none else lookup b l := by
  induction l with
  | nil => simp only [erase, List.filter_nil, lookup, ite_self]
  | cons e l ih =>
    unfold erase at ih ⊢
    by_cases hx : e.1 = a
    · rw [List.filter_cons_of_neg (by simpa using hx), ih, lookup, hx]
      split
      · rfl
      · rename_i h; rw [if_neg (Ne.symm h)]
    · rw [List.filter_cons_of_pos (by simpa using hx), lookup, lookup, ih]
      split
      · rename_i h; rw [if_neg (h ▸ hx)]
      · rfl

theorem lookup_append {β} (b : Name) (l l' : List (Name × β)) :
    lookup b (l ++ l') = (lookup b l).or (lookup b l') := by
  induction l with
  | nil => rfl
  | cons e l ih =>
    simp only [List.cons_append, lookup, ih]
    split <;> rfl

theorem lookup_mem {β} (k : Name) (v : β) : ∀ l : List (Name × β), lookup k l = some v → (k, v) ∈ l := by
  intro l
  induction l with
  | nil => intro h; cases h
  | cons e l ih =>
    intro h
    simp only [lookup] at h
    split at h
    · rename_i hx; cases h; subst hx; exact List.mem_cons_self
    · exact List.mem_cons_of_mem _ (ih h)

/-- `P` holds of the successor state, if the step yields one -/
def Res.All (P : State → Prop) : Res → Prop
  | .ok s => P s
  | _ => True

theorem Res.All.of_eq {P : State → Prop} {r : Res} {s : State} (h : r.All P) (e : r = .ok s) : P s := by
  subst e; exact h

theorem Res.All.ite {P : State → Prop} {c : Prop} [Decidable c] {a b : Res} (ha : c → a.All P) (hb : ¬ c → b.All P) :
    (if c then a else b).All P := by
  split
  · exact ha ‹_›
  · exact hb ‹_›

theorem step_of_ge {st : State} {t : Tid} (h : t ≥ st.n) : step st t = .skip := by
  unfold step; exact if_pos h

theorem lastState_induct {P : State → Prop} (hP : ∀ st t, P st → (step st t).All P) :
    ∀ (sched : List Tid) (st : State), P st → P (lastState st sched)
  | [], _, h => h
  | t :: ts, st, h => by
    have := hP st t h
    unfold lastState
    split
    · next hs => rw [hs] at this; exact lastState_induct hP ts _ this
    · exact lastState_induct hP ts _ h
    · exact h

/-- the persist layer leaves the engine's part of the state alone -/
structure Frame (s s' : State) : Prop where
  kgs : s'.kgs = s.kgs
  n : s'.n = s.n
  flag : s'.persistedForMissing = s.persistedForMissing

theorem Frame.refl (s : State) : Frame s s := ⟨rfl, rfl, rfl⟩

theorem Frame.trans {a b c : State} (h : Frame a b) (h' : Frame b c) : Frame a c :=
  ⟨h'.kgs.trans h.kgs, h'.n.trans h.n, h'.flag.trans h.flag⟩

theorem Frame.foldl {α} {f : State → α → State} (hf : ∀ s a, Frame s (f s a)) :
    ∀ (l : List α) (s : State), Frame s (l.foldl f s)
  | [], s => .refl s
  | a :: l, s => (hf s a).trans (Frame.foldl hf l (f s a))

theorem frame_ensureShard (st : State) (s : Name) : Frame st (ensureShard st s) := by
  unfold ensureShard; split <;> exact ⟨rfl, rfl, rfl⟩

theorem frame_appendUpd (st : State) (s : Name) (u : Upd) : Frame st (appendUpd st s u) := by
  unfold appendUpd; cases st.mode <;> exact ⟨rfl, rfl, rfl⟩

theorem frame_flushShard (st : State) (s : Name) : Frame st (flushShard st s) := by
  unfold flushShard; split
  · exact .refl st
  · split <;> exact ⟨rfl, rfl, rfl⟩

theorem frame_deleteShard (st : State) (s : Name) : Frame st (deleteShard st s) := ⟨rfl, rfl, rfl⟩

theorem frame_walSync (st : State) : Frame st (walSync st) := ⟨rfl, rfl, rfl⟩

@[simp] theorem walSync_kgs (st : State) : (walSync st).kgs = st.kgs := rfl
@[simp] theorem walRewrite_kgs (st : State) (s : Name) : (walRewrite st s).kgs = st.kgs := rfl

theorem appendUpd_mem (st : State) (s : Name) (u : Upd) :
    (appendUpd st s u).mem = put s { (lookup s st.mem).getD {} with buffer := ((lookup s st.mem).getD {}).buffer ++ [u] } st.mem := by
  unfold appendUpd; cases st.mode <;> rfl

theorem appendUpd_files (st : State) (s : Name) (u : Upd) : (appendUpd st s u).files = st.files := by
  unfold appendUpd; cases st.mode <;> rfl

/-- a restart rebuilds the KG map, so it is no `Frame`; thread count and ghost flag are carried over -/
theorem restart_n_flag (st : State) :
    (restart st).n = st.n ∧ (restart st).persistedForMissing = st.persistedForMissing := by
  unfold restart restartCore
  extract_lets mem0 s1 s2 s3 kgNames kgs
  have h2 : Frame s1 s2 := by refine Frame.foldl ?_ _ _; exact fun _ _ => ⟨rfl, rfl, rfl⟩
  have h3 : Frame s1 s3 := h2.trans (Frame.foldl frame_flushShard _ _)
  split <;> exact ⟨h3.n, h3.flag⟩

theorem step_isolated {st : State} {t : Tid} {a b : Name} {rest : List Op} {op : Op}
    (htodo : (st.threads t).todo = op :: rest) (htarget : target op = some a) (hb : b ≠ a) :
    (step st t).All fun st' => lookup b st'.kgs = lookup b st.kgs := by
  by_cases htn : t ≥ st.n
  · rw [step_of_ge htn]; trivial
  -- the thread and the two ways a step ends (`fin`, `go`) stay named as in the model
  unfold step
  rw [if_neg htn]
  extract_lets th fin go
  have htodo' : th.todo = op :: rest := htodo
  simp only [htodo']
  have happ : lookup b (st.kgs ++ [(a, [])]) = lookup b st.kgs := by
    rw [lookup_append, lookup, if_neg (Ne.symm hb)]; exact Option.or_none
  have hput : ∀ v, lookup b (put a v st.kgs) = lookup b st.kgs := fun v => by rw [lookup_put, if_neg hb]
  split
  -- create
  · exact .ite (fun _ => rfl) fun _ => .ite (fun _ => rfl) fun _ => rfl
  · cases htarget; exact .ite (fun _ => rfl) fun _ => happ
  · exact .ite (fun _ => trivial) fun _ => rfl
  · exact rfl
  -- drop
  · exact .ite (fun _ => rfl) fun _ => .ite (fun _ => rfl) fun _ => .ite (fun _ => trivial) fun _ => rfl
  · cases htarget; exact (lookup_erase b a st.kgs).trans (if_neg hb)
  · exact .ite (fun _ => trivial) fun _ => rfl
  · exact rfl
  · exact congrArg (lookup b) (Frame.foldl frame_deleteShard _ _).kgs
  · exact .ite (fun _ => trivial) fun _ => rfl
  -- insert
  · exact .ite (fun _ => rfl) fun _ => rfl
  · exact .ite (fun _ => rfl) fun _ => .ite (fun _ => rfl) fun _ => rfl
  · exact congrArg (lookup b) ((frame_ensureShard _ _).trans (frame_appendUpd _ _ _)).kgs
  · cases htarget; split
    · exact rfl
    · exact hput _
  -- delete
  · refine .ite (fun _ => rfl) fun _ => ?_
    split
    · exact rfl
    · exact .ite (fun _ => rfl) fun _ => rfl
  · exact congrArg (lookup b) ((frame_ensureShard _ _).trans (frame_appendUpd _ _ _)).kgs
  · cases htarget; split
    · exact rfl
    · exact hput _
  -- save; `saveAll` and `restart` are addressed to no KG
  · exact .ite (fun _ => rfl) fun _ =>
      congrArg (lookup b) ((Frame.foldl frame_flushShard _ _).trans (frame_walSync _)).kgs
  · cases htarget
  · cases htarget
  · trivial

/-- every shard of the in-memory map finds, at *its* file name, *its* metadata with its batches -/
def Owns (st : State) : Prop :=
  ∀ s sh, lookup s st.mem = some sh → lookup (metaFile s) st.files = some (s, sh.batches)

/-- no other shard of the map shares the metadata file of `s` -/
def FileInj (st : State) (s : Name) : Prop :=
  ∀ s', (lookup s' st.mem).isSome = true → metaFile s' = metaFile s → s' = s

/-- decidable form: pairwise distinct file names on a list of shard names -/
def distinctFiles (names : List Name) : Bool :=
  names.all (fun a => names.all (fun b => a == b || metaFile a != metaFile b))

theorem fileInj_of_distinct {st : State} {names : List Name} {s : Name} (hd : distinctFiles names = true)
    (hmem : ∀ s', (lookup s' st.mem).isSome = true → s' ∈ names) (hs : s ∈ names) : FileInj st s := by
  intro s' h1 h2
  have := List.all_eq_true.mp (List.all_eq_true.mp hd s' (hmem s' h1)) s hs
  simp only [Bool.or_eq_true, beq_iff_eq, bne_iff_ne, ne_eq] at this
  exact this.resolve_right (not_not_intro h2)

theorem FileInj.ne {st : State} {s s' : Name} {sh : ShardMem} (hi : FileInj st s)
    (hs' : lookup s' st.mem = some sh) (he : s' ≠ s) : metaFile s' ≠ metaFile s :=
  fun e => he (hi s' (by rw [hs']; rfl) e)

theorem owns_ensureShard {st : State} {s : Name} (h : Owns st) (hi : FileInj st s) : Owns (ensureShard st s) := by
  unfold ensureShard
  cases hl : lookup s st.mem with
  | some sh => exact h
  | none =>
    intro s' sh' hs'
    simp only [lookup_append, lookup, lookup_put] at hs' ⊢
    by_cases he : s' = s
    · subst he; rw [hl, if_pos rfl] at hs'; cases hs'; rw [if_pos rfl]
    · rw [if_neg (Ne.symm he), Option.or_none] at hs'
      rw [if_neg (hi.ne hs' he)]; exact h s' sh' hs'

theorem owns_appendUpd {st : State} {s : Name} {u : Upd} (h : Owns st) (hs : (lookup s st.mem).isSome = true) :
    Owns (appendUpd st s u) := by
  intro s' sh' hs'
  rw [appendUpd_mem, lookup_put] at hs'
  rw [appendUpd_files]
  by_cases he : s' = s
  · subst he
    obtain ⟨sh0, hl⟩ := Option.isSome_iff_exists.mp hs
    rw [if_pos rfl, hl] at hs'; cases hs'
    exact h s' sh0 hl
  · rw [if_neg he] at hs'; exact h s' sh' hs'

theorem owns_flushShard {st : State} {s : Name} (h : Owns st) (hi : FileInj st s) : Owns (flushShard st s) := by
  unfold flushShard
  cases hl : lookup s st.mem with
  | none => exact h
  | some sh =>
    simp only
    split
    · exact h
    · intro s' sh' hs'
      simp only [walRewrite, lookup_put] at hs' ⊢
      by_cases he : s' = s
      · subst he; rw [if_pos rfl] at hs'; cases hs'; rw [if_pos rfl]
      · rw [if_neg he] at hs'
        rw [if_neg (hi.ne hs' he)]; exact h s' sh' hs'

theorem owns_deleteShard {st : State} {s : Name} (h : Owns st) (hi : FileInj st s) : Owns (deleteShard st s) := by
  intro s' sh' hs'
  simp only [deleteShard, walRewrite, lookup_erase] at hs' ⊢
  by_cases he : s' = s
  · rw [if_pos he] at hs'; cases hs'
  · rw [if_neg he] at hs'
    rw [if_neg (hi.ne hs' he)]; exact h s' sh' hs'

/-- start-up (`load_shards`: one map entry per metadata file, named by the name inside the file) finds
    every shard that owned its file, with exactly its flushed batches -/
theorem owns_load {st : State} (h : Owns st) (s : Name) (sh : ShardMem) (hs : lookup s st.mem = some sh) :
    (s, ({ batches := sh.batches, buffer := [] } : ShardMem)) ∈
      st.files.map (fun f => (f.2.1, ({ batches := f.2.2, buffer := [] } : ShardMem))) :=
  List.mem_map.mpr ⟨_, lookup_mem _ _ _ (h s sh hs), rfl⟩

/-- `sanitize` sends `:` and `/` to `_`: away from `/` and `_` only `:` is moved, and nothing else lands on `_` -/
def safeChar (c : Char) : Bool := c != '/' && c != '_'

theorem sanitize_inj : ∀ (a b : Name), a.all safeChar = true → b.all safeChar = true → sanitize a = sanitize b → a = b
  | [], [], _, _, _ => rfl
  | [], _ :: _, _, _, h => nomatch h
  | _ :: _, [], _, _, h => nomatch h
  | x :: a, y :: b, ha, hb, h => by
    simp only [sanitize, List.map_cons, List.cons.injEq] at h
    simp only [List.all_cons, Bool.and_eq_true, safeChar, bne_iff_ne, ne_eq] at ha hb
    rw [sanitize_inj a b ha.2 hb.2 h.2]
    -- a safe character is mapped to `_` only if it is `:`, and is otherwise kept
    have h1 := h.1
    split at h1 <;> split at h1
    · next c1 c2 => rw [c1.resolve_right ha.1.1, c2.resolve_right hb.1.1]
    · exact absurd h1.symm hb.1.2
    · exact absurd h1 ha.1.2
    · rw [h1]

theorem metaFile_inj (a b : Name) (ha : a.all safeChar = true) (hb : b.all safeChar = true)
    (h : metaFile a = metaFile b) : a = b :=
  sanitize_inj a b ha hb (List.append_cancel_right h)

theorem kgOf_append : ∀ (k t : Name), k.contains ':' = false → kgOf (k ++ ':' :: t) = k
  | [], t, _ => by simp [kgOf]
  | c :: k, t, h => by
    simp only [List.contains_cons, Bool.or_eq_false_iff, beq_eq_false_iff_ne, ne_eq] at h
    have hc : (c != ':') = true := bne_iff_ne.mpr (Ne.symm h.1)
    simp only [kgOf, List.cons_append, List.takeWhile_cons, hc, if_true, List.cons.injEq, true_and]
    exact kgOf_append k t h.2

theorem kgOf_shardName (k rel : Name) (h : k.contains ':' = false) : kgOf (shardName k rel) = k := by
  rw [shardName, List.append_assoc]; exact kgOf_append k rel h

theorem hasPrefix_shardName (k' k rel : Name) (hk' : k'.contains ':' = false) (hk : k.contains ':' = false)
    (h : hasPrefix k' (shardName k rel) = true) : k' = k := by
  obtain ⟨t, ht⟩ := List.isPrefixOf_iff_prefix.mp h
  rw [← kgOf_shardName k rel hk, ← ht, List.append_assoc]
  exact (kgOf_append k' t hk').symm

theorem validName_no_colon (n : Name) (h : validName n = true) : n.contains ':' = false := by
  unfold validName at h
  simp only [Bool.and_eq_true, Bool.not_eq_true', decide_eq_true_eq] at h
  exact h.1.1.1.2

/-- the KG for which the thread holds the tombstone read guard, its write about to be persisted -/
def guarded (th : Thread) : Option Name :=
  match th.pc, th.todo with
  | .i2, .ins kg _ _ :: _ => some kg
  | .e2, .del kg _ _ :: _ => some kg
  | _, _ => none

theorem guarded_finish {th : Thread} {op : Op} {rest : List Op} (h : th.todo = op :: rest) (o : Out) :
    guarded (th.finish o) = none := by
  simp only [Thread.finish, h]; rfl

/-- single thread; nothing persisted for a missing KG so far; while the thread holds the tombstone
    guard, the KG it addresses is in the map -/
structure Good (st : State) : Prop where
  n : st.n = 1
  flag : st.persistedForMissing = false
  guard : ∀ kg, guarded (st.threads 0) = some kg → (lookup kg st.kgs).isSome = true

theorem good_init (ops : List Op) : Good (init [ops]) :=
  ⟨rfl, rfl, fun _ hk => nomatch hk⟩

theorem step_good {st : State} (h : Good st) : (step st 0).All Good := by
  have htn : ¬ 0 ≥ st.n := by rw [h.n]; decide
  unfold step
  rw [if_neg htn]
  extract_lets th fin go
  split
  · trivial
  · next op rest htodo =>
    -- a successor with the same thread count and flag, whose thread holds no guard
    have keep : ∀ {st' : State}, st'.n = st.n → st'.persistedForMissing = st.persistedForMissing →
        guarded (st'.threads 0) = none → Good st' :=
      fun hn hf hg => ⟨hn.trans h.n, hf.trans h.flag, fun _ hk => nomatch hg.symm.trans hk⟩
    -- a thread that returns holds no guard
    have fin : ∀ {o : Out}, Good { st with threads := setThread st.threads 0 ((st.threads 0).finish o) } :=
      keep rfl rfl (guarded_finish htodo _)
    -- the write of a thread that holds the guard for `kg` is persisted for a KG in the map
    have persist : ∀ {kg : Name} {st' : State}, guarded (st.threads 0) = some kg → Frame st st' →
        st'.n = 1 ∧ (st.persistedForMissing || (lookup kg st.kgs).isNone) = false :=
      fun hg hf => ⟨hf.n.trans h.n, by rw [h.flag]; simpa using h.guard _ hg⟩
    split
    -- create
    · exact .ite (fun _ => fin) fun _ => .ite (fun _ => fin) fun _ => keep rfl rfl rfl
    · exact .ite (fun _ => fin) fun _ => keep rfl rfl rfl
    · exact .ite (fun _ => trivial) fun _ => keep rfl rfl rfl
    · exact keep rfl rfl (guarded_finish htodo _)
    -- drop
    · exact .ite (fun _ => fin) fun _ => .ite (fun _ => fin) fun _ => .ite (fun _ => trivial) fun _ => keep rfl rfl rfl
    · exact keep rfl rfl rfl
    · exact .ite (fun _ => trivial) fun _ => keep rfl rfl rfl
    · exact keep rfl rfl rfl
    · have hf := Frame.foldl frame_deleteShard ((st.mem.map (·.1)).filter (hasPrefix ‹Name›)) st
      exact keep hf.n hf.flag rfl
    · exact .ite (fun _ => trivial) fun _ => keep rfl rfl (guarded_finish htodo _)
    -- insert: the guard is taken (pc `i2`) only after the KG was found in the map
    · exact .ite (fun _ => fin) fun _ => keep rfl rfl rfl
    · refine .ite (fun _ => fin) fun _ => .ite (fun _ => fin) fun hkg => ⟨h.n, h.flag, fun kg' hk => ?_⟩
      change guarded { th with pc := .i2 } = some kg' at hk
      rw [guarded, htodo] at hk; cases hk
      simpa [Option.isSome_iff_ne_none] using hkg
    · next kg rel x hpc =>
      obtain ⟨hn, hf⟩ := persist (by show guarded th = _; rw [guarded, hpc, htodo])
        ((frame_ensureShard st (shardName kg rel)).trans (frame_appendUpd _ (shardName kg rel) (x, 1)))
      exact ⟨hn, hf, fun _ hk => nomatch hk⟩
    · split
      · exact fin
      · exact keep rfl rfl (guarded_finish htodo _)
    -- delete: likewise (pc `e2`)
    · refine .ite (fun _ => fin) fun _ => ?_
      split
      · exact fin
      · next hkg =>
        refine .ite (fun _ => fin) fun _ => ⟨h.n, h.flag, fun kg' hk => ?_⟩
        change guarded { th with pc := .e2 } = some kg' at hk
        rw [guarded, htodo] at hk; cases hk
        rw [hkg]; rfl
    · next kg rel x hpc =>
      obtain ⟨hn, hf⟩ := persist (by show guarded th = _; rw [guarded, hpc, htodo])
        ((frame_ensureShard st (shardName kg rel)).trans (frame_appendUpd _ (shardName kg rel) (x, -1)))
      exact ⟨hn, hf, fun _ hk => nomatch hk⟩
    · split
      · exact fin
      · exact keep rfl rfl (guarded_finish htodo _)
    -- save, saveAll, restart
    · refine .ite (fun _ => fin) fun _ => ?_
      have hf := (Frame.foldl frame_flushShard ((st.mem.map (·.1)).filter (hasPrefix ‹Name›)) st).trans (frame_walSync _)
      exact keep hf.n hf.flag (guarded_finish htodo _)
    · have hf := (Frame.foldl frame_flushShard (st.mem.map (·.1)) st).trans (frame_walSync _)
      exact keep hf.n hf.flag (guarded_finish htodo _)
    · exact keep (restart_n_flag st).1 (restart_n_flag st).2 (guarded_finish htodo _)
    · trivial

theorem lastState_good (sched : List Tid) (st : State) : Good st → Good (lastState st sched) := by
  refine lastState_induct (fun st t h => ?_) sched st
  cases t with
  | zero => exact step_good h
  | succ t =>
    rw [step_of_ge (by rw [h.n]; exact Nat.le_add_left 1 t)]; trivial

end ILV.KStep
