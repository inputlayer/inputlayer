/-
  Helper lemmas for C36 (hash index part): the association-list map, `removeFirst`, and the
  refinement invariant between `HIndex` and the multiset machine `specStep`.
  Key equality of the map is `Tuple`'s `==`, which is `=` (`Tuple.eq_iff`).
-/
import ILV.Lemmas.Bloom
import ILV.Lemmas.Order
namespace ILV

theorem teq (a b : Tuple) : Tuple.eq a b = decide (a = b) :=
  Bool.eq_iff_iff.2 (by rw [Tuple.eq_iff, decide_eq_true_iff])

def TMap.keys (m : TMap) : List Tuple := m.map Prod.fst

theorem TMap.get_cons (k' : Tuple) (v : List Tuple) (m : TMap) (k : Tuple) :
    TMap.get ((k', v) :: m) k = if k' = k then some v else TMap.get m k := by
  rw [TMap.get, teq]; simp only [decide_eq_true_eq]

theorem TMap.push_cons (k' : Tuple) (v : List Tuple) (m : TMap) (k t : Tuple) :
    TMap.push ((k', v) :: m) k t =
      if k' = k then ((k', v ++ [t]) :: m, v.length + 1)
      else ((k', v) :: (TMap.push m k t).1, (TMap.push m k t).2) := by
  rw [TMap.push, teq]; simp only [decide_eq_true_eq]

theorem TMap.setKey_cons (k' : Tuple) (v : List Tuple) (m : TMap) (k : Tuple) (nv : List Tuple) :
    TMap.setKey ((k', v) :: m) k nv = if k' = k then (k', nv) :: m else (k', v) :: TMap.setKey m k nv := by
  rw [TMap.setKey, teq]; simp only [decide_eq_true_eq]

theorem TMap.removeKey_cons (k' : Tuple) (v : List Tuple) (m : TMap) (k : Tuple) :
    TMap.removeKey ((k', v) :: m) k = if k' = k then m else (k', v) :: TMap.removeKey m k := by
  rw [TMap.removeKey, teq]; simp only [decide_eq_true_eq]

theorem TMap.keys_cons (e : Tuple × List Tuple) (m : TMap) : TMap.keys (e :: m) = e.1 :: TMap.keys m := rfl

theorem TMap.length_keys (m : TMap) : m.keys.length = m.length := List.length_map _

theorem TMap.get_none_iff (m : TMap) (k : Tuple) : TMap.get m k = none ↔ k ∉ m.keys := by
  induction m with
  | nil => exact ⟨fun _ => List.not_mem_nil, fun _ => rfl⟩
  | cons e m ih =>
    obtain ⟨k', v⟩ := e
    rw [TMap.get_cons, TMap.keys_cons, List.mem_cons, not_or]
    split
    · rename_i e; exact ⟨nofun, fun h => absurd e.symm h.1⟩
    · rename_i e; exact ih.trans ⟨fun h => ⟨fun e' => e e'.symm, h⟩, fun h => h.2⟩

theorem TMap.get_push_same (m : TMap) (k t : Tuple) :
    TMap.get (TMap.push m k t).1 k = some ((TMap.get m k).getD [] ++ [t]) := by
  induction m with
  | nil => rw [TMap.push, TMap.get_cons, if_pos rfl]; rfl
  | cons e m ih =>
    obtain ⟨k', v⟩ := e
    rw [TMap.push_cons, TMap.get_cons]
    split
    · rw [TMap.get_cons, if_pos ‹_›]; rfl
    · rw [TMap.get_cons, if_neg ‹_›, ih]

theorem TMap.get_push_other (m : TMap) (k k2 t : Tuple) (hne : k2 ≠ k) :
    TMap.get (TMap.push m k t).1 k2 = TMap.get m k2 := by
  induction m with
  | nil => rw [TMap.push, TMap.get_cons, if_neg fun e => hne e.symm]
  | cons e m ih =>
    obtain ⟨k', v⟩ := e
    rw [TMap.push_cons]
    split
    · rename_i e
      rw [TMap.get_cons, TMap.get_cons, if_neg fun e' => hne (e'.symm.trans e), if_neg fun e' => hne (e'.symm.trans e)]
    · rw [TMap.get_cons, TMap.get_cons, ih]

theorem TMap.push_snd (m : TMap) (k t : Tuple) :
    (TMap.push m k t).2 = ((TMap.get m k).getD []).length + 1 := by
  induction m with
  | nil => rfl
  | cons e m ih =>
    obtain ⟨k', v⟩ := e
    rw [TMap.push_cons, TMap.get_cons]
    split
    · rfl
    · exact ih

theorem TMap.keys_push (m : TMap) (k t : Tuple) :
    (TMap.push m k t).1.keys = if k ∈ m.keys then m.keys else m.keys ++ [k] := by
  induction m with
  | nil => rfl
  | cons e m ih =>
    obtain ⟨k', v⟩ := e
    rw [TMap.push_cons, TMap.keys_cons]
    split
    · rename_i e; rw [if_pos (List.mem_cons.2 (.inl e.symm))]; rfl
    · rename_i e
      rw [TMap.keys_cons, ih]
      split
      · rename_i hk; rw [if_pos (List.mem_cons_of_mem _ hk)]
      · rename_i hk; rw [if_neg fun h => (List.mem_cons.1 h).elim (fun e' => e e'.symm) hk]; rfl

/-- `setKey` keeps the keys, sets the entry of a present key and leaves the other entries alone. -/
theorem TMap.setKey_spec (m : TMap) (k : Tuple) (nv : List Tuple) :
    (TMap.setKey m k nv).keys = m.keys ∧ (k ∈ m.keys → TMap.get (TMap.setKey m k nv) k = some nv) ∧
      ∀ k2, k2 ≠ k → TMap.get (TMap.setKey m k nv) k2 = TMap.get m k2 := by
  induction m with
  | nil => exact ⟨rfl, nofun, fun _ _ => rfl⟩
  | cons e m ih =>
    obtain ⟨k', v⟩ := e
    obtain ⟨ih1, ih2, ih3⟩ := ih
    rw [TMap.setKey_cons]
    by_cases e : k' = k
    · rw [if_pos e]
      exact ⟨rfl, fun _ => by rw [TMap.get_cons, if_pos e], fun k2 hne => by
        rw [TMap.get_cons, TMap.get_cons, if_neg fun e' => hne (e'.symm.trans e), if_neg fun e' => hne (e'.symm.trans e)]⟩
    · rw [if_neg e]
      exact ⟨by rw [TMap.keys_cons, ih1]; rfl,
        fun h => by rw [TMap.get_cons, if_neg e]; exact ih2 ((List.mem_cons.1 h).resolve_left fun e' => e e'.symm),
        fun k2 hne => by rw [TMap.get_cons, TMap.get_cons, ih3 k2 hne]⟩

theorem TMap.keys_removeKey (m : TMap) (k : Tuple) : (TMap.removeKey m k).keys = m.keys.erase k := by
  induction m with
  | nil => rfl
  | cons e m ih =>
    obtain ⟨k', v⟩ := e
    rw [TMap.removeKey_cons, TMap.keys_cons, List.erase_cons]
    split
    · rename_i e; rw [if_pos (beq_iff_eq.2 e)]
    · rename_i e; rw [if_neg fun h => e (beq_iff_eq.1 h), TMap.keys_cons, ih]

theorem TMap.get_removeKey_other (m : TMap) (k k2 : Tuple) (hne : k2 ≠ k) :
    TMap.get (TMap.removeKey m k) k2 = TMap.get m k2 := by
  induction m with
  | nil => rfl
  | cons e m ih =>
    obtain ⟨k', v⟩ := e
    rw [TMap.removeKey_cons, TMap.get_cons]
    split
    · rename_i e; rw [if_neg fun e' => hne (e'.symm.trans e)]
    · rw [TMap.get_cons, ih]

theorem TMap.get_removeKey_same (m : TMap) (k : Tuple) (nd : m.keys.Nodup) :
    TMap.get (TMap.removeKey m k) k = none := by
  rw [TMap.get_none_iff, TMap.keys_removeKey]
  exact fun h => ((List.Nodup.mem_erase_iff nd).1 h).1 rfl

theorem removeFirst_eq (t : Tuple) (l : List Tuple) :
    removeFirst t l = if t ∈ l then some (l.erase t) else none := by
  induction l with
  | nil => rfl
  | cons x xs ih =>
    rw [removeFirst, teq, ih, List.erase_cons]
    by_cases e : x = t
    · simp [e]
    · by_cases hm : t ∈ xs <;> simp [e, Ne.symm e, hm]

/-- what ties the concrete map + bloom to the abstract stored multiset `st`. -/
structure MapInv (h : Tuple → Nat × Nat) (cols : List Nat) (m : TMap) (b : Bloom) (st : List Tuple) : Prop where
  nodup : m.keys.Nodup
  lookup : ∀ k, (TMap.get m k).getD [] = specLookup cols st k
  nonempty : ∀ k v, TMap.get m k = some v → v ≠ []
  bloomWF : b.WF
  covers : ∀ k v, TMap.get m k = some v → b.mightContain (h k).1 (h k).2 = true

theorem specLookup_append (cols : List Nat) (st : List Tuple) (t k : Tuple) :
    specLookup cols (st ++ [t]) k = specLookup cols st k ++ (if projectT cols t = k then [t] else []) := by
  simp only [specLookup, List.filter_append, teq]
  by_cases e : projectT cols t = k <;> simp [e]

theorem MapInv.empty (h : Tuple → Nat × Nat) (cols : List Nat) (b : Bloom) (w : b.WF) : MapInv h cols [] b [] where
  nodup := List.nodup_nil
  lookup := fun _ => rfl
  nonempty := fun _ _ e => nomatch e
  bloomWF := w
  covers := fun _ _ e => nomatch e

theorem optRows_getD (l : List Tuple) : (optRows l).getD [] = l := by cases l <;> rfl

theorem optRows_of_ne_nil {l : List Tuple} (h : l ≠ []) : optRows l = some l := by
  cases l with
  | nil => exact absurd rfl h
  | cons _ _ => rfl

theorem ne_nil_of_optRows {l v : List Tuple} (h : optRows l = some v) : v ≠ [] := by
  cases l with
  | nil => cases h
  | cons _ _ => cases h; exact List.cons_ne_nil _ _

theorem MapInv.get_eq {h cols m b st} (inv : MapInv h cols m b st) (k : Tuple) :
    TMap.get m k = optRows (specLookup cols st k) := by
  have hl := inv.lookup k
  cases hg : TMap.get m k with
  | none => rw [hg] at hl; rw [← hl]; rfl
  | some v =>
    rw [hg] at hl
    rw [← hl]
    exact (optRows_of_ne_nil (inv.nonempty k v hg)).symm

theorem MapInv.update {h cols m b st} (inv : MapInv h cols m b st) {m' : TMap} {b' : Bloom} {st' : List Tuple}
    (key : Tuple) (nd : m'.keys.Nodup) (hkey : TMap.get m' key = optRows (specLookup cols st' key))
    (hget : ∀ k, k ≠ key → TMap.get m' k = TMap.get m k)
    (hspec : ∀ k, k ≠ key → specLookup cols st' k = specLookup cols st k)
    (wf : b'.WF) (mono : ∀ x y, b.mightContain x y = true → b'.mightContain x y = true)
    (hcov : ∀ v, TMap.get m' key = some v → b'.mightContain (h key).1 (h key).2 = true) :
    MapInv h cols m' b' st' where
  nodup := nd
  lookup := by
    intro k
    by_cases e : k = key
    · rw [e, hkey, optRows_getD]
    · rw [hget k e, hspec k e]; exact inv.lookup k
  nonempty := by
    intro k v hg
    by_cases e : k = key
    · rw [e, hkey] at hg; exact ne_nil_of_optRows hg
    · exact inv.nonempty k v (hget k e ▸ hg)
  bloomWF := wf
  covers := by
    intro k v hg
    by_cases e : k = key
    · exact e ▸ hcov v (e ▸ hg)
    · exact mono _ _ (inv.covers k v (hget k e ▸ hg))

/-- one `bloom.insert(key); entry(key).or_default().push(t)` step. -/
theorem MapInv.push {h cols m b st} (inv : MapInv h cols m b st) (t : Tuple) :
    MapInv h cols (TMap.push m (projectT cols t) t).1
      (b.insert (h (projectT cols t)).1 (h (projectT cols t)).2) (st ++ [t]) := by
  refine inv.update (projectT cols t) ?_ ?_ (fun k hk => TMap.get_push_other _ _ _ _ hk) (fun k hk => ?_)
    (inv.bloomWF.insert _ _) (fun x y => mightContain_insert_mono _ _ _ x y)
    (fun _ _ => mightContain_insert_self inv.bloomWF _ _)
  · rw [TMap.keys_push]
    split
    · exact inv.nodup
    · rename_i hn
      exact List.nodup_append.2 ⟨inv.nodup, List.pairwise_singleton _ _, fun a ha c hc e =>
        hn ((List.mem_singleton.1 hc) ▸ e ▸ ha)⟩
  · rw [TMap.get_push_same, specLookup_append, if_pos rfl, inv.lookup]
    exact (optRows_of_ne_nil (List.append_ne_nil_of_right_ne_nil _ (List.cons_ne_nil _ _))).symm
  · rw [specLookup_append, if_neg fun e => hk e.symm, List.append_nil]

structure IxInv (h : Tuple → Nat × Nat) (ix : HIndex) (st : List Tuple) : Prop where
  map : MapInv h ix.cols ix.index ix.bloom st
  ntuples : ix.numTuples = st.length
  nkeys : ix.numKeys = ix.index.length

theorem IxInv.new (h : Tuple → Nat × Nat) (cols : List Nat) (b : Bloom) (w : b.WF) : IxInv h (HIndex.new cols b) [] where
  map := MapInv.empty h cols b w
  ntuples := rfl
  nkeys := rfl

theorem push_length (m : TMap) (k t : Tuple) :
    (TMap.push m k t).1.length = if (TMap.get m k).isNone then m.length + 1 else m.length := by
  rw [← TMap.length_keys, TMap.keys_push]
  by_cases hk : k ∈ m.keys
  · have : TMap.get m k ≠ none := fun e => (TMap.get_none_iff m k).1 e hk
    cases hg : TMap.get m k with
    | none => exact absurd hg this
    | some v => simp [hk, TMap.length_keys]
  · have := (TMap.get_none_iff m k).2 hk
    simp [hk, this, TMap.length_keys]

theorem IxInv.insert {h ix st} (inv : IxInv h ix st) (t : Tuple) : IxInv h (ix.insert h t) (st ++ [t]) := by
  refine ⟨inv.map.push t, ?_, ?_⟩
  · show ix.numTuples + 1 = _
    rw [inv.ntuples, List.length_append]; rfl
  · simp only [HIndex.insert]
    rw [push_length]
    cases hg : TMap.get ix.index (projectT ix.cols t) with
    | none => simp [inv.nkeys]
    | some v =>
      have hne := inv.map.nonempty _ v hg
      cases v with
      | nil => exact absurd rfl hne
      | cons x xs => simp [inv.nkeys]

theorem buildLoop_inv (h : Tuple → Nat × Nat) (cols : List Nat) :
    ∀ (ts : List Tuple) (m : TMap) (b : Bloom) (mx tot : Nat) (st : List Tuple),
      MapInv h cols m b st → tot = st.length →
      let r := HIndex.buildLoop h cols ts (m, b, mx, tot)
      MapInv h cols r.1 r.2.1 (st ++ ts) ∧ r.2.2.2 = (st ++ ts).length := by
  intro ts
  induction ts with
  | nil => intro m b mx tot st inv ht; simp [HIndex.buildLoop, inv, ht]
  | cons t ts ih =>
    intro m b mx tot st inv ht
    simp only [HIndex.buildLoop]
    have := ih _ _ (max mx (TMap.push m (projectT cols t) t).2) (tot + 1) _ (inv.push t)
      (by rw [List.length_append, ht]; rfl)
    rwa [List.append_assoc] at this

theorem IxInv.build {h ix st} (inv : IxInv h ix st) (ts : List Tuple) : IxInv h (ix.build h ts) ts := by
  have := buildLoop_inv h ix.cols ts [] ix.bloom.clear 0 0 [] (MapInv.empty h ix.cols _ inv.map.bloomWF.clear) rfl
  exact ⟨this.1, this.2, rfl⟩

theorem mem_specLookup {cols st t} (ht : t ∈ st) : t ∈ specLookup cols st (projectT cols t) := by
  simp [specLookup, teq, ht]

theorem specLookup_erase (cols : List Nat) (st : List Tuple) (t k : Tuple) :
    specLookup cols (st.erase t) k = (specLookup cols st k).erase t := List.erase_filter.symm

theorem IxInv.remove {h ix st} (inv : IxInv h ix st) (t : Tuple) :
    (removeFirst t st = none ∧ ix.remove t = (ix, false)) ∨
    (∃ st', removeFirst t st = some st' ∧ (ix.remove t).2 = true ∧ IxInv h (ix.remove t).1 st') := by
  have hget := inv.map.get_eq (projectT ix.cols t)
  rw [removeFirst_eq]
  by_cases hmem : t ∈ st
  · rw [if_pos hmem]
    refine .inr ⟨_, rfl, ?_⟩
    have hin := mem_specLookup (cols := ix.cols) hmem
    have hg : TMap.get ix.index (projectT ix.cols t) = some (specLookup ix.cols st (projectT ix.cols t)) := by
      rw [hget, optRows_of_ne_nil (List.ne_nil_of_mem hin)]
    have hkey : projectT ix.cols t ∈ TMap.keys ix.index := Decidable.byContradiction fun hk => by
      rw [(TMap.get_none_iff _ _).2 hk] at hg; cases hg
    have hother : ∀ k, k ≠ projectT ix.cols t → specLookup ix.cols (st.erase t) k = specLookup ix.cols st k :=
      fun k hk => (specLookup_erase ..).trans (List.erase_of_not_mem fun hm =>
        hk ((Tuple.eq_iff _ _).1 (List.mem_filter.1 hm).2).symm)
    have hnt : ix.numTuples - 1 = (st.erase t).length := by
      rw [inv.ntuples, List.length_erase_of_mem hmem]
    simp only [HIndex.remove, hg, removeFirst_eq, if_pos hin, ← specLookup_erase]
    split
    · -- the entry becomes empty and is dropped
      rename_i hemp
      refine ⟨rfl, inv.map.update _ ?_ ?_ (TMap.get_removeKey_other _ _) hother inv.map.bloomWF (fun _ _ => id) ?_, ?_, ?_⟩
      · rw [TMap.keys_removeKey]; exact inv.map.nodup.erase _
      · rw [TMap.get_removeKey_same _ _ inv.map.nodup, List.isEmpty_iff.1 hemp]; rfl
      · intro v hv; rw [TMap.get_removeKey_same _ _ inv.map.nodup] at hv; cases hv
      · exact hnt
      · show ix.numKeys - 1 = (TMap.removeKey ix.index _).length
        rw [← TMap.length_keys, TMap.keys_removeKey, List.length_erase_of_mem hkey, TMap.length_keys, inv.nkeys]
    · rename_i hemp
      refine ⟨rfl, inv.map.update _ ?_ ?_ (TMap.setKey_spec _ _ _).2.2 hother inv.map.bloomWF (fun _ _ => id) ?_, ?_, ?_⟩
      · rw [(TMap.setKey_spec _ _ _).1]; exact inv.map.nodup
      · rw [(TMap.setKey_spec _ _ _).2.1 hkey, optRows_of_ne_nil fun e => hemp (List.isEmpty_iff.2 e)]
      · exact fun _ _ => inv.map.covers _ _ hg
      · exact hnt
      · show ix.numKeys = (TMap.setKey ix.index _ _).length
        rw [← TMap.length_keys, (TMap.setKey_spec _ _ _).1, TMap.length_keys, inv.nkeys]
  · rw [if_neg hmem]
    refine .inl ⟨rfl, ?_⟩
    cases hg : TMap.get ix.index (projectT ix.cols t) with
    | none => simp only [HIndex.remove, hg]
    | some ts =>
      have hl := inv.map.lookup (projectT ix.cols t)
      rw [hg] at hl
      have : t ∉ ts := fun hm => hmem (List.mem_filter.1 ((show ts = _ from hl) ▸ hm)).1
      simp only [HIndex.remove, hg, removeFirst_eq, if_neg this]

theorem HIndex.remove_cols (ix : HIndex) (t : Tuple) : (ix.remove t).1.cols = ix.cols := by
  simp only [HIndex.remove]
  split
  · rfl
  · split
    · rfl
    · split <;> rfl

theorem IxInv.getWithBloom_eq {h ix st} (inv : IxInv h ix st) (k : Tuple) :
    ix.getWithBloom h k = ix.get k := by
  unfold HIndex.getWithBloom HIndex.mightContainKey HIndex.get
  cases hg : TMap.get ix.index k with
  | none => simp
  | some v => simp [inv.map.covers k v hg]

/-- an output of the model is what the Spec allows: equal, except that `might_contain_key` may also
    answer `true` where the Spec's lower bound is `false` (false positives are permitted). -/
def outOk : IxOp → IxOut → IxOut → Prop
  | .mc _, m, s => s = .bool true → m = .bool true
  | _, m, s => m = s

def outsOk : List IxOp → List IxOut → List IxOut → Prop
  | [], [], [] => True
  | op :: ops, m :: ms, s :: ss => outOk op m s ∧ outsOk ops ms ss
  | _, _, _ => False

theorem step_refines (h : Tuple → Nat × Nat) (ix : HIndex) (st : List Tuple) (inv : IxInv h ix st) (op : IxOp) :
    outOk op (ix.step h op).2 (specStep ix.cols st op).2 ∧
    IxInv h (ix.step h op).1 (specStep ix.cols st op).1 ∧ (ix.step h op).1.cols = ix.cols := by
  cases op with
  | ins t => exact ⟨rfl, inv.insert t, rfl⟩
  | rem t =>
    rcases inv.remove t with ⟨hs, hm⟩ | ⟨st', hs, hb, hinv⟩
    · simp only [HIndex.step, specStep, hs, hm]
      exact ⟨rfl, inv, trivial⟩
    · simp only [HIndex.step, specStep, hs]
      exact ⟨congrArg IxOut.bool hb, hinv, HIndex.remove_cols ix t⟩
  | build ts => exact ⟨rfl, inv.build ts, rfl⟩
  | get k =>
    refine ⟨?_, inv, rfl⟩
    simp only [HIndex.step, specStep, outOk, HIndex.get, inv.map.get_eq k]
  | getB k =>
    refine ⟨?_, inv, rfl⟩
    simp only [HIndex.step, specStep, outOk, inv.getWithBloom_eq k, HIndex.get, inv.map.get_eq k]
  | mc k =>
    refine ⟨?_, inv, rfl⟩
    simp only [HIndex.step, specStep, outOk]
    intro hs
    have hg := inv.map.get_eq k
    rw [optRows_of_ne_nil (by simpa using hs)] at hg
    exact congrArg IxOut.bool (inv.map.covers k _ hg)
  | probe k =>
    refine ⟨?_, inv, rfl⟩
    simp only [HIndex.step, specStep, outOk, HIndex.probe, inv.getWithBloom_eq k, HIndex.get, inv.map.get_eq k]
    rw [optRows_getD]
  | len => exact ⟨congrArg IxOut.nat inv.ntuples, inv, rfl⟩

theorem run_refines (h : Tuple → Nat × Nat) (ops : List IxOp) :
    ∀ (ix : HIndex) (st : List Tuple), IxInv h ix st →
      outsOk ops (HIndex.run h ix ops).2 (specRun ix.cols st ops) ∧
      ∃ st', IxInv h (HIndex.run h ix ops).1 st' := by
  induction ops with
  | nil => intro ix st inv; exact ⟨trivial, st, inv⟩
  | cons op ops ih =>
    intro ix st inv
    obtain ⟨ho, hinv, hc⟩ := step_refines h ix st inv op
    obtain ⟨hos, hex⟩ := ih _ _ hinv
    simp only [HIndex.run, specRun]
    rw [hc] at hos
    exact ⟨⟨ho, hos⟩, hex⟩

end ILV
