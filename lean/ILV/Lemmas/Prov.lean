/-
  Soundness of the proof-tree checker for C21: a tree without truncated nodes that `valid` accepts concludes
  a derivable fact (`valid_sound_aux`), with the monotonicity of staged derivability it needs.
-/
import ILV.Lemmas.ProvMatch
namespace ILV.Prov
open ILV

theorem SatBody_mono {P Q : String → Tuple → Prop} (W : String → List Tuple) (β : Bindings)
    (h : ∀ r t, P r t → Q r t) : ∀ ls, SatBody P W β ls → SatBody Q W β ls
  | [], _ => trivial
  | .pos a :: ls, hs => by
    obtain ⟨⟨t, hp, hm⟩, hr⟩ := hs
    exact ⟨⟨t, h _ _ hp, hm⟩, SatBody_mono W β h ls hr⟩
  | .neg a :: ls, hs => ⟨hs.1, SatBody_mono W β h ls hs.2⟩
  | .cmp l op r :: ls, hs => ⟨hs.1, SatBody_mono W β h ls hs.2⟩
  | .other :: _, hs => hs.elim

theorem DerivN_mono (prog : Program) (base M : DB) {n m : Nat} (hnm : n ≤ m) (rel : String) (t : Tuple)
    (h : DerivN prog base M n rel t) : DerivN prog base M m rel t := by
  induction hnm with
  | refl => exact h
  | step _ ih => exact Or.inl ih

theorem world_mem (prog : Program) (base M : DB) (hM : MSound prog base M) (rel : String) (t : Tuple)
    (h : memL t (world base M rel) = true) : Derivable prog base M rel t := by
  unfold world at h
  rw [memL_append, Bool.or_eq_true] at h
  rcases h with h | h
  · exact ⟨0, h⟩
  · exact hM rel t h

theorem SatBody_of_filter (P : String → Tuple → Prop) (W : String → List Tuple) (β : Bindings) :
    ∀ ls : List Lit, cmpsHold β ls = true → SatBody P W β (ls.filter Lit.needsChild) → SatBody P W β ls
  | [], _, _ => trivial
  | .pos a :: ls, hc, hs => by
    simp only [cmpsHold] at hc
    simp only [List.filter, Lit.needsChild] at hs
    exact ⟨hs.1, SatBody_of_filter P W β ls hc hs.2⟩
  | .neg a :: ls, hc, hs => by
    simp only [cmpsHold] at hc
    simp only [List.filter, Lit.needsChild] at hs
    exact ⟨hs.1, SatBody_of_filter P W β ls hc hs.2⟩
  | .cmp l op r :: ls, hc, hs => by
    simp only [cmpsHold, Bool.and_eq_true, beq_iff_eq] at hc
    simp only [List.filter, Lit.needsChild] at hs
    exact ⟨hc.1, SatBody_of_filter P W β ls hc.2 hs⟩
  | .other :: ls, hc, hs => by
    simp only [List.filter, Lit.needsChild] at hs
    exact hs.elim

mutual
theorem valid_sound_aux (prog : Program) (base M : DB) (hM : MSound prog base M) :
    ∀ t : Tree, valid prog base M t = true → t.hasTrunc = false → Derivable prog base M t.pred t.args
  | .node (.fact .edb) pred args kids, h, _ => by
    simp only [valid, Bool.and_eq_true] at h
    exact ⟨0, h.1⟩
  | .node (.fact .derived) pred args kids, h, _ => by
    simp only [valid, Bool.and_eq_true] at h
    exact world_mem prog base M hM pred args h.1
  | .node (.trunc _) pred args kids, _, ht => by simp [Tree.hasTrunc] at ht
  | .node (.neg _) _ _ _, h, _ => by simp [valid] at h
  | .node (.rule idx β) pred args kids, h, ht => by
    simp only [valid] at h
    split at h
    · simp at h
    · rename_i r hr
      simp only [Bool.and_eq_true, beq_iff_eq] at h
      obtain ⟨⟨⟨hrel, hhead⟩, hcmp⟩, hbody⟩ := h
      simp only [Tree.hasTrunc] at ht
      obtain ⟨n, hn⟩ := validKids_sound_aux prog base M hM β kids (r.body.filter Lit.needsChild) hbody ht
      have hmem : r ∈ prog := List.mem_of_getElem? hr
      exact ⟨n + 1, Or.inr ⟨r, hmem, hrel, β, hhead, SatBody_of_filter _ _ β r.body hcmp hn⟩⟩
theorem validKids_sound_aux (prog : Program) (base M : DB) (hM : MSound prog base M) (β : Bindings) :
    ∀ (ks : List Tree) (ls : List Lit), validKids prog base M β ls ks = true → Tree.hasTruncList ks = false →
      ∃ n, SatBody (DerivN prog base M n) (world base M) β ls
  | [], [], _, _ => ⟨0, trivial⟩
  | [], _ :: _, h, _ => by unfold validKids at h; simp at h
  | k :: ks, [], h, _ => by unfold validKids at h; simp at h
  | k :: ks, .pos a :: ls, h, ht => by
    unfold validKids at h
    simp only [Bool.and_eq_true, beq_iff_eq] at h
    obtain ⟨⟨⟨hp, hm⟩, hv⟩, hrest⟩ := h
    simp only [Tree.hasTruncList, Bool.or_eq_false_iff] at ht
    obtain ⟨n1, h1⟩ := valid_sound_aux prog base M hM k hv ht.1
    obtain ⟨n2, h2⟩ := validKids_sound_aux prog base M hM β ks ls hrest ht.2
    refine ⟨max n1 n2, ⟨k.args, ?_, hm⟩, SatBody_mono _ β (fun r t => DerivN_mono prog base M (Nat.le_max_right n1 n2) r t) ls h2⟩
    rw [hp] at h1
    exact DerivN_mono prog base M (Nat.le_max_left n1 n2) _ _ h1
  | k :: ks, .neg a :: ls, h, ht => by
    unfold validKids at h
    simp only [Bool.and_eq_true] at h
    obtain ⟨hk, hrest⟩ := h
    simp only [Tree.hasTruncList, Bool.or_eq_false_iff] at ht
    obtain ⟨n2, h2⟩ := validKids_sound_aux prog base M hM β ks ls hrest ht.2
    refine ⟨n2, ?_, h2⟩
    intro t ht'
    split at hk
    · simp only [Bool.and_eq_true, List.all_eq_true, Bool.not_eq_true'] at hk
      exact hk.2 t ht'
    · simp at hk
  | k :: ks, .cmp l op r :: ls, h, _ => by unfold validKids at h; simp at h
  | k :: ks, .other :: ls, h, _ => by unfold validKids at h; simp at h
end

end ILV.Prov
