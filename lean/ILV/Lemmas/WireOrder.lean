/-
  C35 helper: the repaired `compare_wire_values` (model `compareWV` / `compareWire`) is a total preorder
  on ALL values, and so is the multi-key closure `rowCmp` on all rows.
  Numeric class (Int64 ∪ Float64): both embed into `Int × Int × Int` ordered lexicographically — a double
  by (0, key, 0), NaN by (1, 0, 0), an integer by (0, key of its rounding, distance to it).
-/
import ILV.Lemmas.WireRound
import ILV.Lemmas.WireSort
import ILV.Lemmas.Order
namespace ILV

theorem icmp_lt {x y : Int} (h : x < y) : compare x y = .lt := Int.compare_eq_lt.2 h
theorem icmp_gt {x y : Int} (h : y < x) : compare x y = .gt := Int.compare_eq_gt.2 h
theorem icmp_eq {x y : Int} (h : x = y) : compare x y = .eq := Int.compare_eq_eq.2 h

theorem compare_sub_right (a b t : Int) : compare (a - t) (b - t) = compare a b := by
  rcases Int.lt_trichotomy a b with h | h | h
  · rw [icmp_lt h, icmp_lt (Int.sub_lt_sub_right h t)]
  · rw [icmp_eq h, icmp_eq (congrArg (· - t) h)]
  · rw [icmp_gt h, icmp_gt (Int.sub_lt_sub_right h t)]

/-- refining the order of the integers by a weakly monotone function first changes nothing. -/
theorem compare_then_of_mono {k : Int → Int} {a b : Int} (h1 : a ≤ b → k a ≤ k b) (h2 : b ≤ a → k b ≤ k a) :
    compare a b = (compare (k a) (k b)).then (compare a b) := by
  rcases Int.lt_trichotomy (k a) (k b) with g | g | g
  · rw [icmp_lt g]; exact icmp_lt (Int.not_le.1 fun h => Int.not_le.2 g (h2 h))
  · rw [icmp_eq g]; rfl
  · rw [icmp_gt g]; exact icmp_gt (Int.not_le.1 fun h => Int.not_le.2 g (h1 h))

theorem then_congr {o p q : Ordering} (h : o = .eq → p = q) : o.then p = o.then q := by
  cases o <;> first | exact h rfl | rfl

/-- `b as i128` depends on the double's value only (±0 both give 0). -/
theorem f64ToInt_of_key (x y : Nat) (h : f64Key x = f64Key y) : f64ToInt x = f64ToInt y := by
  unfold f64Key at h
  unfold f64ToInt
  -- both sides are functions of sign and magnitude
  generalize x % 2^63 = mx at h ⊢
  generalize y % 2^63 = my at h ⊢
  generalize (x / 2^63 % 2 == 1) = sx at h ⊢
  generalize (y / 2^63 % 2 == 1) = sy at h ⊢
  cases sx <;> cases sy <;> simp only [if_true, if_false, Bool.false_eq_true] at h
  · rw [Int.ofNat.inj h]
  · obtain ⟨rfl, rfl⟩ : mx = 0 ∧ my = 0 := by omega
    rfl
  · obtain ⟨rfl, rfl⟩ : mx = 0 ∧ my = 0 := by omega
    rfl
  · rw [Int.ofNat.inj (Int.neg_inj.1 h)]

def I64 (a : Int) : Prop := a.natAbs < 2 ^ 64

/-- well-formed wire value: integers are `i64`s (what `WireValue::Int64` can hold). -/
def WVal.WF : WVal → Prop
  | .i64 a => I64 a
  | _ => True

/-- numeric key: (is NaN, value of the nearest double, distance to it). -/
def nkey : WVal → Int × Int × Int
  | .i64 a => (0, rkey a, a - f64ToInt (i64AsF64 a))
  | .f64 b => if f64IsNaN b then (1, 0, 0) else (0, f64Key b, 0)
  | _ => (0, 0, 0)

def cmpKey (p q : Int × Int × Int) : Ordering :=
  (compare p.1 q.1).then ((compare p.2.1 q.2.1).then (compare p.2.2 q.2.2))

theorem cmpKey_tp : TP (fun _ => True) cmpKey :=
  (int_lawful.tp.comap (fun p : Int × Int × Int => p.1) fun _ _ => trivial).lex
    ((int_lawful.tp.comap (fun p : Int × Int × Int => p.2.1) fun _ _ => trivial).lex
      (int_lawful.tp.comap (fun p : Int × Int × Int => p.2.2) fun _ _ => trivial))

theorem nkey_i64 (a : Int) : nkey (.i64 a) = (0, rkey a, a - f64ToInt (i64AsF64 a)) := rfl
theorem nkey_f64 (b : Nat) : nkey (.f64 b) = if f64IsNaN b then (1, 0, 0) else (0, f64Key b, 0) := rfl

theorem cmpKey_zero (k r k' r' : Int) : cmpKey (0, k, r) (0, k', r') = (compare k k').then (compare r r') := rfl

theorem int_int_key (a a' : Int) (ha : I64 a) (ha' : I64 a') :
    compare a a' = cmpKey (nkey (.i64 a)) (nkey (.i64 a')) := by
  rw [nkey_i64, nkey_i64, cmpKey_zero, compare_then_of_mono (rkey_mono a a' ha ha') (rkey_mono a' a ha' ha)]
  refine then_congr fun e => ?_
  rw [f64ToInt_of_key _ _ (Int.compare_eq_eq.1 e), compare_sub_right]

theorem int_float_key (a : Int) (b : Nat) :
    cmpI64F64 a b = cmpKey (nkey (.i64 a)) (nkey (.f64 b)) := by
  rw [cmpI64F64, nkey_f64, nkey_i64]
  by_cases hn : f64IsNaN b = true
  · rw [if_pos hn, if_pos hn]; rfl
  · rw [if_neg hn, if_neg hn, cmpKey_zero]
    show (compare (rkey a) (f64Key b)).then (compare a (f64ToInt b)) = _
    refine then_congr fun e => ?_
    rw [f64ToInt_of_key _ _ (Int.compare_eq_eq.1 e), ← compare_sub_right a _ (f64ToInt b), Int.sub_self]

theorem float_float_key (a b : Nat) : cmpF64 a b = cmpKey (nkey (.f64 a)) (nkey (.f64 b)) := by
  rw [cmpF64, nkey_f64, nkey_f64]
  cases f64IsNaN a <;> cases f64IsNaN b
  · show compare (f64Key a) (f64Key b) = cmpKey (0, f64Key a, 0) (0, f64Key b, 0)
    rw [cmpKey_zero]
    cases compare (f64Key a) (f64Key b) <;> rfl
  all_goals rfl

/-- order class: the type rank, Float64 sharing Int64's. -/
def WVal.cls : WVal → Nat
  | .f64 _ => 3
  | v => v.rank

theorem WVal.cls_eq (v : WVal) : v.cls = if v.rank = 4 then 3 else v.rank := by cases v <;> rfl

theorem ncompare_congr {a b c d : Nat} (h1 : a < b → c < d) (h2 : b < a → d < c) (h3 : a = b → c = d) :
    compare a b = compare c d := by
  rcases Nat.lt_trichotomy a b with g | g | g
  · rw [Nat.compare_eq_lt.2 g, Nat.compare_eq_lt.2 (h1 g)]
  · rw [Nat.compare_eq_eq.2 g, Nat.compare_eq_eq.2 (h3 g)]
  · rw [Nat.compare_eq_gt.2 g, Nat.compare_eq_gt.2 (h2 g)]

theorem cmp_of_cls_ne (a b : WVal) (h : a.cls ≠ b.cls) : compareWV a b = compare a.cls b.cls := by
  unfold compareWV
  split
  -- arms 8 `.null, _`, 9 `_, .null`, 12 the rank arm; the other arms pair values of one class
  case h_8 => exact (Nat.compare_eq_lt.2 (Nat.pos_of_ne_zero fun e => h e.symm)).symm
  case h_9 => exact (Nat.compare_eq_gt.2 (Nat.pos_of_ne_zero h)).symm
  case h_12 =>
    -- the rank arm: moving rank 4 to 3 changes no comparison with a rank other than 3 and 4
    rw [WVal.cls_eq, WVal.cls_eq] at h ⊢
    generalize WVal.rank a = ra at h ⊢
    generalize WVal.rank b = rb at h ⊢
    by_cases ea : ra = 4 <;> by_cases eb : rb = 4 <;> simp only [ea, eb, if_true, if_false] at h ⊢
    · exact absurd rfl h
    · apply ncompare_congr <;> omega
    · apply ncompare_congr <;> omega
  all_goals exact absurd rfl h

theorem num_key (x y : Int ⊕ Nat) (wx : (Sum.elim WVal.i64 WVal.f64 x).WF) (wy : (Sum.elim WVal.i64 WVal.f64 y).WF) :
    compareWV (Sum.elim .i64 .f64 x) (Sum.elim .i64 .f64 y) =
      cmpKey (nkey (Sum.elim .i64 .f64 x)) (nkey (Sum.elim .i64 .f64 y)) := by
  rcases x with a | a <;> rcases y with b | b
  · exact int_int_key a b wx wy
  · exact int_float_key a b
  · show revOrd (cmpI64F64 b a) = _
    rw [int_float_key, ← cmpKey_tp.swap _ _ trivial trivial]; rfl
  · exact float_float_key a b

theorem compareWV_tp : TP WVal.WF compareWV := by
  have lists (l : List Nat) : AllP (fun _ => True) l := fun _ _ => trivial
  have ties {α} : TP (fun _ : α => True) (fun _ _ => .eq) := TP.const
  refine TP.of_kinds WVal.cls cmp_of_cls_ne (fun
    | 1 => ⟨_, _, _, .bool, bool_lawful.tp, fun _ _ _ _ => rfl⟩
    | 2 => ⟨_, _, _, .i32, int_lawful.tp, fun _ _ _ _ => rfl⟩
    | 3 => ⟨_, _, _, Sum.elim .i64 .f64,
        cmpKey_tp.comap (fun s => nkey (Sum.elim .i64 .f64 s)) (Q := fun s => (Sum.elim WVal.i64 WVal.f64 s).WF)
          fun _ _ => trivial, num_key⟩
    | 5 => ⟨_, _, _, .str, (lex_lawful nat_lawful).tp, fun _ _ _ _ => rfl⟩
    | 6 => ⟨_, _, _, .ts, int_lawful.tp, fun _ _ _ _ => rfl⟩
    -- vectors have one rank and no arm of their own: they all tie
    | 7 => ⟨_, _, _, Sum.elim .vec .vec8, ties, fun x y _ _ => by cases x <;> cases y <;> rfl⟩
    | 8 => ⟨_, _, _, .bytes, ties, fun _ _ _ _ => rfl⟩
    | _ => ⟨Unit, _, _, fun _ => .null, ties, fun _ _ _ _ => rfl⟩) fun a wa => ?_
  cases a
  case null => exact ⟨(), trivial, rfl⟩
  case i64 => exact ⟨.inl _, wa, rfl⟩
  case f64 => exact ⟨.inr _, wa, rfl⟩
  case str => exact ⟨_, lists _, rfl⟩
  case vec => exact ⟨.inl _, trivial, rfl⟩
  case vec8 => exact ⟨.inr _, trivial, rfl⟩
  all_goals exact ⟨_, trivial, rfl⟩

def OptWF (o : Option WVal) : Prop := ∀ v, o = some v → v.WF

theorem compareWire_tp : TP OptWF compareWire :=
  TP.of_kinds (fun o => if o.isSome then 1 else 0)
    (fun a b h => by cases a <;> cases b <;> first | rfl | exact absurd rfl h)
    (fun
      | 0 => ⟨Unit, fun _ => True, _, fun _ => none, TP.const, fun _ _ _ _ => rfl⟩
      | _ => ⟨WVal, WVal.WF, compareWV, some, compareWV_tp, fun _ _ _ _ => rfl⟩)
    fun a pa => by
      cases a
      · exact ⟨(), trivial, rfl⟩
      · exact ⟨_, pa _ rfl, rfl⟩

def RowWF (r : WRow) : Prop := ∀ v ∈ r, v.WF

theorem rowWF_get (r : WRow) (h : RowWF r) (col : Nat) : OptWF r[col]? :=
  fun v hv => h v (List.mem_of_getElem? hv)

theorem ite_ne_eq_then (c r : Ordering) : (if c != .eq then c else r) = c.then r := by cases c <;> rfl

theorem rowCmp_cons (col : Nat) (desc : Bool) (ks : List SortKey) (a b : WRow) :
    rowCmp ((col, desc) :: ks) a b =
      (if desc then revOrd (compareWire a[col]? b[col]?) else compareWire a[col]? b[col]?).then (rowCmp ks a b) :=
  ite_ne_eq_then _ _

/-- the `sort_by` closure is a total preorder on all well-formed rows, for every key list. -/
theorem rowCmp_tp (keys : List SortKey) : TP RowWF (rowCmp keys) := by
  induction keys with
  | nil => exact TP.const
  | cons k ks ih =>
    obtain ⟨col, desc⟩ := k
    have hc : TP RowWF (fun (a b : WRow) => compareWire a[col]? b[col]?) :=
      compareWire_tp.comap (fun r => r[col]?) (fun r h => rowWF_get r h col)
    have hd : TP RowWF (fun (a b : WRow) =>
        if desc then revOrd (compareWire a[col]? b[col]?) else compareWire a[col]? b[col]?) := by
      cases desc
      · exact hc
      · exact hc.rev
    exact (hd.lex ih).congr fun a b _ _ => rowCmp_cons col desc ks a b

theorem preorderOn_rows (keys : List SortKey) (rows : List WRow) (h : ∀ r ∈ rows, RowWF r) :
    PreorderOn rows (rowCmp keys) where
  swap := fun a ha b hb => (rowCmp_tp keys).swap a b (h a ha) (h b hb)
  trans := fun a ha b hb c hc => (rowCmp_tp keys).trans a b c (h a ha) (h b hb) (h c hc)

end ILV
