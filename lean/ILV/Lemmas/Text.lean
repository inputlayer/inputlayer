/-
  Lemmas about the text layer (ILV.Model.Text): what `trim` guarantees, and that phase 2's
  accumulator text `line ++ " "` trims back to `line`.
-/
import ILV.Model.Text
namespace ILV.Text

/-- non-empty, first and last character are not white space -/
def Trimmed (l : List Char) : Prop :=
  (∃ c cs, l = c :: cs ∧ isWs c = false) ∧ (∃ d ds, l.reverse = d :: ds ∧ isWs d = false)

theorem trimStart_head_nonws {x : List Char} {c : Char} {cs : List Char} (h : trimStart x = c :: cs) :
    isWs c = false := by
  induction x with
  | nil => cases h
  | cons a as ih =>
    unfold trimStart at h
    split at h
    · exact ih h
    · cases h
      exact Bool.eq_false_iff.2 ‹_›

theorem trimStart_of_nonws (c : Char) (cs : List Char) (h : isWs c = false) : trimStart (c :: cs) = c :: cs := by
  simp [trimStart, h]

theorem trimStart_suffix : ∀ x : List Char, ∃ p, x = p ++ trimStart x := by
  intro x
  induction x with
  | nil => exact ⟨[], rfl⟩
  | cons a as ih =>
    unfold trimStart
    split
    · obtain ⟨p, hp⟩ := ih
      exact ⟨a :: p, congrArg (a :: ·) hp⟩
    · exact ⟨[], rfl⟩

theorem trim_trimmed (x : List Char) (hne : trim x ≠ []) : Trimmed (trim x) := by
  unfold trim trimEnd at *
  -- y := trimStart x ; z := (trimStart y.reverse).reverse
  generalize hy : trimStart x = y at *
  constructor
  · -- the head: z is a prefix of y, y's head is non-ws
    rcases trimStart_suffix y.reverse with ⟨p, hp⟩
    have hz : y = (trimStart y.reverse).reverse ++ p.reverse := by
      have := congrArg List.reverse hp
      simpa using this
    cases hzz : (trimStart y.reverse).reverse with
    | nil => exact absurd hzz hne
    | cons c cs =>
      refine ⟨c, cs, rfl, ?_⟩
      rw [hzz] at hz
      exact trimStart_head_nonws (x := x) (cs := cs ++ p.reverse) (by rw [hy, hz]; rfl)
  · cases hr : trimStart y.reverse with
    | nil => rw [hr] at hne; exact absurd rfl hne
    | cons d ds => exact ⟨d, ds, by simp, trimStart_head_nonws hr⟩

theorem trim_of_trimmed (l : List Char) (h : Trimmed l) : trim l = l := by
  rcases h with ⟨⟨c, cs, rfl, hc⟩, ⟨d, ds, hd, hdw⟩⟩
  unfold trim trimEnd
  rw [trimStart_of_nonws c cs hc, hd, trimStart_of_nonws d ds hdw, ← hd]
  simp

theorem trimEnd_append_space (x : List Char) : trimEnd (x ++ [' ']) = trimEnd x := by
  unfold trimEnd
  rw [List.reverse_append]
  rfl

/-- the statement text phase 2 parses (`(line ++ " ").trim()`) is the line itself -/
theorem trim_append_space (l : List Char) (h : Trimmed l) : trim (l ++ [' ']) = l := by
  obtain ⟨c, cs, rfl, hc⟩ := h.1
  refine Eq.trans ?_ (trim_of_trimmed _ h)
  unfold trim
  rw [List.cons_append, trimStart_of_nonws c _ hc, trimStart_of_nonws c _ hc]
  exact trimEnd_append_space (c :: cs)

theorem logicalLines_trimmed (t : List Char) (l : List Char) (h : l ∈ logicalLines t) : Trimmed l := by
  unfold logicalLines at h
  simp only [List.mem_filter, List.mem_map] at h
  rcases h with ⟨⟨x, _, rfl⟩, hne⟩
  apply trim_trimmed
  intro he; simp [he] at hne

theorem trim_nil : trim [] = [] := by decide

theorem trim_idem (t : List Char) : trim (trim t) = trim t := by
  by_cases h : trim t = []
  · rw [h]; exact trim_nil
  · exact trim_of_trimmed _ (trim_trimmed t h)

theorem splitNl_noNl : ∀ t : List Char, '\n' ∉ t → splitNl t = [t] := by
  intro t
  induction t with
  | nil => intro _; rfl
  | cons c cs ih =>
    intro h
    have hc : c ≠ '\n' := fun e => h (by simp [e])
    have hcs : '\n' ∉ cs := fun e => h (by simp [e])
    unfold splitNl
    rw [ih hcs]
    simp [hc]

theorem rustLines_noNl (t : List Char) (h : '\n' ∉ t) : rustLines t = if t.isEmpty then [] else [t] := by
  unfold rustLines
  rw [splitNl_noNl t h]
  simp

theorem joinNl_nil : joinNl [] = [] := by decide
theorem joinNl_single (t : List Char) : joinNl [t] = t := by
  unfold joinNl; simp [List.intercalate]

theorem stripComments_noNl (t : List Char) (h : '\n' ∉ t) : stripComments t = t ∨ stripComments t = [] := by
  unfold stripComments
  rw [rustLines_noNl t h]
  by_cases he : t.isEmpty = true
  · right; simp [he, joinNl_nil]
  · simp only [he]
    by_cases hf : (!(startsWith ['%'] (trim t)) && !(startsWith ['/', '/'] (trim t))) = true
    · left; simp [List.filter, hf, joinNl_single]
    · right; simp [List.filter, hf, joinNl_nil]

theorem joinContinuation_noNl (t : List Char) (h : '\n' ∉ t) :
    joinContinuation t = t ∨ (joinContinuation t = [] ∧ trim t = []) := by
  unfold joinContinuation
  rw [rustLines_noNl t h]
  by_cases he : t.isEmpty = true
  · have : t = [] := by simpa using he
    subst this
    right; exact ⟨by decide, trim_nil⟩
  · simp only [he]
    by_cases ht : (trim t).isEmpty = true
    · right
      have : trim t = [] := by simpa using ht
      refine ⟨?_, this⟩
      simp [List.foldl, joinStep, ht, joinNl, List.intercalate]
    · left
      simp [List.foldl, joinStep, ht, joinNl_single]

theorem logicalLines_noNl (t : List Char) (h : '\n' ∉ t) :
    logicalLines t = [] ∨ (logicalLines t = [trim t] ∧ stripComments t = t) := by
  unfold logicalLines
  rcases stripComments_noNl t h with hs | hs
  · rw [hs]
    rcases joinContinuation_noNl t h with hj | ⟨hj, _⟩
    · rw [hj, rustLines_noNl t h]
      by_cases he : t.isEmpty = true
      · left; simp [he]
      · by_cases ht : (trim t).isEmpty = true
        · left; simp [he, List.filter, ht]
        · right; exact ⟨by simp [he, List.filter, ht], rfl⟩
    · left; rw [hj]; decide
  · left; rw [hs]; decide

end ILV.Text
