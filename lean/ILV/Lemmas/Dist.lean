/-
  Laws of the distance functions of ILV.Model.VecOps for the loop structure of the code, from the
  float laws `FloatLaws F` (hypotheses).  Also: an exact-integer instance of `FloatOps` that
  satisfies `FloatLaws` (the laws are consistent; used for the `example`s).
-/
import ILV.Model.VecOps
namespace ILV.VecOps
open ILV

variable {F : FloatOps}

-- no component is a NaN / every component is finite
def NoNaN (F : FloatOps) (v : List F.F32) : Prop := ∀ x ∈ v, F.isNaN32 x = false
def AllFin (F : FloatOps) (v : List F.F32) : Prop := ∀ x ∈ v, F.isFin32 x = true

theorem AllFin.noNaN (L : FloatLaws F) {v : List F.F32} (h : AllFin F v) : NoNaN F v :=
  fun x hx => L.fin_notNaN x (h x hx)

theorem ge0_64_notNaN {x : F.F64} (h : F.ge0_64 x = true) : F.isNaN64 x = false := by
  unfold FloatOps.ge0_64 at h
  rw [Bool.and_eq_true, Bool.not_eq_true'] at h
  exact h.1

/-- Every distance loop of the code walks two vectors in step, up to the shorter one, updating an
    accumulator. -/
def zipFold {α β} (g : β → α → α → β) : List α → List α → β → β
  | x :: xs, y :: ys, acc => zipFold g xs ys (g acc x y)
  | _, _, acc => acc

/-- Two such loops over the same vectors in opposite roles keep their accumulators related. -/
theorem zipFold_swap {α β γ} {g : β → α → α → β} {g' : γ → α → α → γ} {R : β → γ → Prop} {a b : List α}
    (h : ∀ x ∈ a, ∀ y ∈ b, ∀ acc acc', R acc acc' → R (g acc x y) (g' acc' y x)) {acc acc'} (h0 : R acc acc') :
    R (zipFold g a b acc) (zipFold g' b a acc') := by
  induction a generalizing b acc acc' with
  | nil => cases b <;> exact h0
  | cons x xs ih =>
    cases b with
    | nil => exact h0
    | cons y ys =>
      exact ih (fun x' hx y' hy => h x' (List.mem_cons_of_mem x hx) y' (List.mem_cons_of_mem y hy))
        (h x List.mem_cons_self y List.mem_cons_self _ _ h0)

theorem zipFold_comm {α β} {g : β → α → α → β} {a b : List α}
    (h : ∀ x ∈ a, ∀ y ∈ b, ∀ acc, g acc x y = g acc y x) (acc : β) : zipFold g a b acc = zipFold g b a acc :=
  zipFold_swap (R := Eq) (fun x hx y hy acc _ e => e ▸ h x hx y hy acc) rfl

theorem zipFold_inv {α β} {g : β → α → α → β} {I : β → Prop} {a b : List α}
    (h : ∀ x ∈ a, ∀ y ∈ b, ∀ acc, I acc → I (g acc x y)) {acc} (h0 : I acc) : I (zipFold g a b acc) :=
  zipFold_swap (g' := fun (u : Unit) _ _ => u) (R := fun acc _ => I acc) (acc' := ())
    (fun x hx y hy acc _ => h x hx y hy acc) h0

theorem zipFold_self {α β} {g : β → α → α → β} {I : β → Prop} {a : List α}
    (h : ∀ x ∈ a, ∀ acc, I acc → I (g acc x x)) {acc} (h0 : I acc) : I (zipFold g a a acc) := by
  induction a generalizing acc with
  | nil => exact h0
  | cons x xs ih => exact ih (fun x' hx => h x' (List.mem_cons_of_mem x hx)) (h x List.mem_cons_self _ h0)

theorem sumSqDiff_eq (a b : List F.F32) (acc : F.F32) : sumSqDiff F a b acc =
    zipFold (fun acc x y => F.add32 acc (F.mul32 (F.sub32 x y) (F.sub32 x y))) a b acc := by
  induction a generalizing b acc with
  | nil => rfl
  | cons x xs ih => cases b with
    | nil => rfl
    | cons y ys => exact ih ys _

theorem manhAcc_eq (a b : List F.F32) (acc : F.F64) : manhAcc F a b acc =
    zipFold (fun acc x y => F.add64 acc (F.abs64 (F.to64 (F.sub32 x y)))) a b acc := by
  induction a generalizing b acc with
  | nil => rfl
  | cons x xs ih => cases b with
    | nil => rfl
    | cons y ys => exact ih ys _

theorem dotAcc_eq (a b : List F.F32) (acc : F.F64) : dotAcc F a b acc =
    zipFold (fun acc x y => F.add64 acc (F.mul64 (F.to64 x) (F.to64 y))) a b acc := by
  induction a generalizing b acc with
  | nil => rfl
  | cons x xs ih => cases b with
    | nil => rfl
    | cons y ys => exact ih ys _

/-- one step of the single pass of `cosine_distance`, at either width: dot product and both squared norms. -/
def cosStep {α β} (add : β → β → β) (m : α → α → β) (r : β × β × β) (x y : α) : β × β × β :=
  (add r.1 (m x y), add r.2.1 (m x x), add r.2.2 (m y y))

/-- swapping the arguments of the single pass swaps the two norm accumulators. -/
theorem cosStep_swap {α β} {add : β → β → β} {m : α → α → β} {a b : List α} (hm : ∀ x ∈ a, ∀ y ∈ b, m y x = m x y)
    (d na nb : β) : zipFold (cosStep add m) b a (d, nb, na) =
      ((zipFold (cosStep add m) a b (d, na, nb)).1, (zipFold (cosStep add m) a b (d, na, nb)).2.2,
        (zipFold (cosStep add m) a b (d, na, nb)).2.1) := by
  refine zipFold_swap (R := fun (r r' : β × β × β) => r' = (r.1, r.2.2, r.2.1)) (fun x hx y hy _ r' e => ?_) rfl
  rw [e, cosStep, hm x hx y hy]
  rfl

/-- a property of the squares that sums keep holds of both norm accumulators. -/
theorem cosStep_inv {α β} {add : β → β → β} {m : α → α → β} {P : β → Prop} {a b : List α}
    (hadd : ∀ u v, P u → P v → P (add u v)) (ha : ∀ x ∈ a, P (m x x)) (hb : ∀ y ∈ b, P (m y y)) {z : β} (hz : P z) :
    P (zipFold (cosStep add m) a b (z, z, z)).2.1 ∧ P (zipFold (cosStep add m) a b (z, z, z)).2.2 :=
  zipFold_inv (I := fun r : β × β × β => P r.2.1 ∧ P r.2.2)
    (fun x hx y hy _ h => ⟨hadd _ _ h.1 (ha x hx), hadd _ _ h.2 (hb y hy)⟩) ⟨hz, hz⟩

/-- on identical inputs the three accumulators stay equal. -/
theorem cosStep_diag {α β} {add : β → β → β} {m : α → α → β} (a : List α) (t : β) :
    ∃ t', zipFold (cosStep add m) a a (t, t, t) = (t', t', t') := by
  refine zipFold_self (I := fun r => ∃ t, r = (t, t, t)) (fun x _ _ h => ?_) ⟨t, rfl⟩
  obtain ⟨t, rfl⟩ := h
  exact ⟨_, rfl⟩

theorem cosAcc_eq (a b : List F.F32) (acc : F.F32 × F.F32 × F.F32) :
    cosAcc F a b acc = zipFold (cosStep F.add32 F.mul32) a b acc := by
  induction a generalizing b acc with
  | nil => rfl
  | cons x xs ih => cases b with
    | nil => rfl
    | cons y ys => exact ih ys _

theorem cosAcc64_eq (a b : List F.F32) (acc : F.F64 × F.F64 × F.F64) :
    cosAcc64 F a b acc = zipFold (cosStep F.add64 fun x y => F.mul64 (F.to64 x) (F.to64 y)) a b acc := by
  induction a generalizing b acc with
  | nil => rfl
  | cons x xs ih => cases b with
    | nil => rfl
    | cons y ys => exact ih ys _

/-- `cosine_distance` / `cosine_distance_wide` with the accumulator triple named. -/
theorem cosine_eq (a b : List F.F32) : cosine F a b =
    if a.length != b.length then F.inf64
    else
      let r := cosAcc F a b (F.zero32, F.zero32, F.zero32)
      if F.isFin32 r.1 && F.isFin32 r.2.1 && F.isFin32 r.2.2 then cosFinish F r.1 r.2.1 r.2.2 else cosWide F a b :=
  rfl

theorem cosWide_eq (a b : List F.F32) : cosWide F a b =
    let r := cosAcc64 F a b (F.zero64, F.zero64, F.zero64)
    cosTail F r.1 (F.sqrt64 r.2.1) (F.sqrt64 r.2.2) :=
  rfl

theorem cosTail_symm (L : FloatLaws F) (d na nb : F.F64) (h1 : F.isNaN64 na = false) (h2 : F.isNaN64 nb = false) :
    cosTail F d na nb = cosTail F d nb na := by
  unfold cosTail
  rw [Bool.or_comm, L.mul64_comm _ _ h1 h2]

theorem cosFinish_symm (L : FloatLaws F) (d na nb : F.F32) (h1 : F.ge0_32 na = true) (h2 : F.ge0_32 nb = true) :
    cosFinish F d na nb = cosFinish F d nb na :=
  cosTail_symm L _ _ _ (ge0_64_notNaN (L.sqrt_ge0 _ (L.to64_ge0 _ h1))) (ge0_64_notNaN (L.sqrt_ge0 _ (L.to64_ge0 _ h2)))

section  -- symmetry, for NaN-free vectors
variable (L : FloatLaws F) (a b : List F.F32) (ha : NoNaN F a) (hb : NoNaN F b)
include L ha hb

theorem sumSqDiff_symm (acc : F.F32) :
    sumSqDiff F a b acc = sumSqDiff F b a acc := by
  rw [sumSqDiff_eq, sumSqDiff_eq]
  exact zipFold_comm (fun x hx y hy acc => congrArg (F.add32 acc) (L.sqdiff_symm x y (ha x hx) (hb y hy))) acc

theorem euclid_symm :
    euclid F a b = euclid F b a := by
  unfold euclid
  rw [bne_comm, sumSqDiff_symm L a b ha hb _]

theorem euclidSq_symm :
    euclidSq F a b = euclidSq F b a := by
  unfold euclidSq
  rw [bne_comm, sumSqDiff_symm L a b ha hb _]

theorem manhattan_symm :
    manhattan F a b = manhattan F b a := by
  unfold manhattan
  rw [bne_comm, manhAcc_eq, manhAcc_eq]
  exact congrArg _ (zipFold_comm (fun x hx y hy acc => congrArg (F.add64 acc) (L.absdiff_symm x y (ha x hx) (hb y hy))) _)

theorem dot_symm :
    dot F a b = dot F b a := by
  unfold dot
  rw [bne_comm, dotAcc_eq, dotAcc_eq]
  exact congrArg _ (zipFold_comm (fun x hx y hy acc => congrArg (F.add64 acc)
    (L.mul64_comm _ _ (L.to64_notNaN x (ha x hx)) (L.to64_notNaN y (hb y hy)))) _)

theorem cosWide_symm :
    cosWide F a b = cosWide F b a := by
  have hm : ∀ x ∈ a, ∀ y ∈ b, F.mul64 (F.to64 y) (F.to64 x) = F.mul64 (F.to64 x) (F.to64 y) := fun x hx y hy =>
    L.mul64_comm _ _ (L.to64_notNaN y (hb y hy)) (L.to64_notNaN x (ha x hx))
  have hg := cosStep_inv (m := fun x y : F.F32 => F.mul64 (F.to64 x) (F.to64 y)) (a := a) (b := b)
    (P := fun u => F.ge0_64 u = true) L.add64_ge0 (fun x hx => L.sq64_ge0 _ (L.to64_notNaN x (ha x hx)))
    (fun y hy => L.sq64_ge0 _ (L.to64_notNaN y (hb y hy))) L.zero64_ge0
  rw [cosWide_eq, cosWide_eq, cosAcc64_eq, cosAcc64_eq, cosStep_swap hm]
  exact cosTail_symm L _ _ _ (ge0_64_notNaN (L.sqrt_ge0 _ hg.1)) (ge0_64_notNaN (L.sqrt_ge0 _ hg.2))

theorem cosine_symm :
    cosine F a b = cosine F b a := by
  have hg := cosStep_inv (P := fun u => F.ge0_32 u = true) L.add32_ge0 (fun x hx => L.sq_ge0 x (ha x hx))
    (fun y hy => L.sq_ge0 y (hb y hy)) L.zero32_ge0
  rw [cosine_eq, cosine_eq, bne_comm]
  dsimp only
  rw [cosAcc_eq, cosAcc_eq, cosStep_swap fun x hx y hy => L.mul32_comm y x (hb y hy) (ha x hx), cosWide_symm L b a hb ha,
    cosFinish_symm L _ _ _ hg.2 hg.1, Bool.and_right_comm]

end

section  -- non-negativity, for finite vectors
variable (L : FloatLaws F) (a b : List F.F32) (ha : AllFin F a) (hb : AllFin F b)
include L ha hb

theorem sumSqDiff_ge0 :
    F.ge0_32 (sumSqDiff F a b F.negZero32) = true := by
  rw [sumSqDiff_eq]
  exact zipFold_inv (I := fun acc => F.ge0_32 acc = true)
    (fun x hx y hy acc h => L.add32_ge0 _ _ h (L.sq_ge0 _ (L.sub_fin x y (ha x hx) (hb y hy)))) L.negZero32_ge0

theorem euclid_ge0 :
    F.ge0_64 (euclid F a b) = true := by
  unfold euclid
  split
  · exact L.inf64_ge0
  · exact L.sqrt_ge0 _ (L.to64_ge0 _ (sumSqDiff_ge0 L a b ha hb))

theorem euclidSq_ge0 :
    F.ge0_64 (euclidSq F a b) = true := by
  unfold euclidSq
  split
  · exact L.inf64_ge0
  · exact L.to64_ge0 _ (sumSqDiff_ge0 L a b ha hb)

theorem manhattan_ge0 :
    F.ge0_64 (manhattan F a b) = true := by
  unfold manhattan
  split
  · exact L.inf64_ge0
  · rw [manhAcc_eq]
    exact zipFold_inv (I := fun acc => F.ge0_64 acc = true)
      (fun x hx y hy acc h => L.add64_ge0 _ _ h (L.abs_ge0 _ (L.to64_notNaN _ (L.sub_fin x y (ha x hx) (hb y hy)))))
      L.negZero64_ge0

end

section  -- a finite vector against itself
variable (L : FloatLaws F) (a : List F.F32) (ha : AllFin F a)
include L ha

/-- the sum over identical vectors from `-0.0` (`Iterator::sum`): `-0.0 + +0.0 = +0.0` at the first
    component, `+0.0` from there on. -/
theorem sumSqDiff_self :
    sumSqDiff F a a F.negZero32 = if a.isEmpty then F.negZero32 else F.zero32 := by
  cases a with
  | nil => rfl
  | cons x xs =>
    have hz : ∀ y, F.isFin32 y = true → F.mul32 (F.sub32 y y) (F.sub32 y y) = F.zero32 := fun y hy => by
      rw [L.sub_self y hy, L.mul_zero_zero]
    rw [sumSqDiff, hz x (ha x List.mem_cons_self), L.add_negZero_zero, sumSqDiff_eq]
    exact zipFold_self (I := (· = F.zero32))
      (fun y hy acc h => by rw [h, hz y (ha y (List.mem_cons_of_mem x hy)), L.add_zero_zero]) rfl

theorem euclid_self :
    euclid F a a = if a.isEmpty then F.negZero64 else F.zero64 := by
  unfold euclid
  rw [bne_self_eq_false, if_neg Bool.false_ne_true, sumSqDiff_self L a ha]
  split
  · rw [L.to64_negZero, L.sqrt_negZero]
  · rw [L.to64_zero, L.sqrt_zero]

theorem manhattan_self :
    manhattan F a a = if a.isEmpty then F.negZero64 else F.zero64 := by
  unfold manhattan
  rw [bne_self_eq_false, if_neg Bool.false_ne_true]
  cases a with
  | nil => rfl
  | cons x xs =>
    have hz : ∀ y, F.isFin32 y = true → F.abs64 (F.to64 (F.sub32 y y)) = F.zero64 := fun y hy => by
      rw [L.sub_self y hy, L.to64_zero, L.abs_zero]
    rw [manhAcc, hz x (ha x List.mem_cons_self), L.add64_negZero_zero, manhAcc_eq]
    exact zipFold_self (I := (· = F.zero64))
      (fun y hy acc h => by rw [h, hz y (ha y (List.mem_cons_of_mem x hy)), L.add64_zero_zero]) rfl

end

theorem cosTail_range (L : FloatLaws F) (d na nb : F.F64) :
    F.isNaN64 (cosTail F d na nb) = true ∨
      (F.le64 F.zero64 (cosTail F d na nb) = true ∧ F.le64 (cosTail F d na nb) F.two64 = true) := by
  unfold cosTail
  split
  · exact Or.inr ⟨L.le64_zero_zero, L.le64_zero_two⟩
  · generalize F.div64 d (F.mul64 na nb) = sim
    obtain ⟨c1, c2, c3, c4, c5⟩ := L.lt64_irrefl_consts
    unfold FloatOps.clamp64
    cases hn : F.isNaN64 sim with
    | true =>
      rw [(L.lt64_nan sim F.negOne64 hn).1, (L.lt64_nan sim F.one64 hn).2]
      exact Or.inl (L.one_sub_nan sim hn)
    | false =>
      right
      cases h1 : F.lt64 sim F.negOne64 with
      | true => rw [if_pos rfl]; exact L.one_sub_range _ c5 c2 c1
      | false =>
        rw [if_neg Bool.false_ne_true]
        cases h2 : F.lt64 F.one64 sim with
        | true => rw [if_pos rfl]; exact L.one_sub_range _ c4 c1 c3
        | false => rw [if_neg Bool.false_ne_true]; exact L.one_sub_range _ hn h1 h2

theorem cosine_range (L : FloatLaws F) (a b : List F.F32) (h : a.length = b.length) :
    F.isNaN64 (cosine F a b) = true ∨
      (F.le64 F.zero64 (cosine F a b) = true ∧ F.le64 (cosine F a b) F.two64 = true) := by
  rw [cosine_eq, h, bne_self_eq_false, if_neg Bool.false_ne_true]
  dsimp only
  split
  · exact cosTail_range L _ _ _
  · exact cosTail_range L _ _ _

/-- the float fact behind "cosine distance of a vector to itself is ≈ 0":
    `1 - clamp(s / (√s·√s))` is within `eps` of zero for every accumulated `s` (unless it is a NaN). -/
def SqrtRoundTrip (F : FloatOps) (eps : F.F64) : Prop :=
  ∀ s : F.F64, F.isNaN64 (cosTail F s (F.sqrt64 s) (F.sqrt64 s)) = false →
    F.le64 (cosTail F s (F.sqrt64 s) (F.sqrt64 s)) eps = true

/-- all three accumulators of the single pass coincide on identical inputs (both widths), so the
    result has the form `SqrtRoundTrip` speaks of. -/
theorem cosine_self (a : List F.F32) (eps : F.F64) (H : SqrtRoundTrip F eps)
    (hn : F.isNaN64 (cosine F a a) = false) : F.le64 (cosine F a a) eps = true := by
  obtain ⟨t, ht⟩ := cosAcc_eq (F := F) a a _ ▸ cosStep_diag a F.zero32
  obtain ⟨t2, ht2⟩ := cosAcc64_eq (F := F) a a _ ▸ cosStep_diag a F.zero64
  have e : cosine F a a = if F.isFin32 t && F.isFin32 t && F.isFin32 t
      then cosTail F (F.to64 t) (F.sqrt64 (F.to64 t)) (F.sqrt64 (F.to64 t)) else cosTail F t2 (F.sqrt64 t2) (F.sqrt64 t2) := by
    rw [cosine_eq, bne_self_eq_false, if_neg Bool.false_ne_true, cosWide_eq, ht, ht2]
    rfl
  rw [e] at hn ⊢
  split at hn
  · rw [if_pos ‹_›]; exact H (F.to64 t) hn
  · rw [if_neg ‹_›]; exact H t2 hn

theorem sqDiff_comm (x y : Int) : (x - y) * (x - y) = (y - x) * (y - x) := by
  rw [← Int.neg_sub y x, Int.neg_mul_neg]

theorem mulSelf_nonneg (x : Int) : 0 ≤ x * x :=
  Int.natAbs_mul_self' x ▸ Int.natCast_nonneg _

theorem absDiff_comm (x y : Int) : ((x - y).natAbs : Int) = ((y - x).natAbs : Int) := by
  rw [← Int.natAbs_neg, Int.neg_sub]

theorem zipInt_symm (f : Int → Int → Int) (hf : ∀ x y, f x y = f y x) (a b : List Int) : zipInt f a b = zipInt f b a := by
  induction a generalizing b with
  | nil => cases b <;> rfl
  | cons x xs ih => cases b with
    | nil => rfl
    | cons y ys => rw [zipInt, zipInt, hf x y, ih ys]

theorem euclidI8_symm (a b : List Int) : euclidI8 F a b = euclidI8 F b a := by
  unfold euclidI8
  rw [bne_comm, zipInt_symm _ sqDiff_comm a b]

theorem dotI8_symm (a b : List Int) : dotI8 F a b = dotI8 F b a := by
  unfold dotI8
  rw [bne_comm, zipInt_symm _ Int.mul_comm a b]

theorem manhattanI8_symm (a b : List Int) : manhattanI8 F a b = manhattanI8 F b a := by
  unfold manhattanI8
  rw [bne_comm, zipInt_symm _ absDiff_comm a b]

theorem zipInt_self_zero (f : Int → Int → Int) (a : List Int) (hf : ∀ x ∈ a, f x x = 0) : zipInt f a a = 0 := by
  induction a with
  | nil => rfl
  | cons x xs ih =>
    rw [zipInt, hf x List.mem_cons_self, ih fun y hy => hf y (List.mem_cons_of_mem x hy)]
    rfl

theorem euclidI8_self (a : List Int) : euclidI8 F a a = F.sqrt64 (F.ofInt64 0) := by
  unfold euclidI8
  rw [bne_self_eq_false, if_neg Bool.false_ne_true, zipInt_self_zero _ a fun x _ => by rw [Int.sub_self, Int.mul_zero]]

theorem manhattanI8_self (a : List Int) : manhattanI8 F a a = F.ofInt64 0 := by
  unfold manhattanI8
  rw [bne_self_eq_false, if_neg Bool.false_ne_true, zipInt_self_zero _ a fun x _ => by rw [Int.sub_self]; rfl]

theorem cosineI8_zero_self (n : Nat) : cosineI8 F (List.replicate n 0) (List.replicate n 0) = F.zero64 := by
  have hz : ∀ f : Int → Int → Int, f 0 0 = 0 → zipInt f (List.replicate n 0) (List.replicate n 0) = 0 :=
    fun f hf => zipInt_self_zero f _ fun x hx => List.eq_of_mem_replicate hx ▸ hf
  unfold cosineI8
  rw [bne_self_eq_false, if_neg Bool.false_ne_true]
  dsimp only
  rw [hz (fun x _ => x * x) rfl, hz (fun _ y => y * y) rfl]
  rfl

/-- integer square root by search (structural, so closed terms reduce in the kernel). -/
def isqrt (n : Nat) : Nat := (List.range (n + 1)).foldl (fun r k => if k * k ≤ n then k else r) 0

/-- integers with exact arithmetic as a (degenerate, overflow-free, NaN-free) float model. -/
def toyFloat : FloatOps where
  F32 := Int
  F64 := Int
  ofBits32 n := if n = 0x80000000 then 0 else if n = 0x7f800000 then 1000000 else if n = 0xff800000 then -1000000 else n
  bits32 x := x.toNat
  ofBits64 n := if n = 0x8000000000000000 then 0 else if n = 0x3ff0000000000000 then 1
    else if n = 0xbff0000000000000 then -1 else if n = 0x4000000000000000 then 2
    else if n = 0x7ff0000000000000 then 1000000 else n
  bits64 x := x.toNat
  add32 := (· + ·)
  sub32 := (· - ·)
  mul32 := (· * ·)
  div32 := (· / ·)
  abs32 x := x.natAbs
  round32 x := x
  sqrt32 x := (isqrt x.toNat : Nat)
  lt32 a b := decide (a < b)
  eq32 a b := decide (a = b)
  isNaN32 _ := false
  isFin32 _ := true
  toI8 x := if x < -128 then -128 else if x > 127 then 127 else x
  ofInt32 x := x
  to64 x := x
  to32 x := x
  add64 := (· + ·)
  sub64 := (· - ·)
  mul64 := (· * ·)
  div64 := (· / ·)
  abs64 x := x.natAbs
  neg64 x := -x
  sqrt64 x := (isqrt x.toNat : Nat)
  round64 x := x
  toI8_64 x := if x < -128 then -128 else if x > 127 then 127 else x
  lt64 a b := decide (a < b)
  eq64 a b := decide (a = b)
  isNaN64 _ := false
  ofInt64 x := x

instance : DecidableEq toyFloat.F32 := inferInstanceAs (DecidableEq Int)
instance : DecidableEq toyFloat.F64 := inferInstanceAs (DecidableEq Int)

/-- an integer vector as a vector of the toy instance. -/
def toyVec (l : List Int) : List toyFloat.F32 := l
/-- an optional vector of the toy instance as optional integers (for decidable comparisons). -/
def toyOptVec (o : Option (List toyFloat.F32)) : Option (List Int) := o
/-- a search result of the toy instance with integer distances. -/
def toyRes (r : List (Nat × toyFloat.F64)) : List (Nat × Int) := r
/-- a result of the toy instance as an integer. -/
def toyVal (x : toyFloat.F64) : Int := x

theorem toy_ge0 (x : Int) : toyFloat.ge0_64 x = true ↔ 0 ≤ x := by
  show (!false && !decide (x < 0)) = true ↔ 0 ≤ x
  rw [Bool.not_false, Bool.true_and, Bool.not_eq_true', decide_eq_false_iff_not, Int.not_lt]

theorem toy_le64 (x y : Int) : toyFloat.le64 x y = true ↔ x ≤ y := by
  show (!false && !false && !decide (y < x)) = true ↔ x ≤ y
  rw [Bool.not_false, Bool.true_and, Bool.true_and, Bool.not_eq_true', decide_eq_false_iff_not, Int.not_lt]

theorem toyFloat_laws : FloatLaws toyFloat where
  mul32_comm := fun (x y : Int) _ _ => Int.mul_comm x y
  mul64_comm := fun (x y : Int) _ _ => Int.mul_comm x y
  sqdiff_symm := fun (x y : Int) _ _ => sqDiff_comm x y
  absdiff_symm := fun (x y : Int) _ _ => absDiff_comm x y
  sub_fin := fun _ _ _ _ => rfl
  fin_notNaN := fun _ _ => rfl
  sq_ge0 := fun (x : Int) _ => (toy_ge0 _).2 (mulSelf_nonneg x)
  add32_ge0 := fun (x y : Int) hx hy => (toy_ge0 _).2 (Int.add_nonneg ((toy_ge0 x).1 hx) ((toy_ge0 y).1 hy))
  add64_ge0 := fun (x y : Int) hx hy => (toy_ge0 _).2 (Int.add_nonneg ((toy_ge0 x).1 hx) ((toy_ge0 y).1 hy))
  to64_ge0 := fun (x : Int) hx => hx
  to64_notNaN := fun _ _ => rfl
  sqrt_ge0 := fun (x : Int) _ => (toy_ge0 _).2 (Int.natCast_nonneg _)
  abs_ge0 := fun (x : Int) _ => (toy_ge0 _).2 (Int.natCast_nonneg _)
  zero32_ge0 := rfl
  negZero32_ge0 := rfl
  negZero64_ge0 := rfl
  zero64_ge0 := rfl
  sq64_ge0 := fun (x : Int) _ => (toy_ge0 _).2 (mulSelf_nonneg x)
  inf64_ge0 := rfl
  sub_self := fun (x : Int) _ => Int.sub_self x
  mul_zero_zero := rfl
  add_negZero_zero := rfl
  add_zero_zero := rfl
  to64_zero := rfl
  to64_negZero := rfl
  sqrt_zero := rfl
  sqrt_negZero := rfl
  abs_zero := rfl
  add64_negZero_zero := rfl
  add64_zero_zero := rfl
  one_sub_range := fun (c : Int) _ h1 h2 =>
    have h1' : (-1 : Int) ≤ c := Int.not_lt.1 (of_decide_eq_false h1)
    have h2' : c ≤ 1 := Int.not_lt.1 (of_decide_eq_false h2)
    ⟨(toy_le64 _ _).2 (Int.sub_nonneg.2 h2'), (toy_le64 _ _).2 (Int.sub_le_sub_left h1' 1)⟩
  one_sub_nan := fun _ h => by cases h
  lt64_irrefl_consts := ⟨rfl, rfl, rfl, rfl, rfl⟩
  lt64_nan := fun _ _ h => by cases h
  le64_zero_zero := rfl
  le64_zero_two := rfl

end ILV.VecOps
