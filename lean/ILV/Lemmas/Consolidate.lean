/-
  The update log: per-tuple sums of diffs, and the code's consolidation loops (`consolidate`,
  `consolidate_to_current`, `to_tuples`). Every consolidation preserves the per-tuple sum, for *any* list;
  relative to C31 (`Tuple.cmp` is a lawful total order on well-formed tuples) the entries after
  `consolidateToCurrent` carry pairwise distinct data, hence
  `t ∈ toTuples (consolidateToCurrent l) ↔ 0 < sumOf t l`.
-/
import ILV.Model.Store
import ILV.Props.C31
namespace ILV.Store
open ILV ILV.Batch ILV.Props.C31

/-- sum of the diffs recorded for tuple `t`. -/
def sumOf (t : Tuple) : List Update → Int
  | [] => 0
  | u :: us => (if u.data = t then u.diff else 0) + sumOf t us

@[simp] theorem sumOf_nil (t : Tuple) : sumOf t [] = 0 := rfl
@[simp] theorem sumOf_cons (t : Tuple) (u : Update) (us : List Update) :
    sumOf t (u :: us) = (if u.data = t then u.diff else 0) + sumOf t us := rfl

theorem sumOf_append (t : Tuple) (a b : List Update) : sumOf t (a ++ b) = sumOf t a + sumOf t b := by
  induction a with
  | nil => exact (Int.zero_add _).symm
  | cons u us ih => rw [List.cons_append, sumOf_cons, sumOf_cons, ih, Int.add_assoc]

theorem sumOf_flatten_append (t : Tuple) (bs : List (List Update)) (b : List Update) :
    sumOf t (bs ++ [b]).flatten = sumOf t bs.flatten + sumOf t b := by
  simp [sumOf_append]

theorem sumOf_eq_zero_of_not_mem (t : Tuple) (l : List Update) (h : ∀ u ∈ l, u.data ≠ t) : sumOf t l = 0 := by
  induction l with
  | nil => rfl
  | cons u us ih =>
    have h1 : u.data ≠ t := h u (by simp)
    have h2 := ih (fun v hv => h v (by simp [hv]))
    simp [h1, h2]

theorem insertBy_perm {α} (le : α → α → Bool) (x : α) : ∀ l : List α, (insertBy le x l).Perm (x :: l)
  | [] => .refl _
  | y :: ys => by
    rw [insertBy]
    split
    · exact .refl _
    · exact ((insertBy_perm le x ys).cons y).trans (List.Perm.swap x y ys)

theorem sortBy_perm {α} (le : α → α → Bool) : ∀ l : List α, (sortBy le l).Perm l
  | [] => .refl _
  | x :: xs => (insertBy_perm le x _).trans ((sortBy_perm le xs).cons x)

theorem sumOf_perm (t : Tuple) {a b : List Update} (h : a.Perm b) : sumOf t a = sumOf t b := by
  induction h with
  | nil => rfl
  | cons x _ ih => rw [sumOf_cons, sumOf_cons, ih]
  | swap x y l => rw [sumOf_cons, sumOf_cons, sumOf_cons, sumOf_cons, Int.add_left_comm]
  | trans _ _ ih1 ih2 => exact ih1.trans ih2

theorem sumOf_sortBy (t : Tuple) (le : Update → Update → Bool) (l : List Update) :
    sumOf t (sortBy le l) = sumOf t l :=
  sumOf_perm t (sortBy_perm le l)

theorem mem_insertBy {α} (le : α → α → Bool) (x y : α) (l : List α) : y ∈ insertBy le x l ↔ y = x ∨ y ∈ l :=
  (insertBy_perm le x l).mem_iff.trans List.mem_cons

theorem mem_sortBy {α} (le : α → α → Bool) (y : α) (l : List α) : y ∈ sortBy le l ↔ y ∈ l :=
  (sortBy_perm le l).mem_iff

theorem sameKey_data {b : Bool} {a u : Update} (h : sameKey b a u = true) : a.data = u.data := by
  unfold sameKey at h
  simp only [Bool.and_eq_true] at h
  exact (tuple_eq_iff_eq _ _).1 h.1

theorem eq_zero_of_not_bne {x : Int} (h : ¬(x != 0) = true) : x = 0 :=
  Decidable.byContradiction fun hne => h (bne_iff_ne.2 hne)

theorem sumOf_mergeAdj (t : Tuple) (b : Bool) (us : List Update) (cur : Update) :
    sumOf t (mergeAdj b cur us) = sumOf t (cur :: us) := by
  fun_induction mergeAdj b cur us with
  | case1 cur h => rfl
  | case2 cur h => rw [sumOf_cons, eq_zero_of_not_bne h, ite_self]; rfl
  | case3 cur u us hk ih =>
    rw [ih, sumOf_cons, sumOf_cons, sumOf_cons, ← sameKey_data hk, ← Int.add_assoc]
    split <;> rfl
  | case4 cur u us hk hnz ih => rw [sumOf_cons, ih]; rfl
  | case5 cur u us hk hz ih => rw [ih, sumOf_cons t cur, eq_zero_of_not_bne hz, ite_self, Int.zero_add]

/-- sort, then merge neighbours: the shape of both consolidations. -/
theorem sumOf_sortMerge (t : Tuple) (le : Update → Update → Bool) (b : Bool) (l : List Update) :
    sumOf t (match sortBy le l with | [] => [] | u :: us => mergeAdj b u us) = sumOf t l := by
  have h := sumOf_sortBy t le l
  split
  · next e => rwa [e] at h
  · next u us e => rwa [sumOf_mergeAdj, ← e]

theorem sumOf_consolidate (t : Tuple) (l : List Update) : sumOf t (consolidate l) = sumOf t l :=
  sumOf_sortMerge t leDataTime true l

theorem sumOf_consolidateToCurrent (t : Tuple) (l : List Update) :
    sumOf t (consolidateToCurrent l) = sumOf t l :=
  sumOf_sortMerge t leData false l

theorem mergeAdj_data_mem (b : Bool) (us : List Update) (cur x : Update) (hx : x ∈ mergeAdj b cur us) :
    ∃ y ∈ cur :: us, y.data = x.data := by
  fun_induction mergeAdj b cur us with
  | case1 cur h => exact ⟨x, hx, rfl⟩
  | case2 cur h => cases hx
  | case3 cur u us hk ih =>
    obtain ⟨y, hy, e⟩ := ih hx
    rcases List.mem_cons.1 hy with rfl | hy
    · exact ⟨cur, List.mem_cons_self, e⟩
    · exact ⟨y, List.mem_cons_of_mem _ (List.mem_cons_of_mem _ hy), e⟩
  | case4 cur u us hk hnz ih =>
    rcases List.mem_cons.1 hx with rfl | hx
    · exact ⟨x, List.mem_cons_self, rfl⟩
    · obtain ⟨y, hy, e⟩ := ih hx
      exact ⟨y, List.mem_cons_of_mem _ hy, e⟩
  | case5 cur u us hk hz ih =>
    obtain ⟨y, hy, e⟩ := ih hx
    exact ⟨y, List.mem_cons_of_mem _ hy, e⟩

theorem consolidate_data_mem (l : List Update) (x : Update) (hx : x ∈ consolidate l) : ∃ y ∈ l, y.data = x.data := by
  unfold consolidate at hx
  split at hx
  · simp at hx
  · rename_i u us e
    obtain ⟨y, hy, e'⟩ := mergeAdj_data_mem _ _ _ _ hx
    rw [← e, mem_sortBy] at hy
    exact ⟨y, hy, e'⟩

/-- well-formed tuple: every `Float64` carries a 64-bit pattern. -/
def TupleWF (t : Tuple) : Prop := AllP Value.WF t

instance : DecidablePred TupleWF := fun t => by unfold TupleWF AllP; infer_instance

theorem tuple_lawful : LawfulOn TupleWF Tuple.cmp := lex_lawful value_lawful

def leD (a b : Update) : Prop := Tuple.cmp a.data b.data ≠ .gt
def ltD (a b : Update) : Prop := Tuple.cmp a.data b.data = .lt

theorem sorted_insertBy (x : Update) (l : List Update) (hx : TupleWF x.data) (hl : ∀ u ∈ l, TupleWF u.data)
    (hs : l.Pairwise leD) : (insertBy leData x l).Pairwise leD := by
  induction l with
  | nil => simp [insertBy]
  | cons y ys ih =>
    have hy : TupleWF y.data := hl y (by simp)
    have hys : ∀ u ∈ ys, TupleWF u.data := fun u hu => hl u (by simp [hu])
    rw [List.pairwise_cons] at hs
    simp only [insertBy]
    split
    · rename_i hle
      have hxy : leD x y := by simpa [leData, leD] using hle
      rw [List.pairwise_cons]
      refine ⟨?_, List.pairwise_cons.2 hs⟩
      intro z hz
      simp only [List.mem_cons] at hz
      rcases hz with hz | hz
      · rw [hz]; exact hxy
      · exact tuple_lawful.trans _ _ _ hx hy (hys z hz) hxy (hs.1 z hz)
    · rename_i hle
      have hyx : leD y x := by
        have hgt : Tuple.cmp x.data y.data = .gt := by
          simp only [leData, bne_iff_ne, ne_eq, Decidable.not_not] at hle; exact hle
        have := tuple_lawful.swap x.data y.data hx hy
        rw [hgt] at this
        simp only [leD, this, Ordering.swap]; decide
      rw [List.pairwise_cons]
      refine ⟨?_, ih hys hs.2⟩
      intro z hz
      rw [mem_insertBy] at hz
      rcases hz with hz | hz
      · rw [hz]; exact hyx
      · exact hs.1 z hz

theorem sorted_sortBy (l : List Update) (hl : ∀ u ∈ l, TupleWF u.data) : (sortBy leData l).Pairwise leD := by
  induction l with
  | nil => simp [sortBy]
  | cons x xs ih =>
    show (insertBy leData x (sortBy leData xs)).Pairwise leD
    apply sorted_insertBy
    · exact hl x (by simp)
    · intro u hu; rw [mem_sortBy] at hu; exact hl u (by simp [hu])
    · exact ih (fun u hu => hl u (by simp [hu]))

theorem leD_refl {a : Update} (h : TupleWF a.data) : leD a a := by
  rw [leD, tuple_lawful.refl _ h]; decide

theorem leD_of_ltD {a b : Update} (h : ltD a b) : leD a b := by
  rw [ltD] at h; rw [leD, h]; decide

theorem ltD_of_not_sameKey {cur u x : Update} (hcur : TupleWF cur.data) (hu : TupleWF u.data) (hx : TupleWF x.data)
    (hk : ¬sameKey false cur u = true) (hle : leD cur u) (hux : leD u x) : ltD cur x := by
  have hne : cur.data ≠ u.data := fun e => hk (by simp [sameKey, (tuple_eq_iff_eq _ _).2 e])
  have hlt : ltD cur u := by
    unfold ltD; unfold leD at hle
    cases hc : Tuple.cmp cur.data u.data with
    | lt => rfl
    | eq => exact absurd ((tuple_lawful.eq_iff _ _ hcur hu).1 hc) hne
    | gt => exact absurd hc hle
  exact tuple_lawful.lt_of_lt_of_le hcur hu hx hlt hux

theorem mergeAdj_strict (us : List Update) (cur : Update)
    (hwf : ∀ u ∈ cur :: us, TupleWF u.data) (hs : (cur :: us).Pairwise leD) :
    (mergeAdj false cur us).Pairwise ltD ∧ (∀ x ∈ mergeAdj false cur us, leD cur x ∧ TupleWF x.data) := by
  fun_induction mergeAdj false cur us with
  | case1 cur h =>
    refine ⟨List.pairwise_singleton _ _, fun x hx => ?_⟩
    rw [List.mem_singleton.1 hx]
    exact ⟨leD_refl (hwf cur List.mem_cons_self), hwf cur List.mem_cons_self⟩
  | case2 cur h => exact ⟨List.Pairwise.nil, fun x hx => nomatch hx⟩
  | case3 cur u us hk ih =>
    rw [List.pairwise_cons] at hs
    refine ih (fun v hv => ?_) (List.pairwise_cons.2 ⟨fun z hz => hs.1 z (List.mem_cons_of_mem _ hz), (List.pairwise_cons.1 hs.2).2⟩)
    rcases List.mem_cons.1 hv with rfl | hv
    · exact hwf cur List.mem_cons_self
    · exact hwf v (List.mem_cons_of_mem _ (List.mem_cons_of_mem _ hv))
  | case4 cur u us hk hnz ih =>
    rw [List.pairwise_cons] at hs
    have hcur := hwf cur List.mem_cons_self
    obtain ⟨ih1, ih2⟩ := ih (fun v hv => hwf v (List.mem_cons_of_mem _ hv)) hs.2
    have hall : ∀ x ∈ mergeAdj false u us, ltD cur x := fun x hx =>
      ltD_of_not_sameKey hcur (hwf u (List.mem_cons_of_mem _ List.mem_cons_self)) (ih2 x hx).2 hk
        (hs.1 u List.mem_cons_self) (ih2 x hx).1
    refine ⟨List.pairwise_cons.2 ⟨hall, ih1⟩, fun x hx => ?_⟩
    rcases List.mem_cons.1 hx with rfl | hx
    · exact ⟨leD_refl hcur, hcur⟩
    · exact ⟨leD_of_ltD (hall x hx), (ih2 x hx).2⟩
  | case5 cur u us hk hz ih =>
    rw [List.pairwise_cons] at hs
    obtain ⟨ih1, ih2⟩ := ih (fun v hv => hwf v (List.mem_cons_of_mem _ hv)) hs.2
    exact ⟨ih1, fun x hx => ⟨leD_of_ltD (ltD_of_not_sameKey (hwf cur List.mem_cons_self)
      (hwf u (List.mem_cons_of_mem _ List.mem_cons_self)) (ih2 x hx).2 hk (hs.1 u List.mem_cons_self) (ih2 x hx).1),
      (ih2 x hx).2⟩⟩

theorem pairwise_ltD_nodup (l : List Update) (hp : l.Pairwise ltD) (hwf : ∀ u ∈ l, TupleWF u.data) :
    (l.map (·.data)).Nodup :=
  List.pairwise_map.2 (hp.imp_of_mem (fun {a b} ha _ hlt e => by
    rw [ltD, ← e, tuple_lawful.refl _ (hwf a ha)] at hlt; cases hlt))

theorem sumOf_of_nodup (t : Tuple) : ∀ (l : List Update), (l.map (·.data)).Nodup →
    ∀ x ∈ l, x.data = t → sumOf t l = x.diff := by
  intro l
  induction l with
  | nil => exact fun _ x hx => nomatch hx
  | cons u us ih =>
    intro hn x hx hxt
    rw [List.map_cons, List.nodup_cons] at hn
    rw [sumOf_cons]
    rcases List.mem_cons.1 hx with rfl | hx
    · rw [if_pos hxt, sumOf_eq_zero_of_not_mem t us (fun v hv e => hn.1 (List.mem_map.2 ⟨v, hv, e.trans hxt.symm⟩)),
        Int.add_zero]
    · rw [if_neg (fun e => hn.1 (List.mem_map.2 ⟨x, hx, hxt.trans e.symm⟩)), Int.zero_add]
      exact ih hn.2 x hx hxt

theorem consolidateToCurrent_nodup (l : List Update) (hwf : ∀ u ∈ l, TupleWF u.data) :
    ((consolidateToCurrent l).map (·.data)).Nodup := by
  unfold consolidateToCurrent
  split
  · exact List.nodup_nil
  · next u us e =>
    have hs := sorted_sortBy l hwf
    rw [e] at hs
    obtain ⟨hp, hall⟩ := mergeAdj_strict us u (fun v hv => hwf v ((mem_sortBy _ _ _).1 (e ▸ hv))) hs
    exact pairwise_ltD_nodup _ hp (fun x hx => (hall x hx).2)

theorem mem_recover_iff (l : List Update) (hwf : ∀ u ∈ l, TupleWF u.data) (t : Tuple) :
    t ∈ toTuples (consolidateToCurrent l) ↔ 0 < sumOf t l := by
  rw [← sumOf_consolidateToCurrent t l]
  have hn := consolidateToCurrent_nodup l hwf
  generalize consolidateToCurrent l = m at hn
  simp only [toTuples, List.mem_map, List.mem_filter, decide_eq_true_eq]
  constructor
  · rintro ⟨x, ⟨hx, hpos⟩, hxt⟩
    rw [sumOf_of_nodup t _ hn x hx hxt]
    exact hpos
  · intro hpos
    by_cases hex : ∃ x ∈ m, x.data = t
    · obtain ⟨x, hx, hxt⟩ := hex
      rw [sumOf_of_nodup t _ hn x hx hxt] at hpos
      exact ⟨x, ⟨hx, hpos⟩, hxt⟩
    · rw [sumOf_eq_zero_of_not_mem t m (fun v hv e' => hex ⟨v, hv, e'⟩)] at hpos
      exact absurd hpos (Int.lt_irrefl 0)

theorem recover_nodup (l : List Update) (hwf : ∀ u ∈ l, TupleWF u.data) :
    (toTuples (consolidateToCurrent l)).Nodup :=
  List.Nodup.sublist (List.Sublist.map _ List.filter_sublist) (consolidateToCurrent_nodup l hwf)

end ILV.Store
