/-
  C14 machinery: the *abstract state* of an engine — live relations, arity metadata, per-tuple sums of
  the update log — is untouched by every maintenance step (`step_maint`, ILV.Lemmas.StoreRun) and evolves
  under a write as a function of the abstract state alone (`insertCore_char` / `deleteCoreRaw_char` and
  `Wrote.absEq`, ILV.Lemmas.StoreWrites), whatever the configuration (buffer size, WAL limit, durability mode). Hence a
  history and its write projection end in the same abstract state (`run_vs_writes`).
-/
import ILV.Lemmas.StoreRun
namespace ILV.Store
open ILV ILV.Batch ILV.Props.C31

def opGood (G : String → Tuple → Prop) : Op → Prop
  | .ins r ts => ∀ t ∈ ts, G r t
  | .del r ts => ∀ t ∈ ts, G r t
  | _ => True

theorem step_write {c : Codec} {G} (hc : CodecOk c G) (e1 e2 : Engine) (o : Op) (h1 : PInv G e1) (h2 : PInv G e2)
    (ha : AbsEq e1 e2) (hw : isWrite o = true) (hg : opGood G o) :
    PInv G (step c e1 o) ∧ PInv G (step c e2 o) ∧ AbsEq (step c e1 o) (step c e2 o) ∧
    (step c e1 o).cfg = e1.cfg ∧ (step c e2 o).cfg = e2.cfg := by
  cases o with
  | ins r ts =>
    rw [step_ins h1.notDead, step_ins h2.notDead]
    cases hacc : insAcc e1 r ts with
    | false => rw [insertCore_rej c hacc, insertCore_rej c (insAcc_congr ha.arity r ts ▸ hacc)]; exact ⟨h1, h2, ha, rfl, rfl⟩
    | true =>
      have w1 := insertCore_char hc e1 r ts h1 hg hacc
      have w2 := insertCore_char hc e2 r ts h2 hg (insAcc_congr ha.arity r ts ▸ hacc)
      exact ⟨w1.pinv, w2.pinv, Wrote.absEq ha w1 w2 (by rw [ha.live]) (by rw [ha.arity]) rfl, w1.cfg, w2.cfg⟩
  | del r ts =>
    rw [step_del h1.notDead, step_del h2.notDead]
    have w1 := deleteCoreRaw_char hc e1 r (deletable e1.arity r ts) h1 (fun t ht => hg t (mem_deletable ht))
    have w2 := deleteCoreRaw_char hc e2 r (deletable e2.arity r ts) h2 (fun t ht => hg t (mem_deletable ht))
    exact ⟨w1.pinv, w2.pinv, Wrote.absEq ha w1 w2 (by rw [ha.live, ha.arity]) (by rw [ha.live, ha.arity])
      (by rw [ha.arity]), w1.cfg, w2.cfg⟩
  | save | savekg | compact | compactIf _ | restart | shutdown | obs | files | q | bad => cases hw

/-- the write projection of a history. -/
def writesOf (h : List Op) : List Op := h.filter isWrite

theorem run_vs_writes {c : Codec} {G} (hc : CodecOk c G) : ∀ (h : List Op) (e1 e2 : Engine),
    PInv G e1 → PInv G e2 → AbsEq e1 e2 → (∀ o ∈ h, isRestart o = false) → (∀ o ∈ h, opGood G o) →
    PInv G (h.foldl (step c) e1) ∧ PInv G ((writesOf h).foldl (step c) e2) ∧
    AbsEq (h.foldl (step c) e1) ((writesOf h).foldl (step c) e2) ∧
    (h.foldl (step c) e1).cfg = e1.cfg := by
  intro h
  induction h with
  | nil => intro e1 e2 h1 h2 ha _ _; exact ⟨h1, h2, ha, rfl⟩
  | cons o os ih =>
    intro e1 e2 h1 h2 ha hr hg
    have hro := hr o (by simp)
    have hgo := hg o (by simp)
    have hr' : ∀ x ∈ os, isRestart x = false := fun x hx => hr x (by simp [hx])
    have hg' : ∀ x ∈ os, opGood G x := fun x hx => hg x (by simp [hx])
    by_cases hw : isWrite o = true
    · obtain ⟨p1, p2, a, c1, _⟩ := step_write hc e1 e2 o h1 h2 ha hw hgo
      have : writesOf (o :: os) = o :: writesOf os := by simp [writesOf, hw]
      rw [this]
      simp only [List.foldl_cons]
      obtain ⟨q1, q2, q3, q4⟩ := ih (step c e1 o) (step c e2 o) p1 p2 a hr' hg'
      exact ⟨q1, q2, q3, q4.trans c1⟩
    · have hw' : isWrite o = false := by simpa using hw
      obtain ⟨p1, m⟩ := step_maint hc e1 o h1 hw' hro
      have : writesOf (o :: os) = writesOf os := by simp [writesOf, hw']
      rw [this]
      simp only [List.foldl_cons]
      obtain ⟨q1, q2, q3, q4⟩ := ih (step c e1 o) e2 p1 h2 ((AbsEq_of_maint m).symm.trans ha) hr' hg'
      exact ⟨q1, q2, q3, q4.trans m.cfg⟩

/-- what a clean shutdown + reopen serves is a function of the abstract state. -/
theorem shutdown_live {c : Codec} {G} (hc : CodecOk c G) (hwf : ∀ r t, G r t → TupleWF t) (e : Engine) (hP : PInv G e)
    (r : String) (t : Tuple) :
    (restart c (saveAll c e).1).2 = none ∧
    (t ∈ liveOf (restart c (saveAll c e).1).1 r ↔ 0 < sumOf t (logOf e r)) := by
  obtain ⟨_, a, m, hb⟩ := saveAll_spec hc e hP
  obtain ⟨r1, _, _, _, r5⟩ := restart_spec hc (saveAll c e).1 a (walMirrors_of_empty a hb)
  refine ⟨r1, ?_⟩
  rw [r5, mem_recover_iff _ (fun u hu => hwf r _ (a.good r u hu)), m.sums]

end ILV.Store
