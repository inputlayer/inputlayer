/-
  The rewrite rules of `Optimizer::apply_all_rules` (optimizer/mod.rs:89): each one maps a
  well-formed tree to a well-formed tree of the same width with *the same list of rows*.
  For each rule: what it does at the root of an arbitrary tree, then `Ok.bottomUp`.
-/
import ILV.Lemmas.IRRules
namespace ILV.IR
open ILV

theorem Ok.map_id {db : Db} {i : Node} {proj : List Nat} {s : List String} (h : wf db (.map i proj s) = true)
    (hid : isIdentityProj proj (width i) = true) : Ok db (.map i proj s) i := by
  simp only [isIdentityProj, Bool.and_eq_true, beq_iff_eq] at hid
  have hs : s.length = proj.length := by
    simp only [wf, Bool.and_eq_true, beq_iff_eq] at h; exact h.2
  refine ⟨wf_map h, hid.2.symm.trans hs.symm, ?_⟩
  have : ∀ t ∈ eval db i, project t proj = t := fun t ht => by
    rw [hid.1, hid.2, ← rowsOk db i (wf_map h) t ht]
    exact project_range t
  simp only [eval, List.map_congr_left this, List.map_id']

theorem elimIdMaps_ok (db : Db) : ∀ t, wf db t = true → Ok db t (elimIdMaps t) :=
  Ok.bottomUp (fL := elimIdMapsL) rfl (fun _ _ => rfl) fun t h hk => by
    cases t with
    | map i proj s =>
      show Ok db _ (if isIdentityProj proj (width (elimIdMaps i)) then elimIdMaps i else .map (elimIdMaps i) proj s)
      split
      · next hid => exact hk.trans (Ok.map_id hk.w hid)
      · exact hk
    | aggregate | flatMap | joinFlatMap => exact Ok.refl h
    | _ => exact hk

theorem elimIdMapsL_ok (db : Db) : ∀ ts, wfL db ts = true → OkL db ts (elimIdMapsL ts) :=
  OkL.ofOk rfl (fun _ _ => rfl) (elimIdMaps_ok db)

theorem Ok.filter_tt {db : Db} {i : Node} (h : wf db i = true) : Ok db (.filter i .tt) i :=
  ⟨h, rfl, by simp [eval, Pred.eval, Pred.evalG]⟩

theorem elimTrue_ok (db : Db) : ∀ t, wf db t = true → Ok db t (elimTrue t) :=
  Ok.bottomUp (fL := elimTrueL) rfl (fun _ _ => rfl) fun t h hk => by
    cases t with
    | filter i p =>
      show Ok db _ (if p == .tt then elimTrue i else .filter (elimTrue i) p)
      split
      · next hp =>
        obtain rfl : p = .tt := eq_of_beq hp
        exact hk.trans (Ok.filter_tt (wf_filter hk.w))
      · exact hk
    | aggregate | flatMap | joinFlatMap => exact Ok.refl h
    | _ => exact hk

theorem elimTrueL_ok (db : Db) : ∀ ts, wfL db ts = true → OkL db ts (elimTrueL ts) :=
  OkL.ofOk rfl (fun _ _ => rfl) (elimTrue_ok db)

/-! No `Filter(_, False)` in a well-formed tree: always-false filter elimination is the identity. -/

theorem ne_ff_of_wf {db : Db} {i : Node} {p : Pred} (h : wf db (.filter i p) = true) : p ≠ .ff := by
  simp only [wf, Bool.and_eq_true, bne_iff_ne, ne_eq] at h; exact h.2

theorem elimFalse_ok (db : Db) : ∀ t, wf db t = true → Ok db t (elimFalse t) :=
  Ok.bottomUp (fL := elimFalseL) rfl (fun _ _ => rfl) fun t h hk => by
    cases t with
    | filter i p =>
      show Ok db _ (if p == .ff then .union .nil else .filter (elimFalse i) p)
      rw [if_neg (fun hp => ne_ff_of_wf h (eq_of_beq hp))]
      exact hk
    | aggregate | flatMap | joinFlatMap => exact Ok.refl h
    | _ => exact hk

theorem elimFalseL_ok (db : Db) : ∀ ts, wfL db ts = true → OkL db ts (elimFalseL ts) :=
  OkL.ofOk rfl (fun _ _ => rfl) (elimFalse_ok db)

theorem Ok.map_map {db : Db} {i : Node} {ip proj : List Nat} {s' s : List String}
    (h : wf db (.map (.map i ip s') proj s) = true) :
    Ok db (.map (.map i ip s') proj s) (.map i (proj.map (fun o => ip.getD o 0)) s) := by
  simp only [wf, Bool.and_eq_true, beq_iff_eq, width, schema] at h
  obtain ⟨⟨⟨⟨hi, hip⟩, hs'⟩, hproj⟩, hs⟩ := h
  have hpr : ∀ o ∈ proj, o < ip.length := fun o ho => hs' ▸ allLt_iff.1 hproj o ho
  refine ⟨?_, rfl, ?_⟩
  · simp only [wf, Bool.and_eq_true, beq_iff_eq, List.length_map]
    refine ⟨⟨hi, allLt_iff.2 fun x hx => ?_⟩, hs⟩
    obtain ⟨o, ho, rfl⟩ := List.mem_map.1 hx
    rw [List.getD_eq_getElem?_getD, List.getElem?_eq_getElem (hpr o ho)]
    exact allLt_iff.1 hip _ (List.getElem_mem _)
  · simp only [eval, List.map_map]
    refine List.map_congr_left fun t ht => ?_
    exact (project_project (fun j hj => by rw [rowsOk db i hi t ht]; exact allLt_iff.1 hip j hj) hpr).symm

theorem fuseMaps_ok (db : Db) : ∀ t, wf db t = true → Ok db t (fuseMaps t) :=
  Ok.bottomUp (fL := fuseMapsL) rfl (fun _ _ => rfl) fun t h hk => by
    cases t with
    | map i proj s =>
      simp only [fuseMaps]
      split
      · next heq =>
        simp only [Node.mapKids, heq] at hk
        exact hk.trans (Ok.map_map hk.w)
      · exact hk
    | flatMap | joinFlatMap => exact Ok.refl h
    | _ => exact hk

theorem fuseMapsL_ok (db : Db) : ∀ ts, wfL db ts = true → OkL db ts (fuseMapsL ts) :=
  OkL.ofOk rfl (fun _ _ => rfl) (fuseMaps_ok db)

theorem Ok.filter_filter {db : Db} {i : Node} {p q : Pred} (h : wf db (.filter (.filter i p) q) = true) :
    Ok db (.filter (.filter i p) q) (.filter i (.and p q)) := by
  refine ⟨?_, rfl, ?_⟩
  · simp only [wf, Bool.and_eq_true] at h ⊢
    exact ⟨h.1.1, rfl⟩
  · simp [eval, List.filter_filter, Pred.eval, Pred.evalG, Bool.and_comm]

theorem fuseFilters_ok (db : Db) : ∀ t, wf db t = true → Ok db t (fuseFilters t) :=
  Ok.bottomUp (fL := fuseFiltersL) rfl (fun _ _ => rfl) fun t h hk => by
    cases t with
    | filter i p =>
      simp only [fuseFilters]
      split
      · next heq =>
        simp only [Node.mapKids, heq] at hk
        exact hk.trans (Ok.filter_filter hk.w)
      · exact hk
    | flatMap | joinFlatMap => exact Ok.refl h
    | _ => exact hk

theorem fuseFiltersL_ok (db : Db) : ∀ ts, wfL db ts = true → OkL db ts (fuseFiltersL ts) :=
  OkL.ofOk rfl (fun _ _ => rfl) (fuseFilters_ok db)

end ILV.IR
