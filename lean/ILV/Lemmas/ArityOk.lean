/-
  `ArityOk`: every stored tuple has the arity recorded for its relation. It holds in every reachable
  state (insert checks the arity, delete and maintenance never add tuples) and is what makes the arity
  filter of `delete_tuples_from` invisible: a tuple of another arity is not stored anyway.
-/
import ILV.Lemmas.WritesLive
namespace ILV.Store
open ILV ILV.Batch ILV.Props.C31

def ArityOk (e : Engine) : Prop := ∀ r, ∀ t ∈ liveOf e r, aget e.arity r = some t.length

theorem ArityOk_of_eq {e e' : Engine} (h : ArityOk e) (hl : e'.live = e.live) (ha : e'.arity = e.arity) : ArityOk e' := by
  intro r t ht
  rw [liveOf, hl] at ht
  rw [ha]; exact h r t ht

theorem insertCore_arityOk (c : Codec) (e : Engine) (rel : String) (ts : List Tuple) (h : ArityOk e) :
    ArityOk (insertCore c e rel ts).1 := by
  refine insertCore_cases c e rel ts (motive := fun x => ArityOk x.1) (fun _ => h) (fun _ _ => h)
    (fun e2 k _ hp => ArityOk_of_eq h (persist_live hp) (persist_arity hp)) (fun e2 hacc _ r t ht => ?_)
  -- accepted: every requested tuple has the length of the first, which is the recorded arity if there is one
  simp only [insAcc, Bool.and_eq_true, Bool.not_eq_true', List.all_eq_true, beq_iff_eq] at hacc
  rw [liveOf_insLive] at ht
  show aget (aset e.arity rel (firstLen ts)) r = _
  rw [aget_aset]
  split at ht
  · next hr =>
    rw [if_pos hr]
    rcases (mem_insertLoop _ _ _ _ t).1 ht with h1 | h1
    · have h2 := h rel t h1
      have h3 := hacc.2
      rw [arityMismatch, h2] at h3
      rw [(bne_eq_false_iff_eq.1 h3)]
    · rw [hacc.1.2 t h1]
  · next hr => rw [if_neg hr]; exact h r t ht

theorem deleteCoreRaw_arityOk (c : Codec) (e : Engine) (rel : String) (ts : List Tuple) (h : ArityOk e) :
    ArityOk (deleteCoreRaw c e rel ts).1 := by
  refine deleteCoreRaw_cases c e rel ts (motive := fun x => ArityOk x.1) (fun _ => h)
    (fun e2 k hp => ArityOk_of_eq h (persist_live hp) (persist_arity hp)) (fun e2 _ r t ht => ?_)
  -- the relation shrinks, and where the arity entry is rewritten it is rewritten to itself
  rw [liveOf_delLive] at ht
  have ht' : t ∈ liveOf e r := by
    split at ht
    · next hr => exact hr ▸ ((mem_deleteLive _ _ _).1 ht).1
    · exact ht
  show aget (delArity e.live e.arity rel ts) r = _
  rw [← h r t ht']
  unfold delArity
  split
  · rfl
  · rfl
  · split
    · rw [aget_aset]
      split
      · next hr =>
        obtain ⟨x, hx⟩ : ∃ x, x ∈ liveOf e rel := ⟨t, hr ▸ ht'⟩
        rw [hr, h rel x hx]; rfl
      · rfl
    · rfl

theorem deleteCore_arityOk (c : Codec) (e : Engine) (rel : String) (ts : List Tuple) (h : ArityOk e) :
    ArityOk (deleteCore c e rel ts).1 := deleteCoreRaw_arityOk c e rel _ h

theorem deleteLive_deletable (e : Engine) (h : ArityOk e) (rel : String) (ts : List Tuple) :
    deleteLive (liveOf e rel) (deletable e.arity rel ts) = deleteLive (liveOf e rel) ts := by
  unfold deleteLive
  apply List.filter_congr
  intro t ht
  congr 1
  rw [Bool.eq_iff_iff, any_eq_iff_mem, any_eq_iff_mem, deletable, h rel t ht, List.mem_filter, beq_self_eq_true]
  exact and_iff_left rfl

theorem deletable_of_stored (e : Engine) (h : ArityOk e) (rel : String) (ts : List Tuple)
    (hpr : ∀ t ∈ ts, t ∈ liveOf e rel) : deletable e.arity rel ts = ts := by
  cases ts with
  | nil => rw [deletable]; split <;> rfl
  | cons first rest =>
    rw [deletable, h rel first (hpr first List.mem_cons_self)]
    refine List.filter_eq_self.2 (fun t ht => ?_)
    have := (h rel first (hpr first List.mem_cons_self)).symm.trans (h rel t (hpr t ht))
    rw [Option.some.inj this]; exact beq_self_eq_true _

/-- `delete_tuples_from`, live side (with the arity filter): on `Ok(n)` exactly the named stored tuples went away. -/
theorem deleteCore_ok {c : Codec} {e e' : Engine} {rel : String} {ts : List Tuple} {n : Nat} (ha : ArityOk e)
    (h : deleteCore c e rel ts = (e', .ok n)) :
    liveOf e' rel = deleteLive (liveOf e rel) ts ∧ n = (liveOf e rel).length - (liveOf e' rel).length ∧
    ∀ r, r ≠ rel → liveOf e' r = liveOf e r := by
  obtain ⟨a1, a2, a3⟩ := deleteCoreRaw_ok h
  exact ⟨by rw [a1, deleteLive_deletable e ha], a2, a3⟩

theorem deleteCore_err {c : Codec} {e e' : Engine} {rel : String} {ts : List Tuple} {k : String}
    (h : deleteCore c e rel ts = (e', .error k)) : e'.live = e.live :=
  deleteCoreRaw_err h

end ILV.Store
