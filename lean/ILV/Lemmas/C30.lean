/-
  Helper definitions and lemmas for C30 (ILV.Props.C30): the predicates its statements are written
  with, phase 2 = sequential reading, and "a syntax error is rejected without effect" pushed
  through `query_program_with_session`, `postProcess` and `execRest`.
-/
import ILV.Lemmas.Text
import ILV.Lemmas.Handler
namespace ILV.Props.C30
open ILV ILV.Text ILV.Handler ILV.Gen.C28

/-- some statement (logical line) of the program does not parse -/
def hasSyntaxError (P : Parser) (text : List Char) : Bool :=
  (logicalLines text).any fun l => (parseStatement P l).isNone

def isErr : Res → Bool
  | .err _ => true
  | _ => false

/-- the reply is an error, the stored state is the one before the request and no statement ran -/
def Rejects (w : World) (o : Out) : Prop := o.w = w ∧ isErr o.res = true ∧ o.trace = []

theorem query_reject_no_effect (P : Parser) (w : World) (kgArg : Option String) (text : List Char)
    (h : hasSyntaxError P text = true) :
    (queryProgram P w kgArg text).w = w ∧ isErr (queryProgram P w kgArg text).res = true ∧
    (queryProgram P w kgArg text).trace = [] := by
  unfold hasSyntaxError at h
  unfold queryProgram
  simp only [h, if_true]
  split <;> exact ⟨rfl, rfl, rfl⟩

/-- Phase 2 (accumulator `current_stmt`, re-parse of `(line ++ " ").trim()`) runs exactly the
    sequential reading `specRun` of the lines phase 1 validated. -/
theorem phase2_eq_specRun (P : Parser) :
    ∀ (lines : List (List Char)) (s : QState) (tr : List Event), (∀ l ∈ lines, Trimmed l) →
      phase2 P s tr [] lines = specRun P s tr lines := by
  intro lines
  induction lines with
  | nil => intro s tr _; simp [phase2, specRun]
  | cons l ls ih =>
    intro s tr hl
    have hT : Trimmed l := hl l (by simp)
    have hrest : ∀ x ∈ ls, Trimmed x := fun x hx => hl x (by simp [hx])
    have htrim : trim ([] ++ l ++ [' ']) = l := by simpa using trim_append_space l hT
    have hne : l.isEmpty = false := by
      rcases hT with ⟨⟨c, cs, rfl, _⟩, _⟩; rfl
    unfold phase2 specRun
    simp only [htrim, hne]
    cases hp : parseStatement P l with
    | none => simpa using ih _ _ hrest
    | some st =>
      cases ha : applyStmt s l st with
      | cont s' => simpa [ha] using ih s' _ hrest
      | abort s' e => simp [ha]

theorem singleLine_parse_none {P : Parser} {text l : List Char}
    (h : hasSyntaxError P text = true) (hl : logicalLines text = [l]) : parseStatement P l = none := by
  unfold hasSyntaxError at h
  rw [hl] at h
  simpa using h

theorem singleStmt_none {P : Parser} {text : List Char} (h : hasSyntaxError P text = true) :
    singleStmt P text = none := by
  unfold singleStmt
  split
  · rename_i l hl; exact singleLine_parse_none h hl
  · rfl

theorem queryWithSession_rejects {P : Parser} {text : List Char} (h : hasSyntaxError P text = true)
    (w : World) (u : String) : Rejects w (queryWithSession P w u text) :=
  queryWithSession_exits P w u text (fun _ => query_reject_no_effect P w none text h)
    (fun se _ _ => query_reject_no_effect P w (some se.kg) text h) (fun _ => ⟨rfl, rfl, rfl⟩)
    (fun _ _ _ _ _ _ hl hp => nomatch (singleLine_parse_none h hl).symm.trans hp)

theorem postProcess_rejects {w₀ : World} {r : Out} (h : Rejects w₀ r) (w : World) (role : Option (String × Role))
    (whole : Option Stmt) (sraw : Option Sess) : Rejects w₀ (postProcess w role whole sraw r) := by
  rcases r with ⟨rw, res, tr⟩
  cases res with
  | err e => exact h
  | msgs m sw => exact nomatch h.2.1
  | rows rs => exact nomatch h.2.1

theorem sessionIntercept_some (w : World) (sraw : Option Sess) (whole : Option Stmt) (curKg : Option String) (o : Out)
    (h : sessionIntercept w sraw whole curKg = some o) :
    sraw.isSome = true ∧ ∃ st, whole = some st ∧ (st.kind = .sessionRule ∨ st.kind = .fact) := by
  unfold sessionIntercept at h
  split at h
  · exact ⟨rfl, _, rfl, .inl rfl⟩
  · exact ⟨rfl, _, rfl, .inr rfl⟩
  · exact ⟨rfl, _, rfl, .inr rfl⟩
  · exact ⟨rfl, _, rfl, .inl rfl⟩
  · exact ⟨rfl, _, rfl, .inr rfl⟩
  · cases h

theorem queryPath_rejects {P : Parser} {rq : Req} (h : hasSyntaxError P rq.text = true) (w : World)
    (role : Option (String × Role)) (whole : Option Stmt) (sraw : Option Sess) :
    Rejects w (queryPath P w rq role whole sraw) := by
  unfold queryPath
  split
  · exact ⟨rfl, rfl, rfl⟩
  · refine postProcess_rejects ?_ w role whole sraw
    split
    · exact queryWithSession_rejects h w _
    · exact query_reject_no_effect P w _ rq.text h

theorem execRest_rejects {P : Parser} {rq : Req} (h : hasSyntaxError P rq.text = true) (w : World)
    (role : Option (String × Role)) (sraw : Option Sess) (curKg : Option String) :
    Rejects w (execRest P w rq role none sraw curKg) := by
  unfold execRest
  have : sessionIntercept w sraw none curKg = none := by
    unfold sessionIntercept; cases sraw <;> rfl
  rw [this]
  exact queryPath_rejects h w role none sraw

end ILV.Props.C30
