/-
  Lemmas about the HNSW wrapper model (ILV.Model.Hnsw): what `rebuild_hnsw` establishes, which
  identifiers a search can return and how many, and the refinement of the wrapper state to an
  abstract map identifier ⇀ vector.
-/
import ILV.Model.Hnsw
import Mathlib.Data.List.Perm.Basic
namespace ILV.Hnsw
open List

variable {F : FloatOps}

theorem insertBy_perm {α β} (lt : β → β → Bool) (key : α → β) (x : α) (l : List α) :
    insertBy lt key x l ~ x :: l := by
  induction l with
  | nil => exact Perm.refl _
  | cons y ys ih =>
    simp only [insertBy]
    split
    · exact (Perm.cons y ih).trans (Perm.swap x y ys)
    · exact Perm.refl _

theorem sortBy_perm {α β} (lt : β → β → Bool) (key : α → β) (l : List α) : sortBy lt key l ~ l := by
  induction l with
  | nil => exact Perm.refl _
  | cons x xs ih => exact (insertBy_perm lt key x _).trans (Perm.cons x ih)

theorem length_filterMap_all_some {α β} (f : α → Option β) : ∀ (l : List α), (∀ x ∈ l, (f x).isSome = true) →
    (l.filterMap f).length = l.length :=
  fun _ h => length_filterMap_eq_countP.trans (countP_eq_length.2 h)

theorem nodup_of_nodupNat (l : List Nat) (h : nodupNat l = true) : l.Nodup := by
  induction l with
  | nil => exact nodup_nil
  | cons x xs ih =>
    rw [nodupNat, Bool.and_eq_true, Bool.not_eq_true'] at h
    exact nodup_cons.2 ⟨fun hx => (by rw [contains_iff_mem.2 hx] at h; cases h.1), ih h.2⟩

theorem nodup_map_filter {α β} (f : α → β) (p : α → Bool) {l : List α} (h : (l.map f).Nodup) :
    ((l.filter p).map f).Nodup :=
  h.sublist (filter_sublist.map f)

theorem range_filterMap_getElem? {α} (g : List α) : (range g.length).filterMap (g[·]?) = g := by
  induction g with
  | nil => rfl
  | cons x xs ih =>
    rw [length_cons, range_succ_eq_map, filterMap_cons_some (getElem?_cons_zero), filterMap_map]
    exact congrArg (x :: ·) ih

theorem filterMap_getElem?_subperm {α} (g : List α) {idxs : List Nat} (hnd : idxs.Nodup)
    (hlt : ∀ i ∈ idxs, i < g.length) : idxs.filterMap (g[·]?) <+~ g := by
  obtain ⟨l, hp, hs⟩ := subperm_of_subset hnd (fun i hi => mem_range.2 (hlt i hi))
  exact ⟨l.filterMap (g[·]?), hp.filterMap _, by simpa only [range_filterMap_getElem?] using hs.filterMap (g[·]?)⟩

/-- Fetching `K ≥ k + #dead` of the entries (or all of them, if there are fewer) yields `k` live ones
    or all live ones: the reason `search` widens its request by the number of tombstones. -/
theorem min_countP_of_subperm {α} (p : α → Bool) {E g : List α} (h : E <+~ g) {k K : Nat}
    (hlen : E.length = min K g.length) (hK : k + g.countP (fun e => !p e) ≤ K) :
    min k (E.countP p) = min k (g.countP p) := by
  have h1 := h.countP_le p
  have h2 := Nat.add_le_add_left (h.countP_le (fun e => !p e)) (E.countP p)
  have h3 : ∀ l : List α, l.length = l.countP p + l.countP (fun e => !p e) := fun l => by
    simpa only [Bool.decide_eq_true, Bool.not_eq_true, Bool.decide_eq_false] using length_eq_countP_add_countP p (l := l)
  rw [h3 E, h3 g] at hlen
  rw [hlen] at h2
  rcases Nat.le_total K (g.countP p + g.countP (fun e => !p e)) with hKg | hKg
  · rw [Nat.min_eq_left hKg] at h2
    have : k ≤ E.countP p := Nat.le_of_add_le_add_right (Nat.le_trans hK h2)
    rw [Nat.min_eq_left this, Nat.min_eq_left (Nat.le_trans this h1)]
  · rw [Nat.min_eq_right hKg] at h2
    rw [Nat.le_antisymm h1 (Nat.le_of_add_le_add_right h2)]

theorem upsert_nil (id : Nat) (v : List F.F32) : upsert [] id v = [(id, v)] := rfl

theorem upsert_cons (p : Nat × List F.F32) (r : List (Nat × List F.F32)) (id : Nat) (v : List F.F32) :
    upsert (p :: r) id v = if p.1 == id then (id, v) :: r else p :: upsert r id v := by
  unfold upsert
  rw [any_cons, replaceFirst]
  cases p.1 == id
  · cases r.any (fun p => p.1 == id) <;> rfl
  · rfl

theorem find_upsert (vs : List (Nat × List F.F32)) (id i : Nat) (v : List F.F32) :
    (upsert vs id v).find? (fun p => p.1 == i) = if i = id then some (id, v) else vs.find? (fun p => p.1 == i) := by
  induction vs with
  | nil =>
    rw [upsert_nil, find?_singleton, find?_nil]
    by_cases h : i = id
    · rw [if_pos h, h]; simp only [beq_self_eq_true, ↓reduceIte]
    · rw [if_neg h, if_neg]; simpa using fun e => h e.symm
  | cons p r ih =>
    rw [upsert_cons]
    by_cases hi : i = id
    · subst hi
      rw [if_pos rfl]
      cases hp : p.1 == i
      · simp only [Bool.false_eq_true, ↓reduceIte, find?_cons, hp, ih]
      · simp only [↓reduceIte, find?_cons, beq_self_eq_true]
    · have hid : (id == i) = false := beq_false_of_ne fun e => hi e.symm
      rw [if_neg hi]
      cases hp : p.1 == id
      · simp only [Bool.false_eq_true, ↓reduceIte, find?_cons, ih, hi]
      · simp only [↓reduceIte, find?_cons, hid, beq_iff_eq.1 hp]

theorem mem_upsert {vs : List (Nat × List F.F32)} {id : Nat} {v : List F.F32} {p : Nat × List F.F32}
    (hp : p ∈ upsert vs id v) : p ∈ vs ∨ p = (id, v) := by
  induction vs with
  | nil => exact Or.inr (mem_singleton.1 hp)
  | cons q r ih =>
    rw [upsert_cons] at hp
    split at hp
    · exact (mem_cons.1 hp).symm.imp_left (mem_cons_of_mem q)
    · rcases mem_cons.1 hp with rfl | h
      · exact Or.inl mem_cons_self
      · exact (ih h).imp_left (mem_cons_of_mem q)

theorem nodup_upsert {vs : List (Nat × List F.F32)} (id : Nat) (v : List F.F32) (h : (vs.map (·.1)).Nodup) :
    ((upsert vs id v).map (·.1)).Nodup := by
  induction vs with
  | nil => exact pairwise_singleton _ _
  | cons q r ih =>
    rw [map_cons, nodup_cons] at h
    rw [upsert_cons]
    split
    · rename_i hq
      rw [map_cons, ← beq_iff_eq.1 hq]
      exact nodup_cons.2 h
    · rename_i hq
      rw [map_cons, nodup_cons]
      refine ⟨fun hm => ?_, ih h.2⟩
      obtain ⟨e, he, hid⟩ := mem_map.1 hm
      rcases mem_upsert he with he | rfl
      · exact h.1 (hid ▸ mem_map_of_mem he)
      · exact hq (beq_iff_eq.2 hid.symm)

theorem parseMetric_metricName (m : Metric) : parseMetric (metricName m) = some m := by
  cases m <;> decide +kernel

theorem prepare_length (m : Metric) (v : List F.F32) : (prepare F m v).length = v.length := by
  unfold prepare normalizeVec
  split
  · dsimp only; split
    · exact length_map _
    · rfl
  · rfl

/-- `rebuild_hnsw` touches the graph and the dimension only: the graph becomes the active entries. -/
theorem rebuildHnsw_cases (s : Index F) :
    (active s = [] ∧ rebuildHnsw s = { s with inner := none }) ∨
    ∃ e ∈ active s, rebuildHnsw s = { s with inner := some (active s), dim := e.2.length } := by
  unfold rebuildHnsw
  split
  · exact Or.inl ⟨‹_›, rfl⟩
  · rename_i id0 v0 rest h
    exact Or.inr ⟨(id0, v0), h ▸ mem_cons_self, by rw [h]⟩

theorem liveOf_rebuildHnsw (s : Index F) (i : Nat) : liveOf (rebuildHnsw s) i = liveOf s i := by
  rcases rebuildHnsw_cases s with ⟨_, h⟩ | ⟨_, _, h⟩ <;> rw [h] <;> rfl

theorem rebuildHnsw_stored (s : Index F) :
    (rebuildHnsw s).vectors = s.vectors ∧ (rebuildHnsw s).tombs = s.tombs ∧ (rebuildHnsw s).cfg = s.cfg := by
  rcases rebuildHnsw_cases s with ⟨_, h⟩ | ⟨_, _, h⟩ <;> rw [h] <;> exact ⟨rfl, rfl, rfl⟩

/-- `store_vector` revives the identifier. -/
theorem isTomb_storeVec (s : Index F) (id : Nat) (v : List F.F32) (i : Nat) :
    isTomb (storeVec s id v) i = (isTomb s i && (i != id)) := by
  unfold isTomb storeVec
  rw [Bool.eq_iff_iff]
  simp only [contains_iff_mem, mem_filter, Bool.and_eq_true, bne_iff_ne, ne_eq]

/-- `load (save s)` is `rebuild_hnsw` of the same stored state. -/
theorem load_save (s : Index F) : load (save s) = some (rebuildHnsw { s with inner := none }) := by
  unfold load save
  simp only [parseMetric_metricName]

theorem insert_eq_insertBatch (s : Index F) (id : Nat) (v : List F.F32) :
    insert s id v = insertBatch s [(id, v)] := by
  unfold insert insertBatch validateAll
  cases validate s.cfg.metric v s.dim <;> rfl

theorem applyOp_insert (s : Index F) (id : Nat) (v : List F.F32) :
    applyOp s (.insert id v) = applyOp s (.insertBatch [(id, v)]) :=
  congrArg Prod.fst (insert_eq_insertBatch s id v)

theorem isTomb_tombstone (s : Index F) (id i : Nat) : isTomb (tombstone s id) i = (isTomb s i || (i == id)) := by
  unfold isTomb tombstone
  dsimp only
  split
  · rename_i hc
    cases hi : i == id
    · rw [Bool.or_false]
    · rw [beq_iff_eq.1 hi, hc]; rfl
  · rw [Bool.eq_iff_iff]
    simp only [contains_iff_mem, mem_append, mem_singleton, Bool.or_eq_true, beq_iff_eq]

theorem filter_tombstone (s : Index F) (id : Nat) (l : List (Nat × List F.F32)) :
    l.filter (fun e => !isTomb (tombstone s id) e.1) = (l.filter (fun e => !isTomb s e.1)).filter (fun e => e.1 != id) := by
  rw [filter_filter]
  refine filter_congr fun e _ => ?_
  rw [isTomb_tombstone, Bool.not_or, Bool.and_comm]
  rfl

theorem active_tombstone (s : Index F) (id : Nat) : active (tombstone s id) = (active s).filter (fun e => e.1 != id) :=
  filter_tombstone s id s.vectors

/-- the graph minus the currently tombstoned identifiers holds exactly the live entries. -/
def GraphOk (s : Index F) : Prop :=
  match s.inner with
  | none => active s = []
  | some g => g.filter (fun e => !isTomb s e.1) = active s

theorem GraphOk.active_nil {s : Index F} (h : GraphOk s) (hg : s.inner = none) : active s = [] := by
  unfold GraphOk at h
  rw [hg] at h
  exact h

theorem GraphOk.filter_eq {s : Index F} (h : GraphOk s) {g} (hg : s.inner = some g) :
    g.filter (fun e => !isTomb s e.1) = active s := by
  unfold GraphOk at h
  rw [hg] at h
  exact h

theorem GraphOk.mem_vectors {s : Index F} (h : GraphOk s) {g} (hg : s.inner = some g) {e} (he : e ∈ g)
    (ht : isTomb s e.1 = false) : e ∈ s.vectors :=
  (mem_filter.1 (h.filter_eq hg ▸ mem_filter.2 ⟨he, by rw [ht]; rfl⟩ : e ∈ active s)).1

theorem rebuildHnsw_graphOk (s : Index F) : GraphOk (rebuildHnsw s) := by
  rcases rebuildHnsw_cases s with ⟨ha, h⟩ | ⟨_, _, h⟩ <;> rw [h]
  · exact ha
  · exact filter_eq_self.2 fun e he => (mem_filter.1 he).2

theorem tombstone_graphOk (s : Index F) (id : Nat) (h : GraphOk s) : GraphOk (tombstone s id) := by
  unfold GraphOk
  rw [active_tombstone, show (tombstone s id).inner = s.inner from rfl]
  cases hi : s.inner with
  | none => dsimp only; rw [h.active_nil hi]; rfl
  | some g => exact (filter_tombstone s id g).trans (congrArg _ (h.filter_eq hi))

theorem insertBatch_graphOk (s : Index F) (es : List (Nat × List F.F32)) (h : GraphOk s) :
    GraphOk (insertBatch s es).1 := by
  unfold insertBatch
  split
  · exact h
  · exact rebuildHnsw_graphOk _

theorem rebuild_graphOk (s : Index F) (vs : List (Nat × List F.F32)) (h : GraphOk s) : GraphOk (rebuild s vs).1 := by
  unfold rebuild
  split
  · exact h
  · split
    · exact rfl
    · dsimp only
      exact rebuildHnsw_graphOk _

theorem graphOk_applyOp (s : Index F) (op : Op F) (h : GraphOk s) : GraphOk (applyOp s op) := by
  cases op with
  | insert id v => rw [applyOp_insert]; exact insertBatch_graphOk s _ h
  | insertBatch es => exact insertBatch_graphOk s es h
  | delete id =>
    show GraphOk (delete s id)
    unfold delete
    split
    · exact rebuild_graphOk _ _ (tombstone_graphOk s id h)
    · exact tombstone_graphOk s id h
  | rebuild vs => exact rebuild_graphOk s vs h
  | saveLoad =>
    show GraphOk ((load (save s)).getD s)
    rw [load_save]
    exact rebuildHnsw_graphOk _

theorem graphOk_run (ops : List (Op F)) (s : Index F) (h : GraphOk s) : GraphOk (runOps s ops) := by
  induction ops generalizing s with
  | nil => exact h
  | cons op rest ih => exact ih _ (graphOk_applyOp s op h)

def IdsNodup (s : Index F) : Prop :=
  (s.vectors.map (·.1)).Nodup ∧ ∀ g, s.inner = some g → (g.map (·.1)).Nodup

theorem idsNodup_rebuildHnsw (s : Index F) (h : (s.vectors.map (·.1)).Nodup) : IdsNodup (rebuildHnsw s) := by
  rcases rebuildHnsw_cases s with ⟨_, e⟩ | ⟨_, _, e⟩ <;> rw [e] <;> refine ⟨h, fun g hg => ?_⟩
  · cases hg
  · cases hg; exact nodup_map_filter _ _ h

theorem nodup_storeAll (es : List (Nat × List F.F32)) (s : Index F) (h : (s.vectors.map (·.1)).Nodup) :
    ((storeAll s es).vectors.map (·.1)).Nodup := by
  induction es generalizing s with
  | nil => exact h
  | cons e rest ih => exact ih (storeVec s e.1 e.2) (nodup_upsert _ _ h)

theorem idsNodup_insertBatch (s : Index F) (es : List (Nat × List F.F32)) (h : IdsNodup s) :
    IdsNodup (insertBatch s es).1 := by
  unfold insertBatch
  split
  · exact h
  · exact idsNodup_rebuildHnsw _ (nodup_storeAll es _ h.1)

theorem idsNodup_rebuild (s : Index F) (vs : List (Nat × List F.F32)) (h : IdsNodup s) (hvs : (vs.map (·.1)).Nodup) :
    IdsNodup (rebuild s vs).1 := by
  unfold rebuild
  split
  · exact h
  · split
    · exact ⟨nodup_nil, fun g hg => by cases hg⟩
    · refine idsNodup_rebuildHnsw _ ?_
      rw [show ∀ l : List (Nat × List F.F32), (l.map (fun p => (p.1, prepare F s.cfg.metric p.2))).map (·.1) = l.map (·.1)
        from fun l => map_map]
      exact hvs

/-- `rebuild` is only ever given distinct identifiers (its contract: "the current valid pairs"). -/
def DistinctRebuilds : List (Op F) → Prop
  | [] => True
  | .rebuild vs :: rest => (vs.map (·.1)).Nodup ∧ DistinctRebuilds rest
  | _ :: rest => DistinctRebuilds rest

theorem DistinctRebuilds_cons (op : Op F) (rest : List (Op F)) :
    DistinctRebuilds (op :: rest) ↔ (∀ vs, op = .rebuild vs → (vs.map (·.1)).Nodup) ∧ DistinctRebuilds rest := by
  cases op
  case rebuild vs => exact and_congr_left' ⟨fun h _ e => Op.rebuild.inj e ▸ h, fun h => h vs rfl⟩
  all_goals exact ⟨fun h => ⟨fun _ e => (nomatch e), h⟩, fun h => h.2⟩

theorem idsNodup_applyOp (s : Index F) (op : Op F) (h : IdsNodup s) (hop : ∀ vs, op = .rebuild vs → (vs.map (·.1)).Nodup) :
    IdsNodup (applyOp s op) := by
  cases op with
  | insert id v => rw [applyOp_insert]; exact idsNodup_insertBatch s _ h
  | insertBatch es => exact idsNodup_insertBatch s es h
  | delete id =>
    have ht : IdsNodup (tombstone s id) := h
    show IdsNodup (delete s id)
    unfold delete
    split
    · exact idsNodup_rebuild _ _ ht (nodup_map_filter _ _ ht.1)
    · exact ht
  | rebuild vs => exact idsNodup_rebuild s vs h (hop vs rfl)
  | saveLoad =>
    show IdsNodup ((load (save s)).getD s)
    rw [load_save]
    exact idsNodup_rebuildHnsw _ h.1

theorem idsNodup_run (ops : List (Op F)) (s : Index F) (h : IdsNodup s) (hd : DistinctRebuilds ops) :
    IdsNodup (runOps s ops) := by
  induction ops generalizing s with
  | nil => exact h
  | cons op rest ih =>
    have hd' := (DistinctRebuilds_cons op rest).1 hd
    exact ih _ (idsNodup_applyOp s op h hd'.1) hd'.2

theorem deadBounded_of_idsNodup (s : Index F) (h : IdsNodup s) :
    ∀ g, s.inner = some g → (g.filter (fun e => isTomb s e.1)).length ≤ s.tombs.length := by
  intro g hg
  rw [← length_map (f := (·.1))]
  refine (nodup_map_filter _ _ (h.2 g hg)).length_le_of_subset fun i hi => ?_
  obtain ⟨e, he, rfl⟩ := mem_map.1 hi
  exact contains_iff_mem.1 (mem_filter.1 he).2

section
variable (ann : List (List F.F32) → List F.F32 → Nat → Nat → List (Nat × F.F32))

theorem search_none {s : Index F} (hg : s.inner = none) (q : List F.F32) (k : Nat) (ef : Option Nat) :
    search ann s q k ef = [] := by
  unfold search
  rw [hg]

/-- `search` sorts and cuts what it keeps of the raw answers. A kept answer points at a graph entry
    that is not tombstoned; when such entries are stored (so under the graph invariant) each of them
    is kept (for Manhattan the stored vector is looked up, and found). -/
theorem search_spec {s : Index F} {g} (hg : s.inner = some g) (q : List F.F32) (k : Nat) (ef : Option Nat) :
    ∃ f : Nat × F.F32 → Option (Nat × F.F64),
      search ann s q k ef = (sortBy F.lt64 (·.2)
        ((ann (g.map (·.2)) (prepare F s.cfg.metric q) (searchK s k) (searchEf s ef)).filterMap f)).take k ∧
      (∀ r p, f r = some p → ∃ e ∈ g, e.1 = p.1 ∧ isTomb s e.1 = false) ∧
      ((∀ e ∈ g, isTomb s e.1 = false → e ∈ s.vectors) →
        ∀ r, (f r).isSome = ((g[r.1]?).map (fun e => !isTomb s e.1)).getD false) := by
  unfold search searchRaw
  rw [hg]
  by_cases hm : (s.cfg.metric == .manhattan) = true
  · refine ⟨_, congrArg (fun l : List (Nat × F.F64) => (sortBy F.lt64 (·.2) l).take k) (if_pos hm), fun r p h => ?_, fun hv r => ?_⟩
    · split at h
      · cases h
      · rename_i id sv hs
        split at h
        · cases h
        · split at h
          · cases h; exact ⟨_, mem_of_getElem? hs, rfl, eq_false_of_ne_true ‹_›⟩
          · cases h
    · cases hs : g[r.1]? with
      | none => rfl
      | some e =>
        obtain ⟨id, sv⟩ := e
        dsimp only [Option.map_some, Option.getD_some]
        cases ht : isTomb s id with
        | true => rfl
        | false =>
          have hf : (s.vectors.find? (fun p => p.1 == id)).isSome = true :=
            find?_isSome.2 ⟨(id, sv), hv _ (mem_of_getElem? hs) ht, beq_self_eq_true id⟩
          obtain ⟨x, hx⟩ := Option.isSome_iff_exists.1 hf
          rw [hx]
          rfl
  · refine ⟨_, congrArg (fun l : List (Nat × F.F64) => (sortBy F.lt64 (·.2) l).take k) (if_neg hm), fun r p h => ?_, fun _ r => ?_⟩
    · split at h
      · cases h
      · rename_i id sv hs
        split at h
        · cases h
        · cases h; exact ⟨_, mem_of_getElem? hs, rfl, eq_false_of_ne_true ‹_›⟩
    · cases hs : g[r.1]? with
      | none => rfl
      | some e =>
        obtain ⟨id, sv⟩ := e
        dsimp only [Option.map_some, Option.getD_some]
        cases isTomb s id <;> rfl

variable (s : Index F) (q : List F.F32) (k : Nat) (ef : Option Nat)

theorem search_length_le :
    (search ann s q k ef).length ≤ k := by
  cases hg : s.inner with
  | none => rw [search_none ann hg]; exact Nat.zero_le k
  | some g => obtain ⟨f, e, _⟩ := search_spec ann hg q k ef; rw [e]; exact length_take_le _ _

theorem search_ids :
    ∀ p ∈ search ann s q k ef, ∃ g e, s.inner = some g ∧ e ∈ g ∧ e.1 = p.1 ∧ isTomb s e.1 = false := by
  intro p hp
  cases hg : s.inner with
  | none => rw [search_none ann hg] at hp; cases hp
  | some g =>
    obtain ⟨f, e, hf, _⟩ := search_spec ann hg q k ef
    rw [e] at hp
    obtain ⟨r, _, hr⟩ := mem_filterMap.1 ((sortBy_perm _ _ _).subset (mem_of_mem_take hp))
    obtain ⟨e, he, h⟩ := hf r p hr
    exact ⟨g, e, rfl, he, h⟩

theorem search_ids_live (hG : GraphOk s) :
    ∀ p ∈ search ann s q k ef, (liveOf s p.1).isSome = true := by
  intro p hp
  obtain ⟨g, e, hg, heg, hid, hnt⟩ := search_ids ann s q k ef p hp
  unfold liveOf
  rw [← hid, hnt, if_neg Bool.false_ne_true, Option.isSome_map]
  exact find?_isSome.2 ⟨e, hG.mem_vectors hg heg hnt, beq_self_eq_true _⟩

/-- what the contract of an `ann` call gives the wrapper: distinct valid positions, and all of
    `min knbn n` of them when the stored points fit in the search breadth. -/
theorem annOk_valid {stored : List (List F.F32)} {q : List F.F32} {knbn ef : Nat} {r : List (Nat × F.F32)}
    (h : annOk stored q knbn ef r = true) :
    (r.map (·.1)).Nodup ∧ (∀ i ∈ r.map (·.1), i < stored.length) ∧
      (stored.length ≤ ef → r.length = min knbn stored.length) := by
  unfold annOk at h
  simp only [Bool.and_eq_true] at h
  obtain ⟨⟨⟨⟨hnd, hvalid⟩, _⟩, _⟩, hcompl⟩ := h
  refine ⟨nodup_of_nodupNat _ hnd, fun i hi => ?_, fun hfit => ?_⟩
  · obtain ⟨p, hp, rfl⟩ := mem_map.1 hi
    have := all_eq_true.1 hvalid p hp
    cases hs : stored[p.1]? with
    | none => rw [hs] at this; cases this
    | some v => exact (List.getElem?_eq_some_iff.1 hs).1
  · rw [Bool.or_eq_true, Bool.and_eq_true, decide_eq_true hfit] at hcompl
    exact beq_iff_eq.1 (hcompl.resolve_left (by decide)).1

theorem search_length_complete (hG : GraphOk s)
    (hc : ∀ g, s.inner = some g →
      annOk (g.map (·.2)) (prepare F s.cfg.metric q) (searchK s k) (searchEf s ef)
        (ann (g.map (·.2)) (prepare F s.cfg.metric q) (searchK s k) (searchEf s ef)) = true)
    (hdead : ∀ g, s.inner = some g → (g.filter (fun e => isTomb s e.1)).length ≤ s.tombs.length)
    (hn : ∀ g, s.inner = some g → g.length ≤ searchEf s ef) :
    (search ann s q k ef).length = min k (active s).length := by
  cases hg : s.inner with
  | none =>
    rw [search_none ann hg, hG.active_nil hg]
    exact (Nat.min_zero k).symm
  | some g =>
    have hact := hG.filter_eq hg
    obtain ⟨hnd, hlt, hlen⟩ := annOk_valid (hc g hg)
    rw [length_map] at hlt hlen
    obtain ⟨f, e, _, hf⟩ := search_spec ann hg q k ef
    rw [e]
    generalize ann (g.map (·.2)) (prepare F s.cfg.metric q) (searchK s k) (searchEf s ef) = raw at *
    -- the graph entries the raw answers point at: a sub-multiset of the graph, one per answer
    have hE := filterMap_getElem?_subperm g hnd hlt
    have hEl : ((raw.map (·.1)).filterMap (g[·]?)).length = min (searchK s k) g.length := by
      rw [length_filterMap_all_some _ _ fun i hi => by rw [getElem?_eq_getElem (hlt i hi)]; rfl, length_map]
      exact hlen (hn g hg)
    -- `min_countP_of_subperm` at `p e := !isTomb s e.1`, whose complement is `!!isTomb s e.1`
    have hK : k + g.countP (fun e => !!isTomb s e.1) ≤ searchK s k := by
      simp only [Bool.not_not, countP_eq_length_filter]
      refine Nat.add_le_add ?_ (hdead g hg)
      split
      · exact Nat.le_mul_of_pos_right k (by decide)
      · exact Nat.le_refl k
    rw [length_take, (sortBy_perm _ _ _).length_eq, length_filterMap_eq_countP,
      ← hact, ← countP_eq_length_filter, ← min_countP_of_subperm _ hE hEl hK, countP_filterMap, countP_map]
    refine congrArg (min k) (countP_congr fun r _ => ?_)
    rw [hf fun e => hG.mem_vectors hg]
    rfl

end

/-- abstract index: identifier ⇀ stored (prepared) vector. -/
abbrev AMap (F : FloatOps) := Nat → Option (List F.F32)

def specUpsert (m : Metric) (a : AMap F) (id : Nat) (v : List F.F32) : AMap F :=
  fun i => if i = id then some (prepare F m v) else a i

/-- the Spec of C25: upsert / remove / replace; save-load is the identity. -/
def specStep (m : Metric) (a : AMap F) : Op F → AMap F
  | .insert id v => specUpsert m a id v
  | .insertBatch es => es.foldl (fun a e => specUpsert m a e.1 e.2) a
  | .delete id => fun i => if i = id then none else a i
  | .rebuild vs => fun i => (vs.find? (fun e => e.1 == i)).map (fun e => prepare F m e.2)
  | .saveLoad => a

def specRun (m : Metric) (ops : List (Op F)) : AMap F := ops.foldl (specStep m) (fun _ => none)

/-- accepted input: the vector has the index's dimension and (cosine/dot) a usable norm. -/
def WFVec (m : Metric) (d : Nat) (v : List F.F32) : Prop :=
  v.length = d ∧ (needsNorm m = true → normTooSmall v = false)

def WFOp (m : Metric) (d : Nat) : Op F → Prop
  | .insert _ v => WFVec m d v
  | .insertBatch es => ∀ e ∈ es, WFVec m d e.2
  | .delete _ => True
  | .rebuild vs => ∀ e ∈ vs, WFVec m d e.2
  | .saveLoad => True

/-- `prepare` is idempotent (trivially for l2/l1; for cosine/dot: re-normalising a normalised vector
    leaves it unchanged — a float hypothesis, the Spec oracle allows 4 ulp instead). -/
def PrepIdem (F : FloatOps) (m : Metric) : Prop := ∀ v : List F.F32, prepare F m (prepare F m v) = prepare F m v

/-- the simulation relation between wrapper state and abstract map. -/
structure Rel (m : Metric) (d : Nat) (s : Index F) (a : AMap F) : Prop where
  live : ∀ i, liveOf s i = a i
  dim : s.dim = 0 ∨ s.dim = d
  stored : ∀ p ∈ s.vectors, p.2.length = d ∧ prepare F m p.2 = p.2
  metric : s.cfg.metric = m

/-- `store_vector` is an upsert of the prepared vector on the live content — also when the
    identifier was tombstoned. -/
theorem liveOf_storeVec (s : Index F) (id : Nat) (v : List F.F32) (i : Nat) :
    liveOf (storeVec s id v) i = if i = id then some (prepare F s.cfg.metric v) else liveOf s i := by
  unfold liveOf
  rw [isTomb_storeVec, show (storeVec s id v).vectors = upsert s.vectors id (prepare F s.cfg.metric v) from rfl, find_upsert]
  by_cases hi : i = id
  · rw [if_pos hi, if_pos hi, hi, bne_self_eq_false, Bool.and_false]; rfl
  · rw [if_neg hi, if_neg hi, bne_iff_ne.2 hi, Bool.and_true]

variable {m : Metric} {d : Nat} {s : Index F} {a : AMap F}

theorem Rel.congr {a' : AMap F} (h : Rel m d s a) (e : ∀ i, a i = a' i) : Rel m d s a' :=
  ⟨fun i => (h.live i).trans (e i), h.dim, h.stored, h.metric⟩

theorem rel_rebuildHnsw (h : Rel m d s a) : Rel m d (rebuildHnsw s) a := by
  rcases rebuildHnsw_cases s with ⟨_, e⟩ | ⟨p, hp, e⟩ <;> rw [e]
  · exact ⟨h.live, h.dim, h.stored, h.metric⟩
  · exact ⟨h.live, Or.inr (h.stored p (mem_filter.1 hp).1).1, h.stored, h.metric⟩

theorem rel_storeVec (hI : PrepIdem F m) (h : Rel m d s a)
    (id : Nat) (v : List F.F32) (hv : v.length = d) : Rel m d (storeVec s id v) (specUpsert m a id v) := by
  refine ⟨fun i => ?_, h.dim, fun p hp => ?_, h.metric⟩
  · rw [liveOf_storeVec, h.metric, h.live i]; rfl
  · rcases mem_upsert hp with h1 | rfl
    · exact h.stored p h1
    · rw [h.metric]
      exact ⟨(prepare_length m v).trans hv, hI v⟩

theorem rel_storeAll (hI : PrepIdem F m) (es : List (Nat × List F.F32))
    (h : Rel m d s a) (hw : ∀ e ∈ es, e.2.length = d) :
    Rel m d (storeAll s es) (es.foldl (fun a e => specUpsert m a e.1 e.2) a) := by
  induction es generalizing s a with
  | nil => exact h
  | cons e rest ih =>
    exact ih (rel_storeVec hI h e.1 e.2 (hw e mem_cons_self)) fun x hx => hw x (mem_cons_of_mem e hx)

theorem validate_ok (hd : 0 < d) (v : List F.F32) (hv : WFVec (F := F) m d v) (dim : Nat) (hdim : dim = 0 ∨ dim = d) :
    validate m v dim = .ok d := by
  have hne : v.isEmpty = false := by
    cases v with
    | nil => exact absurd hv.1.symm (Nat.ne_of_gt hd)
    | cons x xs => rfl
  have hz : (needsNorm m && normTooSmall v) = false := by
    cases hn : needsNorm m with
    | false => rfl
    | true => rw [hv.2 hn]; rfl
  have hdm : (dim != 0 && dim != v.length) = false := by
    rcases hdim with h0 | hdd
    · rw [h0]; rfl
    · rw [hdd, hv.1, bne_self_eq_false, Bool.and_false]
  unfold validate
  rw [hne, hz, hdm, hv.1]
  rfl

theorem validateAll_ok (hd : 0 < d) (es : List (Nat × List F.F32)) (hw : ∀ e ∈ es, WFVec (F := F) m d e.2)
    (dim : Nat) (hdim : dim = 0 ∨ dim = d) : ∃ d', validateAll m es dim = .ok d' ∧ (d' = 0 ∨ d' = d) := by
  induction es generalizing dim with
  | nil => exact ⟨dim, rfl, hdim⟩
  | cons e rest ih =>
    unfold validateAll
    rw [validate_ok hd e.2 (hw e mem_cons_self) dim hdim]
    exact ih (fun e he => hw e (mem_cons_of_mem _ he)) d (Or.inr rfl)

theorem rel_insertBatch (hd : 0 < d) (hI : PrepIdem F m) (h : Rel m d s a)
    (es : List (Nat × List F.F32)) (hw : ∀ e ∈ es, WFVec m d e.2) :
    Rel m d (insertBatch s es).1 (es.foldl (fun a e => specUpsert m a e.1 e.2) a) := by
  obtain ⟨d', hok, hd'⟩ := validateAll_ok hd es hw s.dim h.dim
  unfold insertBatch
  rw [h.metric, hok]
  exact rel_rebuildHnsw (rel_storeAll hI es ⟨h.live, hd', h.stored, h.metric⟩ fun e he => (hw e he).1)

theorem rel_rebuild_ok {s : Index F} (hm : s.cfg.metric = m) (hI : PrepIdem F m)
    (vs : List (Nat × List F.F32)) (hw : ∀ e ∈ vs, e.2.length = d) (n : Nat)
    (hok : validateAll s.cfg.metric vs 0 = .ok n) :
    Rel m d (rebuild s vs).1 (fun i => (vs.find? (fun e => e.1 == i)).map (fun e => prepare F m e.2)) := by
  unfold rebuild
  rw [hok]
  dsimp only
  split
  · exact ⟨fun _ => rfl, Or.inl rfl, fun p hp => (by cases hp), hm⟩
  · rename_i id0 v0 rest
    dsimp only
    apply rel_rebuildHnsw
    refine ⟨fun i => ?_, Or.inr (hw (id0, v0) mem_cons_self), fun p hp => ?_, hm⟩
    · unfold liveOf isTomb
      rw [hm, find?_map, Option.map_map]
      rfl
    · obtain ⟨e, he, rfl⟩ := mem_map.1 hp
      rw [hm]
      exact ⟨(prepare_length m e.2).trans (hw e he), hI _⟩

theorem rel_tombstone (h : Rel m d s a) (id : Nat) :
    Rel m d (tombstone s id) (fun i => if i = id then none else a i) := by
  refine ⟨fun i => ?_, h.dim, h.stored, h.metric⟩
  rw [← h.live i]
  unfold liveOf
  rw [isTomb_tombstone]
  by_cases hi : i = id
  · rw [if_pos hi, beq_iff_eq.2 hi, Bool.or_true]; rfl
  · rw [if_neg hi, beq_false_of_ne hi, Bool.or_false]; rfl

theorem find_active (s : Index F) (i : Nat) :
    (active s).find? (fun p => p.1 == i) = if isTomb s i then none else s.vectors.find? (fun p => p.1 == i) := by
  unfold active
  rw [find?_filter]
  split
  · rename_i ht
    refine find?_eq_none.2 fun a _ h => ?_
    have h := of_decide_eq_true h
    rw [beq_iff_eq.1 h.2, ht] at h
    exact Bool.false_ne_true h.1
  · rename_i ht
    refine congrArg (find? · s.vectors) (funext fun a => ?_)
    cases hq : a.1 == i
    · exact decide_eq_false fun h => Bool.false_ne_true h.2
    · rw [beq_iff_eq.1 hq, eq_false_of_ne_true ht]
      rfl

theorem rel_delete (hI : PrepIdem F m) (h : Rel m d s a) (id : Nat) :
    Rel m d (delete s id) (fun i => if i = id then none else a i) := by
  have h1 := rel_tombstone h id
  unfold delete
  split
  · -- compaction is `rebuild` of the active entries, which are already prepared; the abstract map
    -- it produces is lookup among them, that is, the live content. A refused rebuild changes nothing.
    cases hval : validateAll (tombstone s id).cfg.metric (active (tombstone s id)) 0 with
    | error e => unfold rebuild; rw [hval]; exact h1
    | ok n =>
      refine (rel_rebuild_ok h1.metric hI (active (tombstone s id)) (fun e he => (h1.stored e (mem_filter.1 he).1).1) n hval).congr fun i => ?_
      rw [← h1.live i, find_active]
      unfold liveOf
      split
      · rfl
      · cases hf : (tombstone s id).vectors.find? (fun p => p.1 == i) with
        | none => rfl
        | some e => exact congrArg some (h1.stored e (mem_of_find?_eq_some hf)).2
  · exact h1

theorem rel_step (hd : 0 < d) (hI : PrepIdem F m) (h : Rel m d s a)
    (op : Op F) (hw : WFOp m d op) : Rel m d (applyOp s op) (specStep m a op) := by
  cases op with
  | insert id v =>
    rw [applyOp_insert]
    exact rel_insertBatch hd hI h _ fun e he => mem_singleton.1 he ▸ hw
  | insertBatch es => exact rel_insertBatch hd hI h es hw
  | delete id => exact rel_delete hI h id
  | rebuild vs =>
    obtain ⟨n, hok, _⟩ := validateAll_ok hd vs hw 0 (Or.inl rfl)
    exact rel_rebuild_ok h.metric hI vs (fun e he => (hw e he).1) n (h.metric ▸ hok)
  | saveLoad =>
    show Rel m d ((load (save s)).getD s) a
    rw [load_save]
    exact rel_rebuildHnsw ⟨h.live, h.dim, h.stored, h.metric⟩

theorem rel_run (hd : 0 < d) (hI : PrepIdem F m) (ops : List (Op F))
    (h : Rel m d s a) (hw : ∀ op ∈ ops, WFOp m d op) : Rel m d (runOps s ops) (ops.foldl (specStep m) a) := by
  induction ops generalizing s a with
  | nil => exact h
  | cons op rest ih =>
    exact ih (rel_step hd hI h op (hw op mem_cons_self)) fun o ho => hw o (mem_cons_of_mem op ho)

end ILV.Hnsw
