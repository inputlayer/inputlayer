/-
  Lemmas about the Datalog core (ILV.Model.Datalog): lists read as sets, membership in the list
  utilities, `optMapM`, and the union of rule results `evalRulesWith` (defined iff every rule
  evaluates; its members are the members of the single results).
-/
import ILV.Model.Engine
namespace ILV.DL

/-- list inclusion as sets. -/
def Sub {α} (a b : List α) : Prop := ∀ t, t ∈ a → t ∈ b

theorem Sub.refl {α} (a : List α) : Sub a a := fun _ h => h
theorem Sub.trans {α} {a b c : List α} (h : Sub a b) (g : Sub b c) : Sub a c := fun t ht => g t (h t ht)

/-- same members (lists as sets). -/
def MemEq {α} (a b : List α) : Prop := ∀ t, t ∈ a ↔ t ∈ b

theorem MemEq.refl {α} (a : List α) : MemEq a a := fun _ => Iff.rfl
theorem MemEq.symm {α} {a b : List α} (h : MemEq a b) : MemEq b a := fun t => (h t).symm
theorem MemEq.trans {α} {a b c : List α} (h : MemEq a b) (g : MemEq b c) : MemEq a c :=
  fun t => (h t).trans (g t)
theorem MemEq.sub {α} {a b : List α} (h : MemEq a b) : Sub a b := fun t ht => (h t).1 ht
theorem MemEq.sub' {α} {a b : List α} (h : MemEq a b) : Sub b a := fun t ht => (h t).2 ht
theorem memEq_of_sub {α} {a b : List α} (h1 : Sub a b) (h2 : Sub b a) : MemEq a b := fun t => ⟨h1 t, h2 t⟩

theorem MemEq.filter {α} {p q : α → Bool} {a b : List α} (h : MemEq a b) (hp : ∀ x, p x = q x) :
    MemEq (a.filter p) (b.filter q) := by
  intro t; simp only [List.mem_filter, hp, h t]

/-- equality of optional lists up to membership. -/
def OptMemEq {α} : Option (List α) → Option (List α) → Prop
  | none, none => True
  | some x, some y => MemEq x y
  | _, _ => False

theorem OptMemEq.refl {α} (a : Option (List α)) : OptMemEq a a := by
  cases a <;> simp [OptMemEq, MemEq.refl]

theorem OptMemEq.trans {α} {a b c : Option (List α)} (h : OptMemEq a b) (g : OptMemEq b c) : OptMemEq a c := by
  cases a <;> cases b <;> cases c <;> simp only [OptMemEq] at h g ⊢
  exact MemEq.trans h g

theorem OptMemEq.symm {α} {a b : Option (List α)} (h : OptMemEq a b) : OptMemEq b a := by
  cases a <;> cases b <;> simp only [OptMemEq] at h ⊢
  exact MemEq.symm h

theorem OptMemEq.intro {α} {a b : Option (List α)} (hn : a = none ↔ b = none)
    (hs : ∀ x y, a = some x → b = some y → MemEq x y) : OptMemEq a b := by
  cases a <;> cases b <;> simp only [OptMemEq]
  · exact nomatch hn.1 rfl
  · exact nomatch hn.2 rfl
  · exact hs _ _ rfl rfl

theorem OptMemEq.none_iff {α} {a b : Option (List α)} (h : OptMemEq a b) : a = none ↔ b = none := by
  cases a <;> cases b <;> simp [OptMemEq] at h ⊢

theorem OptMemEq.of_some {α} {a : Option (List α)} {y : List α} (h : OptMemEq a (some y)) :
    ∃ x, a = some x ∧ MemEq x y := by
  cases a with
  | none => exact h.elim
  | some x => exact ⟨x, rfl, h⟩

theorem OptMemEq.of_some' {α} {b : Option (List α)} {x : List α} (h : OptMemEq (some x) b) :
    ∃ y, b = some y ∧ MemEq x y :=
  let ⟨y, e, m⟩ := h.symm.of_some; ⟨y, e, m.symm⟩

theorem mem_dedupT {t : Tuple} : ∀ {l : List Tuple}, t ∈ dedupT l ↔ t ∈ l
  | [] => Iff.rfl
  | x :: xs => by
    unfold dedupT
    split
    · next hc =>
      rw [mem_dedupT, List.mem_cons]
      exact ⟨Or.inr, fun h => h.elim (fun e => e ▸ List.contains_iff_mem.1 hc) id⟩
    · rw [List.mem_cons, List.mem_cons, mem_dedupT]

theorem mem_dedupS {t : String} : ∀ {l : List String}, t ∈ dedupS l ↔ t ∈ l
  | [] => Iff.rfl
  | x :: xs => by
    unfold dedupS
    split
    · next hc =>
      rw [mem_dedupS, List.mem_cons]
      exact ⟨Or.inr, fun h => h.elim (fun e => e ▸ List.contains_iff_mem.1 hc) id⟩
    · rw [List.mem_cons, List.mem_cons, mem_dedupS]

theorem mem_unionT {t : Tuple} {a b : List Tuple} : t ∈ unionT a b ↔ t ∈ a ∨ t ∈ b := by
  by_cases ha : t ∈ a <;> simp [unionT, ha]

theorem mem_unionAll (t : Tuple) : ∀ (ls : List (List Tuple)), t ∈ Engine.unionAll ls ↔ ∃ l, l ∈ ls ∧ t ∈ l
  | [] => by simp [Engine.unionAll]
  | a :: as => by
    rw [Engine.unionAll, mem_unionT, mem_dedupT, mem_unionAll t as]
    simp only [List.mem_cons, exists_eq_or_imp]

theorem dedupT_nodup : ∀ (l : List Tuple), (dedupT l).Nodup
  | [] => List.nodup_nil
  | x :: xs => by
    unfold dedupT
    split
    · exact dedupT_nodup xs
    · rename_i hc
      refine List.nodup_cons.2 ⟨fun hm => hc (List.contains_iff_mem.2 (mem_dedupT.1 hm)), dedupT_nodup xs⟩

theorem unionT_nodup {a b : List Tuple} (ha : a.Nodup) (hb : b.Nodup) : (unionT a b).Nodup := by
  unfold unionT
  refine List.nodup_append.2 ⟨ha, hb.filter _, ?_⟩
  intro x hx y hy hxy
  subst hxy
  have := (List.mem_filter.1 hy).2
  simp only [Bool.not_eq_true', ← Bool.not_eq_true] at this
  exact this (List.contains_iff_mem.2 hx)

theorem unionAll_nodup : ∀ (ls : List (List Tuple)), (Engine.unionAll ls).Nodup
  | [] => List.nodup_nil
  | _ :: as => unionT_nodup (dedupT_nodup _) (unionAll_nodup as)

theorem subsetT_iff {a b : List Tuple} : subsetT a b = true ↔ Sub a b := by
  simp [subsetT, List.all_eq_true, Sub]

theorem sameSet_iff {a b : List Tuple} : sameSet a b = true ↔ MemEq a b := by
  rw [sameSet, Bool.and_eq_true, subsetT_iff, subsetT_iff]
  exact ⟨fun h => memEq_of_sub h.1 h.2, fun h => ⟨h.sub, h.sub'⟩⟩

theorem lookup_cons_ne {β} (r h : String) (ts : β) (acc : List (String × β)) (hne : r ≠ h) :
    List.lookup r ((h, ts) :: acc) = List.lookup r acc := by
  rw [List.lookup_cons, beq_false_of_ne hne]

theorem lookup_cons_self {β} (h : String) (ts : β) (acc : List (String × β)) :
    List.lookup h ((h, ts) :: acc) = some ts :=
  List.lookup_cons_self

theorem optMapM_some {α β} {f : α → Option β} : ∀ {l : List α} {r : List β},
    optMapM f l = some r → l.map f = r.map some
  | [], r, h => by cases h; rfl
  | a :: as, r, h => by
    rw [optMapM] at h
    split at h
    · next b bs hb hbs => cases h; rw [List.map_cons, hb, optMapM_some hbs]; rfl
    · cases h

theorem optMapM_none_iff {α β} (f : α → Option β) : ∀ (l : List α), optMapM f l = none ↔ ∃ a, a ∈ l ∧ f a = none
  | [] => by simp [optMapM]
  | x :: xs => by
    rw [optMapM]
    cases hx : f x <;> cases hr : optMapM f xs <;> simp [← optMapM_none_iff f xs, hx, hr]

theorem optMapM_some_mem {α β} (f : α → Option β) (l : List α) (r : List β) (h : optMapM f l = some r) (b : β) :
    b ∈ r ↔ ∃ a, a ∈ l ∧ f a = some b := by
  have : some b ∈ r.map some ↔ some b ∈ l.map f := by rw [optMapM_some h]
  simpa [eq_comm] using this

theorem optMapM_length {α β} (f : α → Option β) (l : List α) (r : List β) (h : optMapM f l = some r) :
    r.length = l.length := by
  simpa using (congrArg List.length (optMapM_some h)).symm

theorem optMapM_get {α β} (f : α → Option β) (l : List α) (r : List β) (h : optMapM f l = some r)
    (i : Nat) (x : α) (hx : l[i]? = some x) : ∃ y, f x = some y ∧ r[i]? = some y := by
  have := congrArg (·[i]?) (optMapM_some h)
  simp only [List.getElem?_map, hx, Option.map_some] at this
  cases hr : r[i]? with
  | none => simp [hr] at this
  | some y => exact ⟨y, by simpa [hr] using this, rfl⟩

theorem optMapM_congr {α β} (f g : α → Option β) : ∀ (l : List α), (∀ a, a ∈ l → f a = g a) → optMapM f l = optMapM g l
  | [], _ => rfl
  | a :: as, h => by
    rw [optMapM, optMapM, h a (List.mem_cons_self ..), optMapM_congr f g as (fun x hx => h x (List.mem_cons_of_mem _ hx))]

theorem optMapM_some_id {α} : ∀ (l : List α), optMapM (fun a => some a) l = some l
  | [] => rfl
  | a :: l => by rw [optMapM, optMapM_some_id l]

theorem optMapM_memEq {α β} (f : α → Option β) {a b : List α} (h : MemEq a b) :
    OptMemEq (optMapM f a) (optMapM f b) := by
  refine .intro ?_ fun x y hx hy t => ?_
  · simp only [optMapM_none_iff, h _]
  · simp only [optMapM_some_mem f _ _ hx, optMapM_some_mem f _ _ hy, h _]

theorem optMapM_dist {α β ι} {f : α → Option β} {l : List α} {ls : ι → List α} {ws : List ι}
    (hmem : ∀ x, x ∈ l ↔ ∃ w, w ∈ ws ∧ x ∈ ls w) {r : List β} (h : optMapM f l = some r) :
    (∀ w, w ∈ ws → ∃ rw, optMapM f (ls w) = some rw) ∧
    (∀ b, b ∈ r ↔ ∃ w rw, w ∈ ws ∧ optMapM f (ls w) = some rw ∧ b ∈ rw) := by
  have hsome : ∀ w, w ∈ ws → ∃ rw, optMapM f (ls w) = some rw := fun w hw => by
    cases hc : optMapM f (ls w) with
    | some rw => exact ⟨rw, rfl⟩
    | none =>
      obtain ⟨x, hx, hf⟩ := (optMapM_none_iff _ _).1 hc
      exact nomatch h.symm.trans ((optMapM_none_iff _ _).2 ⟨x, (hmem x).2 ⟨w, hw, hx⟩, hf⟩)
  refine ⟨hsome, fun b => ?_⟩
  rw [optMapM_some_mem _ _ _ h b]
  constructor
  · rintro ⟨x, hx, hf⟩
    obtain ⟨w, hw, hxw⟩ := (hmem x).1 hx
    obtain ⟨rw, hrw⟩ := hsome w hw
    exact ⟨w, rw, hw, hrw, (optMapM_some_mem _ _ _ hrw b).2 ⟨x, hxw, hf⟩⟩
  · rintro ⟨w, rw, hw, hrw, hb⟩
    obtain ⟨x, hx, hf⟩ := (optMapM_some_mem _ _ _ hrw b).1 hb
    exact ⟨x, (hmem x).2 ⟨w, hw, hx⟩, hf⟩

theorem evalRulesWith_eq (ev : Rule → Option (List Tuple)) : ∀ (rs : List Rule),
    evalRulesWith ev rs = (optMapM ev rs).map Engine.unionAll
  | [] => rfl
  | r :: rs => by
    rw [evalRulesWith, optMapM, evalRulesWith_eq ev rs]
    cases ev r <;> cases optMapM ev rs <;> rfl

theorem evalRulesWith_none_iff (ev : Rule → Option (List Tuple)) (rs : List Rule) :
    evalRulesWith ev rs = none ↔ ∃ r, r ∈ rs ∧ ev r = none := by
  rw [evalRulesWith_eq, Option.map_eq_none_iff, optMapM_none_iff]

theorem evalRulesWith_isSome {ev : Rule → Option (List Tuple)} {rs : List Rule} :
    (∃ ts, evalRulesWith ev rs = some ts) ↔ ∀ r, r ∈ rs → ∃ a, ev r = some a := by
  simp only [← Option.ne_none_iff_exists', Ne, evalRulesWith_none_iff, not_exists, not_and]

theorem evalRulesWith_some_mem (ev : Rule → Option (List Tuple)) (rs : List Rule) (ts : List Tuple)
    (h : evalRulesWith ev rs = some ts) (t : Tuple) : t ∈ ts ↔ ∃ r a, r ∈ rs ∧ ev r = some a ∧ t ∈ a := by
  rw [evalRulesWith_eq, Option.map_eq_some_iff] at h
  obtain ⟨as, has, rfl⟩ := h
  simp only [mem_unionAll, optMapM_some_mem ev rs as has]
  exact ⟨fun ⟨a, ⟨r, hr, he⟩, ht⟩ => ⟨r, a, hr, he, ht⟩, fun ⟨r, a, hr, he, ht⟩ => ⟨a, ⟨r, hr, he⟩, ht⟩⟩

theorem evalRulesWith_congr (ev1 ev2 : Rule → Option (List Tuple)) (rs : List Rule)
    (h : ∀ r, r ∈ rs → ev1 r = ev2 r) : evalRulesWith ev1 rs = evalRulesWith ev2 rs := by
  rw [evalRulesWith_eq, evalRulesWith_eq, optMapM_congr ev1 ev2 rs h]

theorem evalRulesWith_memEq (ev1 ev2 : Rule → Option (List Tuple)) (rs : List Rule)
    (h : ∀ r, r ∈ rs → OptMemEq (ev1 r) (ev2 r)) : OptMemEq (evalRulesWith ev1 rs) (evalRulesWith ev2 rs) := by
  refine .intro ?_ fun x y hx hy t => ?_
  · simp only [evalRulesWith_none_iff]
    exact ⟨fun ⟨r, hr, he⟩ => ⟨r, hr, (h r hr).none_iff.1 he⟩, fun ⟨r, hr, he⟩ => ⟨r, hr, (h r hr).none_iff.2 he⟩⟩
  · rw [evalRulesWith_some_mem _ _ _ hx, evalRulesWith_some_mem _ _ _ hy]
    constructor <;> rintro ⟨r, a, hr, he, ht⟩
    · have := h r hr; rw [he] at this
      obtain ⟨b, hb, hm⟩ := this.of_some'
      exact ⟨r, b, hr, hb, (hm t).1 ht⟩
    · have := h r hr; rw [he] at this
      obtain ⟨b, hb, hm⟩ := this.of_some
      exact ⟨r, b, hr, hb, (hm t).2 ht⟩

theorem evalRulesWith_sameRules (ev : Rule → Option (List Tuple)) {rs rs' : List Rule}
    (h : ∀ r, r ∈ rs ↔ r ∈ rs') : OptMemEq (evalRulesWith ev rs) (evalRulesWith ev rs') := by
  refine .intro ?_ fun x y hx hy t => ?_
  · simp only [evalRulesWith_none_iff, h _]
  · simp only [evalRulesWith_some_mem ev _ _ hx, evalRulesWith_some_mem ev _ _ hy, h _]

theorem evalRulesWith_union (ev : Rule → Option (List Tuple)) {cs c1 c2 : List Rule}
    (hmem : ∀ r, r ∈ cs ↔ r ∈ c1 ∨ r ∈ c2) {a b : List Tuple}
    (h1 : evalRulesWith ev c1 = some a) (h2 : evalRulesWith ev c2 = some b) :
    ∃ w, evalRulesWith ev cs = some w ∧ MemEq w (unionT a b) := by
  obtain ⟨w, hw⟩ := evalRulesWith_isSome.2 fun r hr => ((hmem r).1 hr).elim
    (evalRulesWith_isSome.1 ⟨a, h1⟩ r) (evalRulesWith_isSome.1 ⟨b, h2⟩ r)
  refine ⟨w, hw, fun t => ?_⟩
  rw [mem_unionT, evalRulesWith_some_mem _ _ _ hw, evalRulesWith_some_mem _ _ _ h1, evalRulesWith_some_mem _ _ _ h2]
  constructor
  · rintro ⟨r, x, hr, he, ht⟩
    exact ((hmem r).1 hr).imp (fun h => ⟨r, x, h, he, ht⟩) (fun h => ⟨r, x, h, he, ht⟩)
  · rintro (⟨r, x, hr, he, ht⟩ | ⟨r, x, hr, he, ht⟩)
    · exact ⟨r, x, (hmem r).2 (Or.inl hr), he, ht⟩
    · exact ⟨r, x, (hmem r).2 (Or.inr hr), he, ht⟩

theorem mem_scans {r : Rule} {x : String} :
    x ∈ r.scans ↔ (∃ a, a ∈ r.posAtoms ∧ a.rel = x) ∨ (∃ a, a ∈ r.negAtoms ∧ a.rel = x) := by
  simp only [Rule.scans, mem_dedupS, Rule.posAtoms, Rule.negAtoms, List.mem_filterMap]
  constructor
  · rintro ⟨l, hl, he⟩
    cases l with
    | pos a => exact Or.inl ⟨a, ⟨_, hl, rfl⟩, by simpa [Lit.atom?] using he⟩
    | neg a => exact Or.inr ⟨a, ⟨_, hl, rfl⟩, by simpa [Lit.atom?] using he⟩
    | cmp => simp [Lit.atom?] at he
  · rintro (⟨a, ⟨l, hl, he⟩, rfl⟩ | ⟨a, ⟨l, hl, he⟩, rfl⟩)
    · refine ⟨l, hl, ?_⟩
      cases l <;> cases he
      rfl
    · refine ⟨l, hl, ?_⟩
      cases l <;> cases he
      rfl

theorem mem_posAtoms_scans {r : Rule} {a : Atom} (h : a ∈ r.posAtoms) : a.rel ∈ r.scans :=
  mem_scans.2 (Or.inl ⟨a, h, rfl⟩)

theorem mem_negAtoms_scans {r : Rule} {a : Atom} (h : a ∈ r.negAtoms) : a.rel ∈ r.scans :=
  mem_scans.2 (Or.inr ⟨a, h, rfl⟩)

theorem mem_scansOf {p : Program} {h x : String} : x ∈ scansOf p h ↔ ∃ r, r ∈ clausesOf p h ∧ x ∈ r.scans := by
  rw [scansOf, mem_dedupS, List.mem_flatMap]

theorem mem_clausesOf {p : Program} {h : String} {r : Rule} : r ∈ clausesOf p h ↔ r ∈ p ∧ r.hrel = h := by
  simp [clausesOf]

theorem mem_firstOcc {x : String} : ∀ {l seen : List String}, x ∈ firstOcc l seen ↔ x ∈ l ∧ x ∉ seen
  | [], seen => by simp [firstOcc]
  | y :: ys, seen => by
    unfold firstOcc
    split
    · next hc =>
      have hy : y ∈ seen := List.contains_iff_mem.1 hc
      rw [mem_firstOcc, List.mem_cons]
      exact ⟨fun h => ⟨Or.inr h.1, h.2⟩, fun h => ⟨h.1.resolve_left fun e => h.2 (e ▸ hy), h.2⟩⟩
    · next hc =>
      have hy : y ∉ seen := fun h => hc (List.contains_iff_mem.2 h)
      by_cases hxy : x = y
      · simp [hxy, hy]
      · simp [mem_firstOcc (l := ys), hxy]

theorem evalRuleLk_noAgg (lk : String → List Tuple) {r : Rule} (hagg : r.hasAgg = false) :
    evalRuleLk lk r = optMapM (fun env => optMapM (HTerm.plain env) r.hargs) (bodyEnvs lk r) := by
  simp only [evalRuleLk, headOfSpec, hagg, Bool.false_eq_true, if_false, headRows]

end ILV.DL
