/-
  The session step system (ILV.Model.SStep), used by Props/C10: confinement of writes, what a query step
  can see, the set semantics of the isolated vector, and duplicate-freedom of all lists.
  Statements about one step are made about `(step st t).All P` (`P` holds of the successor, if there is one).
-/
import ILV.Model.SStep
namespace ILV.SStep

@[simp] theorem setF_same {α} (f : Nat → α) (i : Nat) (v : α) : setF f i v i = v := by simp [setF]
theorem setF_other {α} (f : Nat → α) {i j : Nat} (v : α) (h : j ≠ i) : setF f i v j = f j := by simp [setF, h]

theorem forall_setF {α} {P : Nat → α → Prop} {f : Nat → α} {i : Nat} {v : α} (hi : P i v) (ho : ∀ j, P j (f j)) (j : Nat) :
    P j (setF f i v j) := by
  by_cases h : j = i
  · subst h; rw [setF_same]; exact hi
  · rw [setF_other _ _ h]; exact ho j

/-- the session an operation belongs to (none = persistent operation) -/
def sessionOf : Op → Option Sid
  | .pIns _ _ => none | .pDel _ _ => none
  | .sIns k _ _ => some k | .sRet k _ _ => some k | .sRule k => some k | .sClear k => some k | .qScan k _ => some k | .qCount k => some k

/-- `P` holds of the successor state, if the step yields one -/
def Res.All (P : State → Prop) : Res → Prop
  | .ok s => P s
  | .skip => True

theorem Res.All.of_eq {P : State → Prop} {r : Res} {s : State} (h : r.All P) (e : r = .ok s) : P s := by
  subst e; exact h

theorem Res.All.ite {P : State → Prop} {c : Prop} [Decidable c] {a b : Res} (ha : c → a.All P) (hb : ¬ c → b.All P) :
    (if c then a else b).All P := by
  split
  · exact ha ‹_›
  · exact hb ‹_›

theorem step_of_ge {st : State} {t : Tid} (h : t ≥ st.n) : step st t = .skip := by
  unfold step; exact if_pos h

theorem lastState_induct {P : State → Prop} (hP : ∀ st t, P st → (step st t).All P) :
    ∀ (sched : List Tid) (st : State), P st → P (lastState st sched)
  | [], _, h => h
  | t :: ts, st, h => by
    have := hP st t h
    unfold lastState
    split
    · next hs => rw [hs] at this; exact lastState_induct hP ts _ this
    · exact lastState_induct hP ts _ h

theorem step_confined {st : State} {t : Tid} {op : Op} {rest : List Op} (htodo : (st.threads t).todo = op :: rest) :
    (step st t).All fun st' => (sessionOf op = none → st'.sess = st.sess) ∧
      ∀ k, sessionOf op = some k → st'.pers = st.pers ∧ ∀ j, j ≠ k → st'.sess j = st.sess j := by
  by_cases htn : t ≥ st.n
  · rw [step_of_ge htn]; trivial
  unfold step
  rw [if_neg htn]
  extract_lets th fin go
  have htodo' : th.todo = op :: rest := htodo
  simp only [htodo']
  -- a session operation writes at most its session; the phases of a query write nothing shared
  have sess : ∀ (k : Sid) (s : Sess), (some k = none → setF st.sess k s = st.sess) ∧
      ∀ k', some k = some k' → st.pers = st.pers ∧ ∀ j, j ≠ k' → setF st.sess k s j = st.sess j :=
    fun k s => ⟨nofun, fun _ hk => by cases hk; exact ⟨rfl, fun j hj => setF_other _ _ hj⟩⟩
  have same : ∀ (o : Option Sid), (o = none → st.sess = st.sess) ∧
      ∀ k', o = some k' → st.pers = st.pers ∧ ∀ j, j ≠ k' → st.sess j = st.sess j :=
    fun _ => ⟨fun _ => rfl, fun _ _ => ⟨rfl, fun _ _ => rfl⟩⟩
  split
  · exact ⟨fun _ => rfl, fun _ hk => nomatch hk⟩
  · exact ⟨fun _ => rfl, fun _ hk => nomatch hk⟩
  · exact .ite (fun _ => same _) fun _ => sess _ _
  · exact .ite (fun _ => sess _ _) fun _ => same _
  · exact sess _ _
  · exact sess _ _
  · exact .ite (fun _ => same _) fun _ => same _
  · exact .ite (fun _ => same _) fun _ => same _
  all_goals exact same _


/-- what a query step of session `k` by thread `t` can see -/
structure SameView (st1 st2 : State) (k : Sid) (t : Tid) : Prop where
  n : st1.n = st2.n
  pers : st1.pers = st2.pers
  sess : st1.sess k = st2.sess k
  thread : st1.threads t = st2.threads t

/-- the thread state after a query step, from what the step can see: the persistent snapshot, the
    session and the thread itself -/
def queryNext (pers : Rel → List Tup) (se : Sess) (th : Thread) : Op → Pc → Thread
  | .qScan _ r, .start => if se.clean NREL then th.finish (.rows (evalScan (pers r) [])) else { th with pc := .q1 }
  | .qCount _, .start => if se.clean NREL then th.finish (.rows []) else { th with pc := .q1 }
  | _, .q1 => { th with pc := .q2 se.facts }
  | _, .q2 f => { th with pc := .q3 f se.rules }
  | .qScan _ r, .q3 f _ => th.finish (.rows (evalScan (pers r) (f r)))
  | .qCount _, .q3 f ru => th.finish (.rows (evalCount ru (pers 0) (f 0)))
  | _, _ => th

theorem query_step {st : State} {t : Tid} {op : Op} {rest : List Op} {k : Sid}
    (htodo : (st.threads t).todo = op :: rest) (hq : op = .qCount k ∨ ∃ r, op = .qScan k r) :
    (step st t).All fun st' => st'.pers = st.pers ∧ st'.sess = st.sess ∧
      st'.threads t = queryNext st.pers (st.sess k) (st.threads t) op (st.threads t).pc := by
  by_cases htn : t ≥ st.n
  · rw [step_of_ge htn]; trivial
  -- in every phase the thread's new state is the one `queryNext` computes; where the thread moves on,
  -- `simp` has put `op :: rest` for `th.todo` in its record
  rcases hq with rfl | ⟨r, rfl⟩
  · cases hpc : (st.threads t).pc <;> simp only [step, htn, htodo, hpc, if_false]
    · exact .ite (fun hc => ⟨rfl, rfl, (setF_same ..).trans (if_pos hc).symm⟩) fun hc =>
        ⟨rfl, rfl, (setF_same ..).trans ((htodo ▸ rfl : _ = _).trans (if_neg hc).symm)⟩
    · exact ⟨rfl, rfl, (setF_same ..).trans (htodo ▸ rfl)⟩
    · exact ⟨rfl, rfl, (setF_same ..).trans (htodo ▸ rfl)⟩
    · exact ⟨rfl, rfl, setF_same ..⟩
  · cases hpc : (st.threads t).pc <;> simp only [step, htn, htodo, hpc, if_false]
    · exact .ite (fun hc => ⟨rfl, rfl, (setF_same ..).trans (if_pos hc).symm⟩) fun hc =>
        ⟨rfl, rfl, (setF_same ..).trans ((htodo ▸ rfl : _ = _).trans (if_neg hc).symm)⟩
    · exact ⟨rfl, rfl, (setF_same ..).trans (htodo ▸ rfl)⟩
    · exact ⟨rfl, rfl, (setF_same ..).trans (htodo ▸ rfl)⟩
    · exact ⟨rfl, rfl, setF_same ..⟩

theorem query_step_own_view {st1 st2 st1' st2' : State} {t : Tid} {op : Op} {rest : List Op} {k : Sid}
    (hv : SameView st1 st2 k t) (htodo : (st1.threads t).todo = op :: rest)
    (hq : op = .qCount k ∨ ∃ r, op = .qScan k r)
    (h1 : step st1 t = .ok st1') (h2 : step st2 t = .ok st2') :
    st1'.threads t = st2'.threads t ∧ st1'.pers = st1.pers ∧ st1'.sess = st1.sess := by
  obtain ⟨p1, s1, e1⟩ := (query_step htodo hq).of_eq h1
  obtain ⟨_, _, e2⟩ := (query_step (hv.thread ▸ htodo) hq).of_eq h2
  exact ⟨by rw [e1, e2, hv.pers, hv.sess, hv.thread], p1, s1⟩


theorem dedup_of_nodup : ∀ l : List Tup, l.Nodup → dedup l = l := by
  intro l
  induction l with
  | nil => intro _; rfl
  | cons a l ih =>
    intro h
    have ⟨ha, hl⟩ := List.nodup_cons.mp h
    simp [dedup, ha, ih hl]

theorem mem_dedup : ∀ (l : List Tup) (x : Tup), x ∈ dedup l ↔ x ∈ l := by
  intro l
  induction l with
  | nil => intro x; simp [dedup]
  | cons a l ih =>
    intro x
    unfold dedup
    split
    · next hc =>
      have hal : a ∈ l := by simpa using hc
      rw [ih, List.mem_cons]
      exact ⟨Or.inr, fun h => h.elim (fun e => e ▸ hal) id⟩
    · simp [ih]

theorem dedup_nodup : ∀ l : List Tup, (dedup l).Nodup := by
  intro l
  induction l with
  | nil => simp [dedup]
  | cons a l ih =>
    unfold dedup
    split
    · exact ih
    · rename_i hc
      refine List.nodup_cons.mpr ⟨?_, ih⟩
      rw [mem_dedup]; simpa using hc

theorem mem_foldl_addFresh (p : List Tup) : ∀ (f acc : List Tup) (x : Tup),
    x ∈ f.foldl (addFresh p) acc ↔ x ∈ acc ∨ (x ∈ f ∧ x ∉ p) := by
  intro f
  induction f with
  | nil => intro acc x; simp
  | cons a f ih =>
    intro acc x
    rw [List.foldl_cons, ih, addFresh, List.mem_cons]
    -- whether `a` is skipped (it is in `p` or in `acc`) and whether `x` is `a`: both sides agree in each case
    by_cases hp : a ∈ p <;> by_cases ha : a ∈ acc <;> by_cases hx : x = a <;> simp [hp, ha, hx]

theorem nodup_snoc {l : List Tup} {x : Tup} (h : l.Nodup) (hx : ¬ l.contains x = true) : (l ++ [x]).Nodup := by
  refine List.nodup_append.mpr ⟨h, List.pairwise_singleton .., fun a ha b hb hab => ?_⟩
  rw [List.mem_singleton.mp hb] at hab
  exact hx (by simpa using hab ▸ ha)

theorem nodup_foldl_addFresh (p : List Tup) : ∀ (f acc : List Tup), acc.Nodup → (f.foldl (addFresh p) acc).Nodup := by
  intro f
  induction f with
  | nil => intro acc h; simpa using h
  | cons a f ih =>
    intro acc h
    simp only [List.foldl_cons]
    apply ih
    unfold addFresh
    split
    · exact h
    · next hc => exact nodup_snoc h fun e => hc (by rw [e, Bool.or_true])

theorem mem_isolated (p f : List Tup) (x : Tup) : x ∈ isolated p f ↔ x ∈ p ∨ x ∈ f := by
  unfold isolated freshOf
  rw [List.mem_append, mem_foldl_addFresh]
  simp only [List.not_mem_nil, false_or]
  constructor
  · rintro (h | ⟨h, _⟩); exact Or.inl h; exact Or.inr h
  · rintro (h | h)
    · exact Or.inl h
    · by_cases hp : x ∈ p
      · exact Or.inl hp
      · exact Or.inr ⟨h, hp⟩

theorem isolated_nodup (p f : List Tup) (hp : p.Nodup) : (isolated p f).Nodup := by
  unfold isolated freshOf
  refine List.nodup_append.mpr ⟨hp, nodup_foldl_addFresh p f [] (by simp), ?_⟩
  intro a ha b hb hab
  subst hab
  have := (mem_foldl_addFresh p f [] a).mp hb
  simp only [List.not_mem_nil, false_or] at this
  exact this.2 ha

/-- set-semantics answer of the count query -/
def specCount (rules : Nat) (p f : List Tup) : List Tup :=
  if rules = 0 then [] else if (dedup (p ++ f)).isEmpty then [] else [(dedup (p ++ f)).length]

theorem isolated_length (p f : List Tup) (hp : p.Nodup) : (isolated p f).length = (dedup (p ++ f)).length := by
  apply List.Perm.length_eq
  apply (List.perm_ext_iff_of_nodup (isolated_nodup p f hp) (dedup_nodup _)).mpr
  intro x
  rw [mem_isolated, mem_dedup, List.mem_append]

theorem evalCount_eq_spec (rules : Nat) (p f : List Tup) (hp : p.Nodup) :
    evalCount rules p f = specCount rules p f := by
  have hl := isolated_length p f hp
  unfold evalCount specCount
  simp only [List.isEmpty_iff_length_eq_zero, hl]

/-- relations and session fact lists never hold a tuple twice -/
structure NodupInv (st : State) : Prop where
  pers : ∀ r, (st.pers r).Nodup
  sess : ∀ k r, ((st.sess k).facts r).Nodup

theorem nodup_init (progs : List (List Op)) : NodupInv (init progs) := by
  constructor <;> intros <;> simp [init]

theorem step_nodup {st : State} {t : Tid} (h : NodupInv st) : (step st t).All NodupInv := by
  by_cases htn : t ≥ st.n
  · rw [step_of_ge htn]; trivial
  unfold step
  rw [if_neg htn]
  extract_lets th fin go
  split
  · trivial
  · next op rest htodo =>
    have list : ∀ {f : Rel → List Tup} {r : Rel} {l : List Tup}, l.Nodup → (∀ r, (f r).Nodup) → ∀ r', (setF f r l r').Nodup :=
      fun hl hf => forall_setF (P := fun _ (l : List Tup) => l.Nodup) hl hf
    have sess : ∀ {k : Sid} {s : Sess}, (∀ r, (s.facts r).Nodup) → ∀ k' r, ((setF st.sess k s k').facts r).Nodup :=
      fun hs => forall_setF (P := fun _ (s : Sess) => ∀ r, (s.facts r).Nodup) hs h.sess
    have same : ∀ {ths : Tid → Thread}, NodupInv { st with threads := ths } := ⟨h.pers, h.sess⟩
    split
    · refine ⟨list ?_ h.pers, h.sess⟩
      split
      · exact h.pers _
      · exact nodup_snoc (h.pers _) ‹_›
    · exact ⟨list ((h.pers _).sublist List.filter_sublist) h.pers, h.sess⟩
    · exact .ite (fun _ => same) fun hc => ⟨h.pers, sess (list (nodup_snoc (h.sess _ _) hc) (h.sess _))⟩
    · exact .ite (fun _ => ⟨h.pers, sess (list ((h.sess _ _).sublist List.erase_sublist) (h.sess _))⟩) fun _ => same
    · exact ⟨h.pers, sess (h.sess _)⟩
    · exact ⟨h.pers, sess fun _ => List.nodup_nil⟩
    · exact .ite (fun _ => same) fun _ => same
    · exact .ite (fun _ => same) fun _ => same
    all_goals exact same

theorem lastState_nodup (sched : List Tid) (st : State) : NodupInv st → NodupInv (lastState st sched) :=
  lastState_induct (fun _ _ => step_nodup) sched st

end ILV.SStep
