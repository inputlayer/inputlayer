/-
  The hyperplane cache invariant of ILV.Model.Lsh: every cached entry is `gen` of its key.
  Preserved by every atomic step (hit, miss, miss with eviction, clear, stats reset, resize), hence
  by every sequence of atomic steps — which covers every interleaving of any number of threads,
  each thread being a sequence of such steps.
-/
import ILV.Model.Lsh
namespace ILV.Lsh
open List

variable {V : Type} {gen : Key → V}

theorem lookup_some {c : Cache V} (hc : Inv gen c) {k : Key} {v : V} (h : lookup c k = some v) : v = gen k := by
  obtain ⟨e, hf, rfl⟩ := Option.map_eq_some_iff.1 h
  have hk : e.key = k := beq_iff_eq.1 (List.find?_some (p := fun e : Entry V => e.key == k) hf)
  rw [hc e (List.mem_of_find?_eq_some hf), hk]

theorem inv_touch {c : Cache V} (hc : Inv gen c) (k : Key) : Inv gen (touch c k) := by
  intro e he
  obtain ⟨e0, he0, rfl⟩ := mem_map.1 he
  split <;> exact hc e0 he0

theorem inv_evict {c : Cache V} (hc : Inv gen c) : Inv gen (evictIfFull c) := by
  unfold evictIfFull
  split
  · split
    · exact fun e he => hc e (mem_filter.1 he).1
    · exact hc
  · exact hc

theorem step_inv {c : Cache V} (hc : Inv gen c) (s : Step) : Inv gen (step gen c s).1 := by
  cases s with
  | probe k =>
    simp only [step]
    split
    · exact inv_touch hc k
    · exact hc
  | fill k =>
    simp only [step]
    split
    · exact inv_touch hc k
    · intro e he
      rcases mem_append.1 he with he | he
      · exact inv_evict (c := { c with misses := c.misses + 1 }) hc e he
      · rw [mem_singleton.1 he]
  | clearMap => exact fun e he => nomatch he
  | resetStats => exact hc
  | resize m => exact hc

/-- a lookup under the read lock hands out nothing or `gen k`. -/
theorem probe_ret {c : Cache V} (hc : Inv gen c) (k : Key) {v : V} (h : (step gen c (.probe k)).2 = some v) :
    v = gen k := by
  simp only [step] at h
  split at h
  · exact lookup_some hc (Option.some.inj h ▸ ‹_›)
  · cases h

/-- the write-lock section always hands out `gen k`. -/
theorem fill_ret {c : Cache V} (hc : Inv gen c) (k : Key) : (step gen c (.fill k)).2 = some (gen k) := by
  simp only [step]
  split
  · exact congrArg some (lookup_some hc ‹_›)
  · rfl

/-- the key a step asks for, if it is a lookup. -/
def Step.key? : Step → Option Key
  | .probe k => some k
  | .fill k => some k
  | _ => none

theorem step_ret {c : Cache V} (hc : Inv gen c) (s : Step) {v : V} (h : (step gen c s).2 = some v) :
    ∃ k, s.key? = some k ∧ v = gen k := by
  cases s with
  | probe k => exact ⟨k, rfl, probe_ret hc k h⟩
  | fill k => exact ⟨k, rfl, (Option.some.inj ((fill_ret hc k).symm.trans h)).symm⟩
  | _ => cases h

theorem run_inv {c : Cache V} (hc : Inv gen c) (ss : List Step) :
    Inv gen (run gen c ss).1 ∧
    ∀ p ∈ ss.zip (run gen c ss).2, ∀ v, p.2 = some v → ∃ k, Step.key? p.1 = some k ∧ v = gen k := by
  induction ss generalizing c with
  | nil => exact ⟨hc, fun _ hp => nomatch hp⟩
  | cons s ss ih =>
    have ih' := ih (step_inv hc s)
    refine ⟨ih'.1, fun p hp v hv => ?_⟩
    rcases mem_cons.1 hp with rfl | hp
    · exact step_ret hc s hv
    · exact ih'.2 p hp v hv

theorem getOrCreate_spec {c : Cache V} (hc : Inv gen c) (k : Key) :
    ∃ c', Inv gen c' ∧ getOrCreate gen c k = (c', gen k) := by
  have h1 := step_inv hc (.probe k)
  unfold getOrCreate
  cases hp : step gen c (.probe k) with
  | mk c1 o1 =>
    rw [hp] at h1
    cases o1 with
    | some v => exact ⟨c1, h1, congrArg (Prod.mk c1) (probe_ret hc k (congrArg Prod.snd hp))⟩
    | none =>
      have h2 := step_inv h1 (.fill k)
      cases hf : step gen c1 (.fill k) with
      | mk c2 o2 =>
        rw [hf] at h2
        obtain rfl : o2 = some (gen k) := (congrArg Prod.snd hf).symm.trans (fill_ret h1 k)
        exact ⟨c2, h2, by dsimp only; rw [hf]⟩

end ILV.Lsh
