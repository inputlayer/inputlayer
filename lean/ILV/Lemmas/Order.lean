/-
  Comparators returning `Ordering` on a carrier `P` (the float cases of `Value.cmp` are lawful only on
  64-bit patterns): `TP`, a total preorder, and `LawfulOn`, a total order consistent with `=`.  A comparator
  that compares ranks first and payloads within a rank, or one component after the other, inherits the
  laws of its parts (`of_kinds`; `TP.lex`, `lex_lawful`).
-/
import ILV.Model.WireSort
namespace ILV

theorem revOrd_revOrd (o : Ordering) : revOrd (revOrd o) = o := by cases o <;> rfl

theorem swap_rev (o : Ordering) : o.swap = revOrd o := by cases o <;> rfl

theorem revOrd_then (o o' : Ordering) : revOrd (o.then o') = (revOrd o).then (revOrd o') := by
  cases o <;> rfl

theorem revOrd_ne_gt {o : Ordering} : revOrd o ≠ .gt ↔ o ≠ .lt := by cases o <;> decide

theorem then_ne_gt {o o' : Ordering} : o.then o' ≠ .gt ↔ o = .lt ∨ (o = .eq ∧ o' ≠ .gt) := by
  cases o <;> simp [Ordering.then]

/-- transitivity of a lexicographic comparison, read off three comparisons of the first components
    (`o₁ o₂ o₃` for the pairs `a b`, `b d`, `a d`) and of the second ones. -/
theorem then_trans {o₁ o₂ o₃ p₁ p₂ p₃ : Ordering}
    (lt_le : o₁ = .lt → o₂ ≠ .gt → o₃ = .lt) (le_lt : o₁ ≠ .gt → o₂ = .lt → o₃ = .lt)
    (eq_eq : o₁ = .eq → o₂ = .eq → o₃ = .eq) (snd : p₁ ≠ .gt → p₂ ≠ .gt → p₃ ≠ .gt)
    (h1 : o₁.then p₁ ≠ .gt) (h2 : o₂.then p₂ ≠ .gt) : o₃.then p₃ ≠ .gt := by
  rw [then_ne_gt] at h1 h2 ⊢
  rcases h1 with e1 | ⟨e1, q1⟩
  · exact Or.inl (lt_le e1 (by rcases h2 with e2 | ⟨e2, _⟩ <;> rw [e2] <;> decide))
  · rcases h2 with e2 | ⟨e2, q2⟩
    · exact Or.inl (le_lt (by rw [e1]; decide) e2)
    · exact Or.inr ⟨eq_eq e1 e2, snd q1 q2⟩

structure TP {α} (P : α → Prop) (c : α → α → Ordering) : Prop where
  swap : ∀ a b, P a → P b → c b a = revOrd (c a b)
  trans : ∀ a b d, P a → P b → P d → c a b ≠ .gt → c b d ≠ .gt → c a d ≠ .gt

theorem TP.ge_of_ne_lt {α} {P : α → Prop} {c : α → α → Ordering} (h : TP P c) {a b : α}
    (pa : P a) (pb : P b) (hab : c a b ≠ .lt) : c b a ≠ .gt := by
  rw [h.swap a b pa pb]; exact revOrd_ne_gt.2 hab

theorem TP.lt_of_lt_of_le {α} {P : α → Prop} {c : α → α → Ordering} (h : TP P c) {a b d : α}
    (pa : P a) (pb : P b) (pd : P d) (h1 : c a b = .lt) (h2 : c b d ≠ .gt) : c a d = .lt := by
  apply Decidable.byContradiction
  intro had
  have hba := h.trans b d a pb pd pa h2 (h.ge_of_ne_lt pa pd had)
  rw [h.swap a b pa pb, h1] at hba
  exact hba rfl

theorem TP.lt_of_le_of_lt {α} {P : α → Prop} {c : α → α → Ordering} (h : TP P c) {a b d : α}
    (pa : P a) (pb : P b) (pd : P d) (h1 : c a b ≠ .gt) (h2 : c b d = .lt) : c a d = .lt := by
  apply Decidable.byContradiction
  intro had
  have hdb := h.trans d a b pd pa pb (h.ge_of_ne_lt pa pd had) h1
  rw [h.swap b d pb pd, h2] at hdb
  exact hdb rfl

theorem TP.eq_trans {α} {P : α → Prop} {c : α → α → Ordering} (h : TP P c) {a b d : α}
    (pa : P a) (pb : P b) (pd : P d) (h1 : c a b = .eq) (h2 : c b d = .eq) : c a d = .eq := by
  have hle : c a d ≠ .gt := h.trans a b d pa pb pd (by rw [h1]; decide) (by rw [h2]; decide)
  have hge : c d a ≠ .gt := h.trans d b a pd pb pa
    (h.ge_of_ne_lt pb pd (by rw [h2]; decide)) (h.ge_of_ne_lt pa pb (by rw [h1]; decide))
  rw [h.swap a d pa pd] at hge
  revert hle hge
  cases c a d <;> decide

theorem TP.rev {α} {P : α → Prop} {c : α → α → Ordering} (h : TP P c) : TP P (fun a b => revOrd (c a b)) where
  swap := by
    intro a b pa pb
    show revOrd (c b a) = revOrd (revOrd (c a b))
    rw [h.swap a b pa pb]
  trans := by
    intro a b d pa pb pd h1 h2
    have h1' : c b a ≠ .gt := by rw [h.swap a b pa pb]; exact h1
    have h2' : c d b ≠ .gt := by rw [h.swap b d pb pd]; exact h2
    show revOrd (c a d) ≠ .gt
    rw [← h.swap a d pa pd]
    exact h.trans d b a pd pb pa h2' h1'

theorem TP.comap {α β} {P : α → Prop} {Q : β → Prop} {c : α → α → Ordering} (h : TP P c) (f : β → α)
    (hf : ∀ x, Q x → P (f x)) : TP Q (fun a b => c (f a) (f b)) where
  swap := fun a b qa qb => h.swap _ _ (hf a qa) (hf b qb)
  trans := fun a b d qa qb qd => h.trans _ _ _ (hf a qa) (hf b qb) (hf d qd)

theorem TP.image {α β} {Q : β → Prop} {c' : β → β → Ordering} (h : TP Q c') (f : β → α)
    {P : α → Prop} {c : α → α → Ordering} (hc : ∀ x y, Q x → Q y → c (f x) (f y) = c' x y)
    (surj : ∀ a, P a → ∃ x, Q x ∧ f x = a) : TP P c where
  swap := by
    intro a b pa pb
    obtain ⟨x, qx, rfl⟩ := surj a pa
    obtain ⟨y, qy, rfl⟩ := surj b pb
    rw [hc y x qy qx, hc x y qx qy]; exact h.swap x y qx qy
  trans := by
    intro a b d pa pb pd
    obtain ⟨x, qx, rfl⟩ := surj a pa
    obtain ⟨y, qy, rfl⟩ := surj b pb
    obtain ⟨z, qz, rfl⟩ := surj d pd
    rw [hc x y qx qy, hc y z qy qz, hc x z qx qz]; exact h.trans x y z qx qy qz

theorem TP.lex {α} {P : α → Prop} {c1 c2 : α → α → Ordering} (h1 : TP P c1) (h2 : TP P c2) :
    TP P (fun a b => (c1 a b).then (c2 a b)) where
  swap := by
    intro a b pa pb
    show (c1 b a).then (c2 b a) = revOrd ((c1 a b).then (c2 a b))
    rw [revOrd_then, h1.swap a b pa pb, h2.swap a b pa pb]
  trans := fun a b d pa pb pd =>
    then_trans (h1.lt_of_lt_of_le pa pb pd) (h1.lt_of_le_of_lt pa pb pd) (h1.eq_trans pa pb pd)
      (h2.trans a b d pa pb pd)

theorem TP.congr {α} {P : α → Prop} {c c' : α → α → Ordering} (h : TP P c)
    (e : ∀ a b, P a → P b → c' a b = c a b) : TP P c' :=
  h.image id e fun a pa => ⟨a, pa, rfl⟩

theorem TP.const {α} {P : α → Prop} : TP P (fun (_ _ : α) => Ordering.eq) where
  swap := fun _ _ _ _ => rfl
  trans := fun _ _ _ _ _ _ _ _ => by decide

theorem TP.of_rank {α} {P : α → Prop} {c : α → α → Ordering} (rank : α → Nat)
    (hne : ∀ a b, rank a ≠ rank b → c a b = compare (rank a) (rank b))
    (hk : ∀ a, P a → TP (fun x => P x ∧ rank x = rank a) c) : TP P c where
  swap := by
    intro a b pa pb
    by_cases h : rank b = rank a
    · exact (hk a pa).swap a b ⟨pa, rfl⟩ ⟨pb, h⟩
    · rw [hne b a h, hne a b (Ne.symm h), ← Nat.compare_swap, swap_rev]
  trans := by
    intro a b d pa pb pd h1 h2
    have le : ∀ x y, c x y ≠ .gt → rank x ≤ rank y := by
      intro x y h
      apply Nat.le_of_not_lt
      intro hlt
      exact h (by rw [hne x y (Nat.ne_of_gt hlt)]; exact Nat.compare_eq_gt.2 hlt)
    have hab := le a b h1
    have hbd := le b d h2
    by_cases hlt : rank a < rank d
    · rw [hne a d (Nat.ne_of_lt hlt), Nat.compare_eq_lt.2 hlt]; decide
    · have hda := Nat.le_of_not_lt hlt
      exact (hk a pa).trans a b d ⟨pa, rfl⟩ ⟨pb, Nat.le_antisymm (Nat.le_trans hbd hda) hab⟩
        ⟨pd, Nat.le_antisymm hda (Nat.le_trans hab hbd)⟩ h1 h2

/-- one kind of elements of `α`: the image of `f`, compared through `f` as `cmp` compares the payloads. -/
structure Kind {α : Type} (c : α → α → Ordering) where
  β : Type
  Q : β → Prop
  cmp : β → β → Ordering
  f : β → α
  tp : TP Q cmp
  hc : ∀ x y, Q x → Q y → c (f x) (f y) = cmp x y

theorem TP.of_kinds {α : Type} {P : α → Prop} {c : α → α → Ordering} (rank : α → Nat)
    (hne : ∀ a b, rank a ≠ rank b → c a b = compare (rank a) (rank b)) (kind : Nat → Kind c)
    (cover : ∀ a, P a → ∃ y, (kind (rank a)).Q y ∧ (kind (rank a)).f y = a) : TP P c :=
  TP.of_rank rank hne fun a _ =>
    (kind (rank a)).tp.image (kind (rank a)).f (kind (rank a)).hc fun x hx => hx.2 ▸ cover x hx.1

/-- `c` is a total order on `P`, consistent with `=`. -/
structure LawfulOn {α} (P : α → Prop) (c : α → α → Ordering) : Prop where
  eq_iff : ∀ x y, P x → P y → (c x y = .eq ↔ x = y)
  swap : ∀ x y, P x → P y → c y x = (c x y).swap
  trans : ∀ x y z, P x → P y → P z → c x y ≠ .gt → c y z ≠ .gt → c x z ≠ .gt

theorem LawfulOn.tp {α} {P : α → Prop} {c} (h : LawfulOn P c) : TP P c :=
  ⟨fun a b pa pb => (h.swap a b pa pb).trans (swap_rev _), h.trans⟩

theorem TP.lawful {α} {P : α → Prop} {c} (h : TP P c)
    (eq_iff : ∀ x y, P x → P y → (c x y = .eq ↔ x = y)) : LawfulOn P c :=
  ⟨eq_iff, fun a b pa pb => (h.swap a b pa pb).trans (swap_rev _).symm, h.trans⟩

theorem LawfulOn.refl {α} {P : α → Prop} {c} (h : LawfulOn P c) (x : α) (hx : P x) : c x x = .eq :=
  (h.eq_iff x x hx hx).2 rfl

theorem LawfulOn.lt_of_lt_of_le {α} {P : α → Prop} {c} (h : LawfulOn P c) {x y z : α}
    (hx : P x) (hy : P y) (hz : P z) (h1 : c x y = .lt) (h2 : c y z ≠ .gt) : c x z = .lt :=
  h.tp.lt_of_lt_of_le hx hy hz h1 h2

theorem LawfulOn.lt_of_le_of_lt {α} {P : α → Prop} {c} (h : LawfulOn P c) {x y z : α}
    (hx : P x) (hy : P y) (hz : P z) (h1 : c x y ≠ .gt) (h2 : c y z = .lt) : c x z = .lt :=
  h.tp.lt_of_le_of_lt hx hy hz h1 h2

theorem LawfulOn.comap {α β} {P : α → Prop} {Q : β → Prop} {c : α → α → Ordering} (h : LawfulOn P c)
    (f : β → α) (hf : ∀ x, Q x → P (f x)) (inj : ∀ x y, Q x → Q y → f x = f y → x = y) :
    LawfulOn Q (fun x y => c (f x) (f y)) :=
  (h.tp.comap f hf).lawful fun x y hx hy =>
    ⟨fun e => inj x y hx hy ((h.eq_iff _ _ (hf x hx) (hf y hy)).1 e), fun e => e ▸ h.refl _ (hf x hx)⟩

structure LKind {α : Type} (c : α → α → Ordering) extends Kind c where
  eq_iff : ∀ x y, Q x → Q y → (cmp x y = .eq ↔ f x = f y)

def LKind.of {α β : Type} {c : α → α → Ordering} {Q : β → Prop} {c' : β → β → Ordering} (h : LawfulOn Q c')
    (f : β → α) (hc : ∀ x y, Q x → Q y → c (f x) (f y) = c' x y) (inj : ∀ x y, f x = f y → x = y) : LKind c :=
  ⟨⟨β, Q, c', f, h.tp, hc⟩, fun x y qx qy => (h.eq_iff x y qx qy).trans ⟨congrArg f, inj x y⟩⟩

theorem LawfulOn.of_kinds {α : Type} {P : α → Prop} {c : α → α → Ordering} (rank : α → Nat)
    (hne : ∀ a b, rank a ≠ rank b → c a b = compare (rank a) (rank b)) (kind : Nat → LKind c)
    (cover : ∀ a, P a → ∃ y, (kind (rank a)).Q y ∧ (kind (rank a)).f y = a) : LawfulOn P c :=
  (TP.of_kinds rank hne (fun k => (kind k).toKind) cover).lawful fun a b pa pb => by
    by_cases h : rank b = rank a
    · obtain ⟨x, qx, ex⟩ := cover a pa
      obtain ⟨y, qy, ey⟩ := h ▸ cover b pb
      have := (kind (rank a)).eq_iff x y qx qy
      rwa [← (kind (rank a)).hc x y qx qy, ex, ey] at this
    · refine ⟨fun e => ?_, fun e => absurd (e ▸ rfl) h⟩
      rw [hne a b (Ne.symm h)] at e
      exact absurd (Nat.compare_eq_eq.1 e).symm h

theorem int_lawful : LawfulOn (fun _ : Int => True) (fun x y => compare x y) where
  eq_iff := fun _ _ _ _ => Int.compare_eq_eq
  swap := fun x y _ _ => (Int.compare_swap x y).symm
  trans := fun _ _ _ _ _ _ h1 h2 h =>
    h1 (Int.compare_eq_gt.2 (Int.lt_of_le_of_lt
      (Int.not_lt.1 fun h' => h2 (Int.compare_eq_gt.2 h')) (Int.compare_eq_gt.1 h)))

theorem nat_lawful : LawfulOn (fun _ : Nat => True) (fun x y => compare x y) where
  eq_iff := fun _ _ _ _ => Nat.compare_eq_eq
  swap := fun x y _ _ => (Nat.compare_swap x y).symm
  trans := fun _ _ _ _ _ _ h1 h2 h =>
    h1 (Nat.compare_eq_gt.2 (Nat.lt_of_le_of_lt
      (Nat.not_lt.1 fun h' => h2 (Nat.compare_eq_gt.2 h')) (Nat.compare_eq_gt.1 h)))

theorem bool_lawful : LawfulOn (fun _ : Bool => True) (fun x y => compare x y) where
  eq_iff := fun x y _ _ => by revert x y; decide
  swap := fun x y _ _ => by revert x y; decide
  trans := fun x y z _ _ _ => by revert x y z; decide

def AllP {α} (P : α → Prop) (l : List α) : Prop := ∀ x ∈ l, P x

theorem lexCmp_tp {α} {P : α → Prop} {c} (h : TP P c) : TP (AllP P) (lexCmp c) where
  swap := by
    intro a
    induction a with
    | nil => intro b _ _; cases b <;> rfl
    | cons x xs ih =>
      intro b ha hb
      cases b with
      | nil => rfl
      | cons y ys =>
        obtain ⟨hx, hxs⟩ := List.forall_mem_cons.1 ha
        obtain ⟨hy, hys⟩ := List.forall_mem_cons.1 hb
        show (c y x).then (lexCmp c ys xs) = revOrd ((c x y).then (lexCmp c xs ys))
        rw [revOrd_then, h.swap x y hx hy, ih ys hxs hys]
  trans := by
    intro a
    induction a with
    | nil => intro b d _ _ _ _ _; cases d <;> exact nofun
    | cons x xs ih =>
      intro b d ha hb hd h1 h2
      cases b with
      | nil => exact absurd rfl h1
      | cons y ys =>
        cases d with
        | nil => exact absurd rfl h2
        | cons z zs =>
          obtain ⟨hx, hxs⟩ := List.forall_mem_cons.1 ha
          obtain ⟨hy, hys⟩ := List.forall_mem_cons.1 hb
          obtain ⟨hz, hzs⟩ := List.forall_mem_cons.1 hd
          exact then_trans (h.lt_of_lt_of_le hx hy hz) (h.lt_of_le_of_lt hx hy hz) (h.eq_trans hx hy hz)
            (ih ys zs hxs hys hzs) h1 h2

theorem lexCmp_eq_iff {α} {P : α → Prop} {c} (h : LawfulOn P c) :
    ∀ a b : List α, AllP P a → AllP P b → (lexCmp c a b = .eq ↔ a = b) := by
  intro a
  induction a with
  | nil => intro b _ _; cases b <;> simp [lexCmp]
  | cons x xs ih =>
    intro b ha hb
    cases b with
    | nil => simp [lexCmp]
    | cons y ys =>
      obtain ⟨hx, hxs⟩ := List.forall_mem_cons.1 ha
      obtain ⟨hy, hys⟩ := List.forall_mem_cons.1 hb
      show (c x y).then (lexCmp c xs ys) = .eq ↔ _
      rw [Ordering.then_eq_eq, h.eq_iff x y hx hy, ih ys hxs hys, List.cons.injEq]

theorem lex_lawful {α} {P : α → Prop} {c} (h : LawfulOn P c) : LawfulOn (AllP P) (lexCmp c) :=
  (lexCmp_tp h.tp).lawful (lexCmp_eq_iff h)

theorem lenThenLex_lawful {α} {P : α → Prop} {c} (h : LawfulOn P c) : LawfulOn (AllP P) (lenThenLex c) :=
  ((nat_lawful.tp.comap List.length fun _ _ => trivial).lex (lexCmp_tp h.tp)).lawful fun a b ha hb => by
    show (compare a.length b.length).then (lexCmp c a b) = .eq ↔ _
    rw [Ordering.then_eq_eq, lexCmp_eq_iff h a b ha hb]
    exact ⟨fun e => e.2, fun e => ⟨e ▸ Nat.compare_eq_eq.2 rfl, e⟩⟩

theorem Value.eq_iff (a b : Value) : Value.eq a b = true ↔ a = b := by
  constructor
  · unfold Value.eq
    split <;> intro h
    all_goals first | exact congrArg _ (eq_of_beq h) | rfl | cases h
  · rintro rfl
    cases a <;> first | exact beq_self_eq_true _ | rfl

theorem listAll2_eq_iff {α} {p : α → α → Bool} (hp : ∀ x y, p x y = true ↔ x = y) :
    ∀ a b : List α, listAll2 p a b = true ↔ a = b
  | [], [] => by simp [listAll2]
  | [], _ :: _ => by simp [listAll2]
  | _ :: _, [] => by simp [listAll2]
  | x :: xs, y :: ys => by
    rw [listAll2, Bool.and_eq_true, hp, listAll2_eq_iff hp xs ys, List.cons.injEq]

theorem Tuple.eq_iff (a b : Tuple) : Tuple.eq a b = true ↔ a = b := listAll2_eq_iff Value.eq_iff a b

end ILV
