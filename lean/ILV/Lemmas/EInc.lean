/-
  Sequential (single-thread) histories of the storage-engine step system with the incremental
  engine on: the arrangement mirrors the live relations and the worker never dies. Used by Props/C19.
-/
import ILV.Lemmas.EStep
namespace ILV.EStep

/-- sum of the diffs sent to the arrangement of `r` for tuple `k` -/
def cnt (arr : List (Rel × Tup × Int)) (r : Rel) (k : Tup) : Int :=
  ((arr.filter (fun e => e.1 == r && e.2.1 == k)).map (·.2.2)).sum

theorem cnt_append (a b : List (Rel × Tup × Int)) (r : Rel) (k : Tup) : cnt (a ++ b) r k = cnt a r k + cnt b r k := by
  simp [cnt, List.filter_append, List.map_append]

theorem cnt_map (ts : List Tup) (hn : ts.Nodup) (r' r : Rel) (k : Tup) (d : Int) :
    cnt (ts.map (fun t => (r', t, d))) r k = if r' = r ∧ k ∈ ts then d else 0 := by
  induction ts with
  | nil => simp [cnt]
  | cons t ts ih =>
    have ⟨ht, hts⟩ := List.nodup_cons.mp hn
    have e : cnt ((t :: ts).map (fun t => (r', t, d))) r k = cnt [(r', t, d)] r k + cnt (ts.map (fun t => (r', t, d))) r k := by
      rw [← cnt_append]; rfl
    rw [e, ih hts]
    by_cases hr : r' = r
    · subst hr
      by_cases hk : t = k
      · subst hk; simp [cnt, ht]
      · have hk' : ¬ k = t := fun h => hk h.symm
        simp [cnt, hk, hk']
    · simp [cnt, hr]

theorem cnt_ne_zero_mem {arr : List (Rel × Tup × Int)} {r : Rel} {k : Tup} (h : cnt arr r k ≠ 0) :
    k ∈ (arr.filter (fun e => e.1 == r)).map (·.2.1) := by
  by_cases hex : ∃ e ∈ arr, e.1 = r ∧ e.2.1 = k
  · obtain ⟨e, he, h1, h2⟩ := hex
    exact List.mem_map.mpr ⟨e, List.mem_filter.mpr ⟨he, by simp [h1]⟩, h2⟩
  · exfalso; apply h
    have : arr.filter (fun e => e.1 == r && e.2.1 == k) = [] := by
      apply List.filter_eq_nil_iff.mpr
      intro e he hc
      simp at hc
      exact hex ⟨e, he, hc.1, hc.2⟩
    simp [cnt, this]

theorem insertMem_mem : ∀ (ts cur : List Tup) (x : Tup), x ∈ (insertMem cur ts).1 ↔ x ∈ cur ∨ x ∈ ts := by
  intro ts
  induction ts with
  | nil => intro cur x; simp [insertMem]
  | cons t ts ih =>
    intro cur x
    unfold insertMem
    split
    · next hc =>
      have : t ∈ cur := by simpa using hc
      rw [ih, List.mem_cons]
      exact ⟨Or.imp_right Or.inr, fun h => h.elim Or.inl fun h => h.elim (fun e => Or.inl (e ▸ this)) Or.inr⟩
    · simp only [ih, List.mem_append, List.mem_cons, List.not_mem_nil, or_false, or_assoc]

theorem insertMem_new : ∀ (ts cur : List Tup) (x : Tup), x ∈ (insertMem cur ts).2 ↔ x ∈ ts ∧ x ∉ cur := by
  intro ts
  induction ts with
  | nil => intro cur x; simp [insertMem]
  | cons t ts ih =>
    intro cur x
    unfold insertMem
    split
    · next hc =>
      have htc : t ∈ cur := by simpa using hc
      rw [ih, List.mem_cons]
      exact ⟨fun h => ⟨Or.inr h.1, h.2⟩, fun h => ⟨h.1.resolve_left fun e => h.2 (e ▸ htc), h.2⟩⟩
    · next hc =>
      have htc : t ∉ cur := by simpa using hc
      simp only [List.mem_cons, ih, List.mem_append, List.not_mem_nil, or_false, not_or]
      constructor
      · rintro (h | ⟨h1, h2, _⟩)
        · exact ⟨Or.inl h, h ▸ htc⟩
        · exact ⟨Or.inr h1, h2⟩
      · rintro ⟨h1, h2⟩
        by_cases hx : x = t
        · exact Or.inl hx
        · exact Or.inr ⟨h1.resolve_left hx, h2, hx⟩

theorem insertMem_new_nodup : ∀ (ts cur : List Tup), (insertMem cur ts).2.Nodup := by
  intro ts
  induction ts with
  | nil => intro cur; simp [insertMem]
  | cons t ts ih =>
    intro cur
    unfold insertMem
    split
    · exact ih cur
    · exact List.nodup_cons.mpr ⟨fun h => ((insertMem_new ts (cur ++ [t]) t).mp h).2 (by simp), ih _⟩

theorem insertMem_nodup : ∀ (ts cur : List Tup), cur.Nodup → (insertMem cur ts).1.Nodup := by
  intro ts
  induction ts with
  | nil => intro cur h; simpa [insertMem] using h
  | cons t ts ih =>
    intro cur h
    unfold insertMem
    split
    · exact ih cur h
    · next hc =>
      refine ih _ (List.nodup_append.mpr ⟨h, List.pairwise_singleton .., fun a ha b hb hab => ?_⟩)
      rw [List.mem_singleton.mp hb] at hab
      exact hc (by simpa using hab ▸ ha)

theorem deleteMem_mem (cur ts : List Tup) (x : Tup) : x ∈ (deleteMem cur ts).1 ↔ x ∈ cur ∧ x ∉ ts := by
  simp [deleteMem]
theorem deleteMem_gone (cur ts : List Tup) (x : Tup) : x ∈ (deleteMem cur ts).2 ↔ x ∈ cur ∧ x ∈ ts := by
  simp [deleteMem]

theorem setRel_apply (f : Rel → List Tup) (r : Rel) (v : List Tup) (x : Rel) : setRel f r v x = if x = r then v else f x := rfl

/-- a write at time `c` or later is accepted: `c` is above `max_write_time` and at or above every input-session time -/
structure TimeOK (i : Inc) (c : Nat) : Prop where
  maxW : i.maxW < c
  sess : ∀ r t0, i.sess r = some t0 → t0 ≤ c

theorem TimeOK.mono {i : Inc} {a b : Nat} (h : TimeOK i a) (hab : a ≤ b) : TimeOK i b :=
  ⟨Nat.lt_of_lt_of_le h.maxW hab, fun r t0 hs => Nat.le_trans (h.sess r t0 hs) hab⟩

theorem write_alive (i : Inc) (r : Rel) (ts : List Tup) (τ : Nat) (d : Int) (ha : i.dead = false)
    (ht : ∀ t0, i.sess r = some t0 → t0 ≤ τ) :
    (i.write r ts τ d).2 = true ∧ (i.write r ts τ d).1.dead = false ∧
    (i.write r ts τ d).1.arr = i.arr ++ ts.map (fun t => (r, t, d)) ∧
    (i.write r ts τ d).1.maxW = max i.maxW τ ∧
    (∀ r' t0, (i.write r ts τ d).1.sess r' = some t0 → i.sess r' = some t0 ∨ t0 = 0) := by
  unfold Inc.write
  simp only [ha, Bool.false_eq_true, if_false]
  cases hs : i.sess r with
  | none =>
    simp only [if_true, Nat.not_lt_zero, if_false]
    refine ⟨trivial, trivial, trivial, trivial, ?_⟩
    intro r' t0 h
    by_cases hr : r' = r
    · subst hr; simp at h; exact Or.inr h.symm
    · simp [hr] at h; exact Or.inl h
  | some t0 =>
    have hle := ht t0 hs
    simp only [hs, if_neg (Nat.not_lt.mpr hle)]
    exact ⟨trivial, trivial, trivial, trivial, fun r' t1 h => Or.inl h⟩

theorem readc_alive (i : Inc) (r : Rel) (ha : i.dead = false) :
    (i.readc r).1.dead = false ∧ (i.readc r).1.arr = i.arr ∧ (i.readc r).1.maxW = i.maxW ∧
    (∀ r' t0, (i.readc r).1.sess r' = some t0 → t0 = i.maxW + 1) := by
  unfold Inc.readc
  simp only [ha, Bool.false_eq_true, if_false]
  refine ⟨trivial, trivial, trivial, ?_⟩
  intro r' t0 h
  cases hs : i.sess r' with
  | none => simp [hs] at h
  | some t1 => simp [hs] at h; exact h.symm

/-- the engine's times against the clock, for a thread standing at `pc`: a time that was taken is
    below the clock and still at or above every input-session time -/
def TimeAt (i : Inc) (clock : Nat) : Pc → Prop
  | .start => TimeOK i clock
  | .afterTime τ => τ < clock ∧ TimeOK i τ
  | .afterPersist τ => τ < clock ∧ TimeOK i τ

theorem TimeAt.now {i : Inc} {c : Nat} : ∀ {pc : Pc}, TimeAt i c pc → TimeOK i c
  | .start, h => h
  | .afterTime _, h => h.2.mono (Nat.le_of_lt h.1)
  | .afterPersist _, h => h.2.mono (Nat.le_of_lt h.1)

/-- invariant of single-thread runs with the incremental engine on -/
structure InvS (st : State) (i : Inc) : Prop where
  n1 : st.n = 1
  hinc : st.inc = some i
  alive : i.dead = false
  nodup : ∀ r, (st.live r).Nodup
  cntLive : ∀ r k, cnt i.arr r k = if k ∈ st.live r then 1 else 0
  time : TimeAt i st.clock (st.threads 0).pc

theorem InvS.same {st st' : State} {i : Inc} (h : InvS st i) (hn : st'.n = st.n) (hinc : st'.inc = st.inc)
    (hlive : st'.live = st.live) (ht : TimeAt i st'.clock (st'.threads 0).pc) : InvS st' i :=
  ⟨hn.trans h.n1, hinc.trans h.hinc, h.alive, hlive ▸ h.nodup, hlive ▸ h.cntLive, ht⟩

theorem InvS.shadow {st st' : State} {i : Inc} {r : Rel} {cur' chg : List Tup} {d : Int} {τ : Nat} (h : InvS st i)
    (hτ : τ < st.clock) (hT : TimeOK i τ) (hcur : cur'.Nodup) (hchg : chg.Nodup)
    (hsum : ∀ k, (if k ∈ st.live r then 1 else 0 : Int) + (if k ∈ chg then d else 0) = if k ∈ cur' then 1 else 0)
    (hn : st'.n = st.n) (hinc : st'.inc = some (i.write r chg τ d).1) (hlive : st'.live = setRel st.live r cur')
    (hclock : st'.clock = st.clock) (hpc : (st'.threads 0).pc = .start) :
    InvS st' (i.write r chg τ d).1 := by
  obtain ⟨_, w2, w3, w4, w5⟩ := write_alive i r chg τ d h.alive (fun t0 hs => hT.sess r t0 hs)
  refine ⟨hn.trans h.n1, hinc, w2, fun r' => ?_, fun r' k => ?_, ?_⟩
  · rw [hlive, setRel_apply]; split
    · exact hcur
    · exact h.nodup r'
  · rw [w3, cnt_append, cnt_map _ hchg, h.cntLive r' k, hlive, setRel_apply]
    by_cases hr : r' = r
    · subst hr; simpa using hsum k
    · simp [hr, Ne.symm hr]
  · rw [hpc, hclock]
    refine ⟨?_, fun r' t0 hs => ?_⟩
    · rw [w4]; exact Nat.max_lt.mpr ⟨Nat.lt_trans hT.maxW hτ, hτ⟩
    · rcases w5 r' t0 hs with h1 | h1
      · exact Nat.le_trans (hT.sess r' t0 h1) (Nat.le_of_lt hτ)
      · subst h1; exact Nat.zero_le _

theorem invS_apply {st : State} {i : Inc} {op : Op} {rest : List Op} {τ : Nat} (h : InvS st i)
    (htodo : (st.threads 0).todo = op :: rest) (hpc : (st.threads 0).pc = .afterPersist τ) :
    ∃ i', InvS (applyStep st 0 (st.threads 0) op τ) i' := by
  have ht := h.time; rw [hpc] at ht; obtain ⟨hτ, hT⟩ := ht
  have hfin : ∀ (o : Out) (g : Nat), (setThread st.threads 0 ((st.threads 0).finish o g) 0).pc = .start :=
    fun o g => by rw [setThread_same, finish_pc htodo]
  cases op with
  | insert r ts =>
    have hm := insertMem_mem ts (st.live r)
    have hn := insertMem_new ts (st.live r)
    cases hnw : (insertMem (st.live r) ts).2 with
    | nil =>
      simp only [applyStep, h.hinc, hnw, List.isEmpty_nil, if_true, Bool.not_true, Bool.false_eq_true, if_false]
      refine ⟨i, h.same rfl h.hinc.symm ?_ ?_⟩
      · show setRel st.live r _ = _
        rw [insertMem_nochange ts _ hnw, setRel_self]
      · show TimeAt i st.clock (setThread _ _ _ 0).pc
        rw [hfin]; exact hT.mono (Nat.le_of_lt hτ)
    | cons a l =>
      have w1 := (write_alive i r (a :: l) τ 1 h.alive (fun t0 hs => hT.sess r t0 hs)).1
      simp only [applyStep, h.hinc, hnw, List.isEmpty_cons, Bool.false_eq_true, if_false, w1, Bool.not_true]
      refine ⟨_, h.shadow hτ hT (insertMem_nodup ts _ (h.nodup r)) (hnw ▸ insertMem_new_nodup ts (st.live r))
        (fun k => ?_) rfl rfl rfl rfl (hfin _ _)⟩
      rw [← hnw]
      -- old count + diff = new count: a live tuple is not new (1 + 0), a requested one that is not live is (0 + 1)
      by_cases hk : k ∈ st.live r <;> by_cases hk2 : k ∈ ts <;> simp [hn k, hm k, hk, hk2]
  | delete r ts =>
    by_cases hrem : (st.live r).length - (deleteMem (st.live r) ts).1.length = 0
    · simp only [applyStep, h.hinc, hrem, beq_self_eq_true, if_true, Bool.not_true, Bool.false_eq_true, if_false]
      refine ⟨i, h.same rfl h.hinc.symm ?_ ?_⟩
      · show setRel st.live r _ = _
        rw [deleteMem_nochange _ _ hrem, setRel_self]
      · show TimeAt i st.clock (setThread _ _ _ 0).pc
        rw [hfin]; exact hT.mono (Nat.le_of_lt hτ)
    · have w1 := (write_alive i r (deleteMem (st.live r) ts).2 τ (-1) h.alive (fun t0 hs => hT.sess r t0 hs)).1
      have hb : ((st.live r).length - (deleteMem (st.live r) ts).1.length == 0) = false := by simpa using hrem
      simp only [applyStep, h.hinc, hb, Bool.false_eq_true, if_false, w1, Bool.not_true]
      refine ⟨_, h.shadow hτ hT ((h.nodup r).sublist List.filter_sublist) ((h.nodup r).sublist List.filter_sublist)
        (fun k => ?_) rfl rfl rfl rfl (hfin _ _)⟩
      -- a live tuple that is requested goes (1 - 1), every other count stays
      by_cases hk : k ∈ st.live r <;> by_cases hk2 : k ∈ ts <;> simp [hk, hk2]
  | _ => exact ⟨i, h⟩

theorem stepS {st st' : State} {i : Inc} {t : Tid} (h : InvS st i) (hs : step st t = .ok st') : ∃ i', InvS st' i' := by
  obtain ⟨op, rest, ht, htodo, hstep⟩ := step_cases hs
  obtain rfl : t = 0 := by rw [h.n1] at ht; exact Nat.lt_one_iff.mp ht
  -- a thread that returns stands at `start` again, where the invariant asks for `TimeOK` at the clock
  have hfin : ∀ (o : Out) (g : Nat), TimeAt i st.clock (setThread st.threads 0 ((st.threads 0).finish o g) 0).pc :=
    fun o g => by rw [setThread_same, finish_pc htodo]; exact h.time.now
  cases hstep with
  | ret out => exact ⟨i, h.same rfl rfl rfl (hfin _ _)⟩
  | readc j r hj =>
    obtain rfl : j = i := Option.some.inj (hj.symm.trans h.hinc)
    have hr := readc_alive j r h.alive
    refine ⟨_, h.n1, rfl, hr.1, h.nodup, fun r' k => hr.2.1 ▸ h.cntLive r' k, ?_⟩
    show TimeAt _ st.clock (setThread _ _ _ 0).pc
    rw [setThread_same, finish_pc htodo]
    exact ⟨hr.2.2.1 ▸ h.time.now.maxW, fun r' t0 hs' => hr.2.2.2 r' t0 hs' ▸ h.time.now.maxW⟩
  | rule hop =>
    rcases hop with ⟨v, r, rfl⟩ | ⟨v, rfl⟩
    · exact ⟨i, h.same rfl rfl rfl (hfin _ _)⟩
    · simp only [ruleStep]; split <;> exact ⟨i, h.same rfl rfl rfl (hfin _ _)⟩
  | time =>
    refine ⟨i, h.same rfl rfl rfl ?_⟩
    show TimeAt i (st.clock + 1) (setThread _ _ _ 0).pc
    rw [setThread_same]; exact ⟨Nat.lt_succ_self _, h.time.now⟩
  | persist τ lg hpc =>
    refine ⟨i, h.same rfl rfl rfl ?_⟩
    show TimeAt i st.clock (setThread _ _ _ 0).pc
    rw [setThread_same]; have ht := h.time; rw [hpc] at ht; exact ht
  | apply τ hpc => exact invS_apply h htodo hpc

theorem lastState_invS (sched : List Tid) (st : State) (i : Inc) (h : InvS st i) : ∃ i', InvS (lastState st sched) i' :=
  trace_induct (P := fun s => ∃ i', InvS s i') (fun _ _ _ ⟨_, h⟩ hs => stepS h hs) sched st ⟨i, h⟩ _
    (lastState_mem sched st)

theorem invS_init (p : List Op) : InvS (init [p] true) {} := by
  refine ⟨rfl, rfl, rfl, ?_, ?_, ?_⟩
  · intro r; simp [init]
  · intro r k; simp [init, cnt]
  · exact ⟨Nat.zero_lt_one, fun r t0 hs => nomatch hs⟩

theorem invS_read {st : State} {i : Inc} (h : InvS st i) (r : Rel) :
    ∃ l, (i.readc r).2 = .rows l ∧ ∀ k, k ∈ l ↔ k ∈ st.live r := by
  unfold Inc.readc
  simp only [h.alive, Bool.false_eq_true, if_false]
  refine ⟨_, rfl, ?_⟩
  intro k
  have hc := h.cntLive r k
  change cnt i.arr r k = _ at hc
  simp only [List.mem_filter, List.mem_eraseDups, decide_eq_true_eq]
  show _ ∧ cnt i.arr r k > 0 ↔ _
  constructor
  · rintro ⟨_, hpos⟩
    by_cases hk : k ∈ st.live r
    · exact hk
    · rw [hc, if_neg hk] at hpos; exact absurd hpos (by decide)
  · intro hk
    rw [hc, if_pos hk]
    refine ⟨cnt_ne_zero_mem (by rw [hc, if_pos hk]; decide), by decide⟩

end ILV.EStep
