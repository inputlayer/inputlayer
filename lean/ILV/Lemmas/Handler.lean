/-
  Facts about the functions of the handler model (ILV.Model.Handler) that C27, C29 and C30 share: which
  knowledge graphs a world holds, and what the results of `query_program_with_session`, of the
  session interception and of the fast path can be.
-/
import ILV.Model.Handler
namespace ILV.Handler
open ILV ILV.Text ILV.Gen.C28

/-- Case split on an `if` under a predicate, leaving the branches as they are. (`split` rewrites the
    whole goal by `simp`, which is slow on the large terms of the handler model.) -/
theorem of_ite {α : Sort _} {Φ : α → Prop} {c : Prop} [Decidable c] {a b : α} (ha : c → Φ a) (hb : ¬c → Φ b) :
    Φ (if c then a else b) := by
  by_cases hc : c
  · rw [if_pos hc]; exact ha hc
  · rw [if_neg hc]; exact hb hc

theorem hasKg_iff (w : World) (n : String) : hasKg w n = true ↔ n ∈ w.kgs.map (·.name) := by
  simp [hasKg]

theorem names_contains (w : World) (n : String) : (w.kgs.map (·.name)).contains n = hasKg w n := by
  rw [Bool.eq_iff_iff, List.contains_iff_mem, hasKg_iff]

theorem setRel_name (k : Kg) (r : String) (ts : List Tuple) : (setRel k r ts).name = k.name := by
  unfold setRel; split <;> rfl

theorem updKg_names (w : World) (n : String) (f : Kg → Kg) (hf : ∀ k, (f k).name = k.name) :
    (updKg w n f).kgs.map (·.name) = w.kgs.map (·.name) := by
  unfold updKg
  rw [List.map_map]
  refine List.map_congr_left fun k _ => ?_
  show (if k.name == n then f k else k).name = k.name
  split
  · exact hf k
  · rfl

theorem finish_trace (P : Parser) (s : QState) (tr : List Event) : (finish P s tr).trace = tr := by
  unfold finish
  split
  · rfl
  · split
    · rfl
    · split
      · rfl
      · split <;> rfl

theorem postProcess_trace (w : World) (role : Option (String × Role)) (whole : Option Stmt) (sraw : Option Sess) (r : Out) :
    (postProcess w role whole sraw r).trace = r.trace := rfl

theorem queryWithSession_exits {Φ : Out → Prop} (P : Parser) (w : World) (u : String) (text : List Char)
    (plain : (∀ se, findSess w u = some se → se.closed = true) → Φ (queryProgram P w none text))
    (clean : ∀ se, findSess w u = some se → se.closed = false → Φ (queryProgram P w (some se.kg) text))
    (err : ∀ e, Φ ⟨w, .err e, []⟩)
    (scan : ∀ se l rel n, findSess w u = some se → se.closed = false → logicalLines text = [l] →
      parseStatement P l = some ⟨.query, .query rel n⟩ →
      Φ ⟨w, .rows (scanRows w se.kg rel se.facts), [⟨⟨.query, .query rel n⟩, se.kg⟩]⟩) :
    Φ (queryWithSession P w u text) := by
  unfold queryWithSession
  split
  · rename_i hf
    exact plain fun _ h => nomatch hf.symm.trans h
  · rename_i se hf
    refine of_ite (fun hc => plain fun _ h => by cases hf.symm.trans h; exact hc) fun hc => ?_
    have hc : se.closed = false := Bool.eq_false_iff.2 hc
    refine of_ite (fun _ => clean se hf hc) fun _ => of_ite (fun _ => err _) fun _ => of_ite (fun _ => err _) fun _ => ?_
    split
    · rename_i l hl
      refine of_ite (fun _ => err _) fun _ => ?_
      split
      · rename_i rel n hp
        exact scan se l rel n hf hc hl hp
      · exact err _
    · exact err _

/-- the reply, if there is one, ran nothing or exactly the single statement, on `kg` -/
def AtMost (single : Option Stmt) (kg : String) : Option Out → Prop
  | none => True
  | some o => o.trace = [] ∨ ∃ st, single = some st ∧ o.trace = [⟨st, kg⟩]

theorem AtMost.trace {single : Option Stmt} {kg : String} {o : Out} (h : AtMost single kg (some o)) :
    ∀ e ∈ o.trace, e.kg = kg ∧ single = some e.stmt := by
  rcases h with h | ⟨st, hs, h⟩
  · rw [h]; exact fun _ h => nomatch h
  · rw [h]; exact List.forall_mem_singleton.2 ⟨rfl, hs⟩

theorem sessionIntercept_atMost (w : World) (sraw : Option Sess) (whole : Option Stmt) (curKg : Option String) :
    AtMost whole (curKg.getD "default") (sessionIntercept w sraw whole curKg) := by
  unfold sessionIntercept
  split
  case h_1 =>
    exact of_ite (fun _ => .inl rfl) fun _ => of_ite (fun _ => .inl rfl) fun _ => .inr ⟨_, rfl, rfl⟩
  case h_2 =>
    exact of_ite (fun _ => .inl rfl) fun _ => of_ite (fun _ => .inl rfl) fun _ => .inr ⟨_, rfl, rfl⟩
  case h_3 =>
    exact .inl rfl
  case h_4 =>
    exact .inl rfl
  case h_5 =>
    exact .inl rfl
  case h_6 =>
    trivial

theorem fastPath_atMost (w : World) (sraw : Option Sess) (single : Option Stmt) (cur : String) :
    AtMost single cur (fastPath w sraw single cur) := by
  unfold fastPath
  split
  case h_1 =>
    split
    · exact .inl rfl
    · exact of_ite (fun _ => .inl rfl) fun _ => .inr ⟨_, rfl, rfl⟩
  case h_2 =>
    split
    · exact .inl rfl
    · exact .inr ⟨_, rfl, rfl⟩
  case h_3 =>
    exact .inr ⟨_, rfl, rfl⟩
  case h_4 =>
    exact of_ite (fun _ => .inl rfl) fun _ => of_ite (fun _ => .inl rfl) fun _ =>
      of_ite (fun _ => .inl rfl) fun _ => .inr ⟨_, rfl, rfl⟩
  case h_5 =>
    split
    · exact .inl rfl
    · exact of_ite (fun _ => .inr ⟨_, rfl, rfl⟩) fun _ => .inl rfl
  case h_6 =>
    exact of_ite (fun _ => .inl rfl) fun _ => of_ite (fun _ => .inl rfl) fun _ => trivial
  case h_7 =>
    trivial

theorem sraw_found (w : World) (rq : Req) (se : Sess) (h : sessOf w rq = some se) :
    findSess w se.user = some se := by
  unfold sessOf at h
  split at h
  · cases hu : rq.user with
    | none => rw [hu] at h; cases h
    | some u =>
      rw [hu] at h
      have hf : findSess w u = some se := h
      have hu' : se.user = u := by simpa using List.find?_some hf
      rw [hu']; exact hf
  · cases h

theorem startKgOf_session (rq : Req) (se : Sess) (hq : startsWithChar '?' (trim rq.text) = true) :
    startKgOf rq (some se) = if se.closed then "default" else se.kg := by
  unfold startKgOf
  cases hc : se.closed <;> simp [hq, Option.filter, hc]

theorem startKgOf_effective (rq : Req) (sraw : Option Sess) (effKg : Option String)
    (heff : effectiveKg rq.kgArg sraw = some effKg)
    (hq : startsWithChar '?' (trim rq.text) = false ∨ sraw = none) :
    startKgOf rq sraw = effKg.getD "default" := by
  have hb : (startsWithChar '?' (trim rq.text) && sraw.isSome) = false := by
    rcases hq with h | rfl
    · rw [h]; rfl
    · exact Bool.and_false _
  unfold startKgOf
  simp only [hb, Bool.false_eq_true, if_false]
  unfold effectiveKg at heff
  cases hk : rq.kgArg with
  | some k => rw [hk] at heff; cases heff; rfl
  | none =>
    rw [hk] at heff
    cases sraw with
    | none => cases heff; rfl
    | some se =>
      cases hc : se.closed with
      | true => simp [hc] at heff
      | false => simp [hc] at heff; subst heff; simp [Option.filter, hc]

end ILV.Handler
