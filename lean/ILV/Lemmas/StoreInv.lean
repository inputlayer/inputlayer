/-
  The persist layer of the storage model (ILV.Model.Store) under every operation.

  * `Frame` — for any codec, failing or not, the persist functions of the write path change nothing but
    shards and WAL;
  * `PInv`  — persist-level consistency (meta file = memory, WAL ↔ buffers, everything stored is "good"),
    kept by every operation for a codec that is the identity on the tuples in use;
  * `Maint` — what a maintenance step (flush / save / compact / WAL-size flush) may change: nothing but
    the arrangement of the log; per-tuple sums, live state, arities and the clock are untouched.
-/
import ILV.Lemmas.AList
import ILV.Lemmas.Consolidate
namespace ILV.Store
open ILV ILV.Batch ILV.Props.C31

def shardOf (e : Engine) (r : String) : Shard := (aget e.shards r).getD {}
def logOf (e : Engine) (r : String) : List Update := readShard (shardOf e r)
def bufferOf (e : Engine) (r : String) : List Update := (shardOf e r).buffer
def walFor (w : List (String × Update)) (r : String) : List Update := (w.filter (fun p => p.1 = r)).map (·.2)

theorem shardOf_of_aget {e : Engine} {s : String} {sh : Shard} (h : aget e.shards s = some sh) : shardOf e s = sh := by
  rw [shardOf, h]; rfl

theorem shardOf_of_shards {e e' : Engine} {s : String} {sh : Shard} (h : e'.shards = aset e.shards s sh) (r : String) :
    shardOf e' r = if r = s then sh else shardOf e r := by
  rw [shardOf, h, getD_aget_aset]; rfl

theorem shardOf_setShard (e : Engine) (s r : String) (sh : Shard) :
    shardOf (setShard e s sh) r = if r = s then sh else shardOf e r :=
  shardOf_of_shards rfl r

theorem logOf_of_shards {e e' : Engine} {s : String} {sh : Shard} (h : e'.shards = aset e.shards s sh) (r : String) :
    logOf e' r = if r = s then readShard sh else logOf e r := by
  rw [logOf, shardOf_of_shards h]; split <;> rfl

theorem bufferOf_of_shards {e e' : Engine} {s : String} {sh : Shard} (h : e'.shards = aset e.shards s sh) (r : String) :
    bufferOf e' r = if r = s then sh.buffer else bufferOf e r := by
  rw [bufferOf, shardOf_of_shards h]; split <;> rfl

theorem walFor_append (a b : List (String × Update)) (r : String) : walFor (a ++ b) r = walFor a r ++ walFor b r := by
  simp only [walFor, List.filter_append, List.map_append]

theorem walFor_cons (p : String × Update) (w : List (String × Update)) (r : String) :
    walFor (p :: w) r = if p.1 = r then p.2 :: walFor w r else walFor w r := by
  by_cases h : p.1 = r <;> simp [walFor, h]

theorem walFor_ents (s r : String) (us : List Update) :
    walFor (us.map (fun u => (s, u))) r = if s = r then us else [] := by
  induction us with
  | nil => simp only [List.map_nil, ite_self]; rfl
  | cons u us ih => rw [List.map_cons, walFor_cons, ih]; split <;> rfl

theorem walFor_eq_nil {w : List (String × Update)} {r : String} : walFor w r = [] ↔ ∀ p ∈ w, p.1 ≠ r := by
  simp only [walFor, List.map_eq_nil_iff, List.filter_eq_nil_iff, decide_eq_true_eq, ne_eq]

theorem eq_nil_of_walFor_nil (w : List (String × Update)) (h : ∀ r, walFor w r = []) : w = [] := by
  cases w with
  | nil => rfl
  | cons p ps =>
    have := h p.1
    rw [walFor_cons, if_pos rfl] at this
    cases this

theorem walFor_filter_ne (w : List (String × Update)) (s r : String) :
    walFor (w.filter (fun p => p.1 != s)) r = if r = s then [] else walFor w r := by
  rw [walFor, List.filter_filter]
  split
  · next h => rw [List.filter_eq_nil_iff.2 (fun p _ => by simp [h]), List.map_nil]
  · next h =>
    refine congrArg (List.map _) (List.filter_congr (fun p _ => ?_))
    by_cases hp : p.1 = r <;> simp [hp, h]

theorem eq_of_snd_none {x : R} (h : x.2 = none) : x = (x.1, none) := by rw [← h]

/-- the engine after the buffer of shard `s` (contents `sh`) went to a batch file that reads back as `b`. -/
def flushed (c : Codec) (e : Engine) (s : String) (sh : Shard) (b : List Update) : Engine :=
  { e with shards := aset e.shards s (flushedShard sh b), wal := walRemove c e.wal s, walBuf := [] }

theorem flush_of_empty {c : Codec} {e : Engine} {s : String} {sh : Shard} (h : aget e.shards s = some sh)
    (hb : sh.buffer = []) : flush c e s = (e, none) := by
  simp only [flush, h, hb, List.isEmpty_nil, if_true]

theorem flush_of_batch {c : Codec} {e : Engine} {s : String} {sh : Shard} {b : List Update} (h : aget e.shards s = some sh)
    (hb : sh.buffer ≠ []) (hc : c.batch sh.buffer = .ok b) : flush c e s = (flushed c e s sh b, none) := by
  simp only [flush, h, List.isEmpty_iff, hb, if_false, hc, flushed]

theorem flushMany_cons_ok {c : Codec} {e : Engine} {s : String} (ss : List String) (h : (flush c e s).2 = none) :
    flushMany c e (s :: ss) = flushMany c (flush c e s).1 ss := by
  rw [flushMany, eq_of_snd_none h]

theorem compactMany_cons_ok {c : Codec} {e : Engine} {s : String} (ss : List String) (h : (compactShard c e s).2 = none) :
    compactMany c e (s :: ss) = compactMany c (compactShard c e s).1 ss := by
  rw [compactMany, eq_of_snd_none h]

theorem ite_ind {α} {motive : α → Prop} (p : Prop) [Decidable p] (a b : α) (ha : p → motive a) (hb : ¬ p → motive b) :
    motive (if p then a else b) := by
  split
  · next h => exact ha h
  · next h => exact hb h

theorem append_cases {motive : R → Prop} (c : Codec) (e : Engine) (s : String) (us : List Update)
    (nil : us = [] → motive (e, none))
    (one : motive (flush c (appendCore e s us) s))
    (all : motive (flushMany c (appendCore e s us) (dirty (appendCore e s us))))
    (none : motive (appendCore e s us, none)) : motive (append c e s us) :=
  ite_ind _ _ _ (fun h => nil (List.isEmpty_iff.1 h)) fun _ =>
    ite_ind _ _ _ (fun _ => one) fun _ => ite_ind _ _ _ (fun _ => all) fun _ => none

/-- a compaction that does not fail replaces the batches of the shard by `bs` whose concatenation is the
    consolidation of the old ones (none if that is empty, else the one batch read back). -/
theorem compactShard_ok {c : Codec} {e : Engine} {s : String} {sh : Shard} (hf : (flush c e s).2 = none)
    (hsh : aget (flush c e s).1.shards s = some sh)
    (hc : c.batch (consolidate sh.batches.flatten) = .ok (consolidate sh.batches.flatten)) :
    ∃ bs up, bs.flatten = consolidate sh.batches.flatten ∧ compactShard c e s =
      (setShard (flush c e s).1 s { sh with batches := bs, upper := up, diskBatches := bs, diskUpper := up }, none) := by
  rw [compactShard, eq_of_snd_none hf]
  by_cases hemp : consolidate sh.batches.flatten = []
  · exact ⟨[], sh.upper, hemp.symm, by simp only [hsh, hemp, List.isEmpty_nil, if_true]⟩
  · exact ⟨[_], max sh.upper (upperOf (consolidate sh.batches.flatten)), List.flatten_singleton,
      by simp only [hsh, List.isEmpty_iff, hemp, if_false, hc]⟩

theorem saveAll_ok {c : Codec} {e : Engine} (h : (flushMany c e (shardNames e)).2 = none) :
    saveAll c e = (walSync (flushMany c e (shardNames e)).1, none) := by
  rw [saveAll, eq_of_snd_none h]

theorem compactAll_ok {c : Codec} {e : Engine} (h : (compactMany c e (shardNames e)).2 = none) :
    compactAll c e = (walSync (compactMany c e (shardNames e)).1, none) := by
  rw [compactAll, eq_of_snd_none h]

theorem restart_ok {c : Codec} {e : Engine} (h : (reopenPersist c e).2 = none) :
    restart c e = (loadKgs (reopenPersist c e).1, none) := by
  rw [restart, eq_of_snd_none h]

/-- the persist layer right after the shard metas were loaded and the WAL lines `entries` replayed. -/
def reopened (e : Engine) (entries : List (String × Update)) : Engine :=
  { cfg := e.cfg, shards := replay (e.shards.map (fun p => (p.1, loadShard p.2))) entries, wal := e.wal ++ e.walBuf }

theorem reopenPersist_eq (c : Codec) (e : Engine) : reopenPersist c e =
    if (walRead c (e.wal ++ e.walBuf)).isEmpty then (reopened e (walRead c (e.wal ++ e.walBuf)), none)
    else flushMany c (reopened e (walRead c (e.wal ++ e.walBuf))) (dirty (reopened e (walRead c (e.wal ++ e.walBuf)))) := rfl

structure Frame (e e' : Engine) : Prop where
  cfg : e'.cfg = e.cfg
  live : e'.live = e.live
  arity : e'.arity = e.arity
  dead : e'.dead = e.dead

theorem Frame.refl (e : Engine) : Frame e e := ⟨rfl, rfl, rfl, rfl⟩

theorem Frame.trans {a b d : Engine} (h1 : Frame a b) (h2 : Frame b d) : Frame a d :=
  ⟨h2.cfg.trans h1.cfg, h2.live.trans h1.live, h2.arity.trans h1.arity, h2.dead.trans h1.dead⟩

theorem flush_frame (c : Codec) (e : Engine) (s : String) : Frame e (flush c e s).1 := by
  unfold flush
  split
  · exact Frame.refl e
  · split
    · exact Frame.refl e
    · split <;> exact ⟨rfl, rfl, rfl, rfl⟩

theorem flushMany_frame (c : Codec) : ∀ (names : List String) (e : Engine), Frame e (flushMany c e names).1
  | [], e => Frame.refl e
  | s :: ss, e => by
    unfold flushMany
    have h := flush_frame c e s
    generalize flush c e s = x at h
    obtain ⟨e', _ | k⟩ := x
    · exact h.trans (flushMany_frame c ss e')
    · exact h

theorem append_frame (c : Codec) (e : Engine) (s : String) (us : List Update) : Frame e (append c e s us).1 :=
  have h0 : Frame e (appendCore e s us) := ⟨rfl, rfl, rfl, rfl⟩
  append_cases (motive := fun x => Frame e x.1) c e s us (fun _ => Frame.refl e) (h0.trans (flush_frame c _ s)) (h0.trans (flushMany_frame c _ _)) h0

theorem ensureShard_frame (e : Engine) (s : String) : Frame e (ensureShard e s) := by
  unfold ensureShard; split <;> exact ⟨rfl, rfl, rfl, rfl⟩

/-- the codec is the identity on the tuples a predicate `G` (per relation) allows. -/
structure CodecOk (c : Codec) (G : String → Tuple → Prop) : Prop where
  wal : ∀ r u, G r u.data → c.wal u = some u
  batch : ∀ r us, (∀ u ∈ us, G r u.data) → c.batch us = .ok us

structure PInv (G : String → Tuple → Prop) (e : Engine) : Prop where
  notDead : e.dead = false
  keysNodup : (keys e.shards).Nodup
  /-- the shard meta file lists the batches that memory lists. -/
  disk : ∀ r, (shardOf e r).diskBatches = (shardOf e r).batches
  good : ∀ r, ∀ u ∈ logOf e r, G r u.data
  walGood : ∀ p ∈ e.wal ++ e.walBuf, G p.1 p.2.data
  /-- only this direction holds outside immediate mode: a flush of one shard drops the whole BufWriter
      (`walBuf := []`), so a non-empty buffer may have lost its lines; `async` writes none. -/
  walEmpty : ∀ r, bufferOf e r = [] → walFor (e.wal ++ e.walBuf) r = []
  walImm : e.cfg.mode = .immediate → e.walBuf = [] ∧ ∀ r, walFor e.wal r = bufferOf e r

structure Maint (e e' : Engine) : Prop where
  cfg : e'.cfg = e.cfg
  live : e'.live = e.live
  arity : e'.arity = e.arity
  time : e'.time = e.time
  sums : ∀ r t, sumOf t (logOf e' r) = sumOf t (logOf e r)
  /-- no shard disappears: `flushMany` / `compactMany` run over names collected beforehand. -/
  keysMono : ∀ k, (aget e.shards k).isSome → (aget e'.shards k).isSome

theorem Maint.refl (e : Engine) : Maint e e := ⟨rfl, rfl, rfl, rfl, fun _ _ => rfl, fun _ h => h⟩

theorem Maint.trans {a b d : Engine} (h1 : Maint a b) (h2 : Maint b d) : Maint a d :=
  ⟨h2.cfg.trans h1.cfg, h2.live.trans h1.live, h2.arity.trans h1.arity, h2.time.trans h1.time,
   fun r t => (h2.sums r t).trans (h1.sums r t), fun k h => h2.keysMono k (h1.keysMono k h)⟩

theorem PInv_congr {G} {e e' : Engine} (h : PInv G e) (h1 : e'.cfg = e.cfg) (h2 : e'.shards = e.shards)
    (h3 : e'.wal = e.wal) (h4 : e'.walBuf = e.walBuf) (h5 : e'.dead = e.dead) : PInv G e' := by
  obtain ⟨_, _, _, _, _, _, _, _⟩ := e
  obtain ⟨_, _, _, _, _, _, _, _⟩ := e'
  cases h1; cases h2; cases h3; cases h4; cases h5
  exact ⟨h.notDead, h.keysNodup, h.disk, h.good, h.walGood, h.walEmpty, h.walImm⟩

theorem PInv.wal_mem {G} {e : Engine} (h : PInv G e) {p : String × Update} (hp : p ∈ e.wal ++ e.walBuf) :
    G p.1 p.2.data ∧ bufferOf e p.1 ≠ [] :=
  ⟨h.walGood p hp, fun hb => walFor_eq_nil.1 (h.walEmpty p.1 hb) p hp rfl⟩

theorem PInv.replace {G} {e e' : Engine} (h : PInv G e) {s : String} {sh' : Shard}
    (hs : e'.shards = aset e.shards s sh') (hdead : e'.dead = e.dead)
    (hd : sh'.diskBatches = sh'.batches) (hg : ∀ u ∈ readShard sh', G s u.data)
    (hw : ∀ p ∈ e'.wal ++ e'.walBuf, G p.1 p.2.data ∧ bufferOf e' p.1 ≠ [])
    (hwi : e'.cfg.mode = .immediate → e'.walBuf = [] ∧ ∀ r, walFor e'.wal r = bufferOf e' r) : PInv G e' := by
  refine ⟨hdead.trans h.notDead, hs ▸ keys_nodup_aset h.keysNodup, fun r => ?_, fun r u hu => ?_,
    fun p hp => (hw p hp).1, fun r hr => walFor_eq_nil.2 (fun p hp e => (hw p hp).2 (e ▸ hr)), hwi⟩
  · rw [shardOf_of_shards hs]
    split
    · exact hd
    · exact h.disk r
  · rw [logOf_of_shards hs] at hu
    split at hu
    · next hr => exact hr ▸ hg u hu
    · exact h.good r u hu

theorem walRead_id {c : Codec} {G} (hc : CodecOk c G) (w : List (String × Update))
    (hw : ∀ p ∈ w, G p.1 p.2.data) : walRead c w = w := by
  induction w with
  | nil => rfl
  | cons p ps ih =>
    rw [walRead, List.filterMap_cons, hc.wal p.1 p.2 (hw p List.mem_cons_self)]
    exact congrArg (p :: ·) (ih (fun q hq => hw q (List.mem_cons_of_mem _ hq)))

theorem flushed_spec {c : Codec} {G} (hc : CodecOk c G) {e : Engine} {s : String} {sh : Shard} (h : PInv G e)
    (hsh : aget e.shards s = some sh) :
    PInv G (flushed c e s sh sh.buffer) ∧ Maint e (flushed c e s sh sh.buffer) ∧
    (∀ r, logOf (flushed c e s sh sh.buffer) r = logOf e r) ∧
    (∀ r, bufferOf (flushed c e s sh sh.buffer) r = if r = s then [] else bufferOf e r) := by
  have hsh' : (flushed c e s sh sh.buffer).shards = aset e.shards s (flushedShard sh sh.buffer) := rfl
  have hwal : (flushed c e s sh sh.buffer).wal = e.wal.filter (fun p => p.1 != s) :=
    congrArg (List.filter _) (walRead_id hc e.wal (fun p hp => h.walGood p (List.mem_append_left _ hp)))
  have hread : readShard (flushedShard sh sh.buffer) = logOf e s := by
    rw [logOf, shardOf_of_aget hsh]
    simp only [readShard, flushedShard, List.flatten_append, List.flatten_singleton, List.append_nil]
  have hlog : ∀ r, logOf (flushed c e s sh sh.buffer) r = logOf e r := by
    intro r
    rw [logOf_of_shards hsh', hread]
    split
    · next hr => rw [hr]
    · rfl
  have hbuf := bufferOf_of_shards hsh'
  refine ⟨h.replace hsh' rfl rfl (fun u hu => h.good s u (hread ▸ hu)) (fun p hp => ?_) (fun hm => ⟨rfl, fun r => ?_⟩),
    ⟨rfl, rfl, rfl, rfl, fun r t => by rw [hlog], fun k hk => isSome_aget_aset _ (Or.inl hk)⟩, hlog, hbuf⟩
  · -- the lines that stay are old lines of other shards
    rw [show (flushed c e s sh sh.buffer).walBuf = [] from rfl, List.append_nil, hwal, List.mem_filter] at hp
    rw [hbuf, if_neg (fun e => by simp [e] at hp)]
    exact h.wal_mem (List.mem_append_left _ hp.1)
  · rw [hwal, walFor_filter_ne, hbuf]
    split
    · rfl
    · exact (h.walImm hm).2 r

theorem flush_spec {c : Codec} {G} (hc : CodecOk c G) (e : Engine) (s : String) (h : PInv G e)
    (hs : (aget e.shards s).isSome) :
    (flush c e s).2 = none ∧ PInv G (flush c e s).1 ∧ Maint e (flush c e s).1 ∧
    (∀ r, logOf (flush c e s).1 r = logOf e r) ∧
    (∀ r, bufferOf (flush c e s).1 r = if r = s then [] else bufferOf e r) := by
  obtain ⟨sh, hsh⟩ := Option.isSome_iff_exists.1 hs
  by_cases hb : sh.buffer = []
  · rw [flush_of_empty hsh hb]
    refine ⟨rfl, h, Maint.refl e, fun _ => rfl, fun r => ?_⟩
    split
    · next hr => rw [hr, bufferOf, shardOf_of_aget hsh, hb]
    · rfl
  · rw [flush_of_batch hsh hb (hc.batch s sh.buffer (fun u hu =>
      h.good s u (by rw [logOf, shardOf_of_aget hsh]; exact List.mem_append_right _ hu)))]
    exact ⟨rfl, flushed_spec hc h hsh⟩

theorem flushMany_spec {c : Codec} {G} (hc : CodecOk c G) : ∀ (names : List String) (e : Engine), PInv G e →
    (∀ s ∈ names, (aget e.shards s).isSome) →
    (flushMany c e names).2 = none ∧ PInv G (flushMany c e names).1 ∧ Maint e (flushMany c e names).1 ∧
    (∀ r, logOf (flushMany c e names).1 r = logOf e r) ∧
    (∀ r, bufferOf (flushMany c e names).1 r = if r ∈ names then [] else bufferOf e r) := by
  intro names
  induction names with
  | nil => intro e h _; exact ⟨rfl, h, Maint.refl e, fun _ => rfl, fun r => by simp [flushMany]⟩
  | cons s ss ih =>
    intro e h hs
    obtain ⟨f1, f2, f3, f4, f5⟩ := flush_spec hc e s h (hs s List.mem_cons_self)
    obtain ⟨g1, g2, g3, g4, g5⟩ := ih (flush c e s).1 f2
      (fun x hx => f3.keysMono x (hs x (List.mem_cons_of_mem _ hx)))
    rw [flushMany_cons_ok ss f1]
    refine ⟨g1, g2, f3.trans g3, fun r => (g4 r).trans (f4 r), fun r => ?_⟩
    rw [g5, f5]
    by_cases h1 : r ∈ ss
    · simp [h1]
    · by_cases h2 : r = s <;> simp [h1, h2]

theorem mem_dirty_isSome (e : Engine) (s : String) (h : s ∈ dirty e) : (aget e.shards s).isSome := by
  apply aget_isSome_of_mem_keys
  obtain ⟨p, hp, rfl⟩ := List.mem_map.1 h
  exact List.mem_map.2 ⟨p, (List.mem_filter.1 hp).1, rfl⟩

theorem mem_shardNames_isSome (e : Engine) (s : String) (h : s ∈ shardNames e) : (aget e.shards s).isSome :=
  aget_isSome_of_mem_keys h

theorem mem_walAppend (e : Engine) (ents : List (String × Update)) (p : String × Update) :
    p ∈ (walAppend e ents).1 ++ (walAppend e ents).2 → p ∈ e.wal ++ e.walBuf ∨ p ∈ ents := by
  unfold walAppend
  cases e.cfg.mode <;> simp only [List.mem_append]
  · rintro ((hp | hp) | hp)
    · exact .inl (.inl hp)
    · exact .inr hp
    · exact .inl (.inr hp)
  · rintro (hp | hp | hp)
    · exact .inl (.inl hp)
    · exact .inl (.inr hp)
    · exact .inr hp
  · exact .inl

theorem walAppend_immediate {e : Engine} (h : e.cfg.mode = .immediate) (ents : List (String × Update)) :
    walAppend e ents = (e.wal ++ ents, e.walBuf) := by
  rw [walAppend, h]

theorem appendCore_spec {G} (e : Engine) (s : String) (us : List Update) (h : PInv G e)
    (hg : ∀ u ∈ us, G s u.data) :
    PInv G (appendCore e s us) ∧
    (∀ r, logOf (appendCore e s us) r = if r = s then logOf e s ++ us else logOf e r) := by
  have hsh' : (appendCore e s us).shards = aset e.shards s
      { shardOf e s with buffer := (shardOf e s).buffer ++ us, upper := max (shardOf e s).upper (upperOf us) } := rfl
  have hlog : ∀ r, logOf (appendCore e s us) r = if r = s then logOf e s ++ us else logOf e r := by
    intro r
    rw [logOf_of_shards hsh']
    split
    · exact (List.append_assoc _ _ _).symm
    · rfl
  have hbuf : ∀ r, bufferOf (appendCore e s us) r = if r = s then bufferOf e s ++ us else bufferOf e r :=
    bufferOf_of_shards hsh'
  refine ⟨h.replace hsh' rfl (h.disk s) (fun u hu => ?_) (fun p hp => ?_) (fun hm => ?_), hlog⟩
  · rcases List.mem_append.1 hu with hu | hu
    · exact h.good s u (List.mem_append_left _ hu)
    · exact (List.mem_append.1 hu).elim (fun hu => h.good s u (List.mem_append_right _ hu)) (hg u)
  · rw [hbuf]
    rcases mem_walAppend e _ p hp with hp | hp
    · obtain ⟨g, b⟩ := h.wal_mem hp
      refine ⟨g, ?_⟩
      split
      · next hps => exact fun e => b (hps ▸ (List.append_eq_nil_iff.1 e).1)
      · exact b
    · obtain ⟨u, hu, rfl⟩ := List.mem_map.1 hp
      exact ⟨hg u hu, by rw [if_pos rfl]; exact fun e => List.ne_nil_of_mem hu (List.append_eq_nil_iff.1 e).2⟩
  · have hm' : e.cfg.mode = .immediate := hm
    show (walAppend e _).2 = [] ∧ ∀ r, walFor (walAppend e _).1 r = _
    rw [walAppend_immediate hm']
    refine ⟨(h.walImm hm').1, fun r => ?_⟩
    rw [walFor_append, hbuf, (h.walImm hm').2 r, walFor_ents]
    split
    · next hrs => rw [if_pos hrs.symm, hrs]
    · next hrs => rw [if_neg (fun e => hrs e.symm), List.append_nil]

theorem append_spec {c : Codec} {G} (hc : CodecOk c G) (e : Engine) (s : String) (us : List Update) (h : PInv G e)
    (hg : ∀ u ∈ us, G s u.data) :
    (append c e s us).2 = none ∧ PInv G (append c e s us).1 ∧
    (∀ r, logOf (append c e s us).1 r = if r = s then logOf e s ++ us else logOf e r) := by
  obtain ⟨a1, a6⟩ := appendCore_spec e s us h hg
  refine append_cases c e s us (motive := fun x => x.2 = none ∧ PInv G x.1 ∧
    ∀ r, logOf x.1 r = if r = s then logOf e s ++ us else logOf e r) ?_ ?_ ?_ ⟨rfl, a1, a6⟩
  · rintro rfl
    refine ⟨rfl, h, fun r => ?_⟩
    split
    · next hr => rw [hr, List.append_nil]
    · rfl
  · obtain ⟨f1, f2, _, f4, _⟩ := flush_spec hc (appendCore e s us) s a1 (isSome_aget_aset _ (Or.inr rfl))
    exact ⟨f1, f2, fun r => (f4 r).trans (a6 r)⟩
  · obtain ⟨f1, f2, _, f4, _⟩ := flushMany_spec hc (dirty (appendCore e s us)) (appendCore e s us) a1
      (fun x hx => mem_dirty_isSome _ x hx)
    exact ⟨f1, f2, fun r => (f4 r).trans (a6 r)⟩

theorem bufferOf_setShard {e : Engine} {s : String} {sh' : Shard} (hb : sh'.buffer = bufferOf e s) (r : String) :
    bufferOf (setShard e s sh') r = bufferOf e r := by
  rw [bufferOf, shardOf_setShard]
  split
  · next hr => rw [hb, hr]
  · rfl

theorem PInv_setShard {G} {e : Engine} (h : PInv G e) (s : String) (sh' : Shard)
    (hb : sh'.buffer = bufferOf e s) (hd : sh'.diskBatches = sh'.batches)
    (hg : ∀ u ∈ readShard sh', G s u.data) : PInv G (setShard e s sh') :=
  h.replace rfl rfl hd hg (fun p hp => bufferOf_setShard hb p.1 ▸ h.wal_mem hp)
    (fun hm => ⟨(h.walImm hm).1, fun r => ((h.walImm hm).2 r).trans (bufferOf_setShard hb r).symm⟩)

theorem ensureShard_spec {G} (e : Engine) (s : String) (h : PInv G e) :
    PInv G (ensureShard e s) ∧ (∀ r, logOf (ensureShard e s) r = logOf e r) := by
  unfold ensureShard
  cases hs : aget e.shards s with
  | some sh => exact ⟨h, fun _ => rfl⟩
  | none =>
    have hsh : shardOf e s = {} := by rw [shardOf, hs]; rfl
    refine ⟨PInv_setShard h s {} (by rw [bufferOf, hsh]) rfl (fun u hu => by cases hu), fun r => ?_⟩
    rw [logOf, shardOf_setShard]
    split
    · next hr => rw [hr, logOf, hsh]
    · rfl

theorem setBatches_spec {G} {e : Engine} (h : PInv G e) {s : String} {sh : Shard} (hsh : aget e.shards s = some sh)
    (bs : List (List Update)) (up : Nat) (hg : ∀ u ∈ bs.flatten, G s u.data)
    (hsum : ∀ t, sumOf t bs.flatten = sumOf t sh.batches.flatten) :
    PInv G (setShard e s { sh with batches := bs, upper := up, diskBatches := bs, diskUpper := up }) ∧
    Maint e (setShard e s { sh with batches := bs, upper := up, diskBatches := bs, diskUpper := up }) ∧
    (∀ r, bufferOf (setShard e s { sh with batches := bs, upper := up, diskBatches := bs, diskUpper := up }) r = bufferOf e r) := by
  have hshard : shardOf e s = sh := shardOf_of_aget hsh
  have hb : sh.buffer = bufferOf e s := by rw [bufferOf, hshard]
  refine ⟨PInv_setShard h s _ hb rfl ?_, ⟨rfl, rfl, rfl, rfl, fun r t => ?_, fun k hk => isSome_aget_aset _ (Or.inl hk)⟩,
    bufferOf_setShard hb⟩
  · intro u hu
    rcases List.mem_append.1 hu with hu | hu
    · exact hg u hu
    · exact h.good s u (by rw [logOf, hshard]; exact List.mem_append_right _ hu)
  · rw [logOf, shardOf_setShard]
    split
    · next hr => rw [hr, logOf, hshard]; simp only [readShard, sumOf_append, hsum]
    · rfl

theorem compactShard_spec {c : Codec} {G} (hc : CodecOk c G) (e : Engine) (s : String) (h : PInv G e)
    (hs : (aget e.shards s).isSome) :
    (compactShard c e s).2 = none ∧ PInv G (compactShard c e s).1 ∧ Maint e (compactShard c e s).1 ∧
    (∀ r, bufferOf (compactShard c e s).1 r = if r = s then [] else bufferOf e r) := by
  obtain ⟨f1, f2, f3, _, f5⟩ := flush_spec hc e s h hs
  obtain ⟨sh, hsh⟩ := Option.isSome_iff_exists.1 (f3.keysMono s hs)
  have hgoodF : ∀ u ∈ consolidate sh.batches.flatten, G s u.data := by
    intro u hu
    obtain ⟨y, hy, e'⟩ := consolidate_data_mem _ u hu
    exact e' ▸ f2.good s y (by rw [logOf, shardOf_of_aget hsh]; exact List.mem_append_left _ hy)
  obtain ⟨bs, up, hbs, heq⟩ := compactShard_ok f1 hsh (hc.batch s _ hgoodF)
  rw [heq]
  obtain ⟨p, m, b⟩ := setBatches_spec f2 hsh bs up (fun u hu => hgoodF u (hbs ▸ hu))
    (fun t => by rw [hbs, sumOf_consolidate])
  exact ⟨rfl, p, f3.trans m, fun r => (b r).trans (f5 r)⟩

theorem compactMany_spec {c : Codec} {G} (hc : CodecOk c G) : ∀ (names : List String) (e : Engine), PInv G e →
    (∀ s ∈ names, (aget e.shards s).isSome) →
    (compactMany c e names).2 = none ∧ PInv G (compactMany c e names).1 ∧ Maint e (compactMany c e names).1 := by
  intro names
  induction names with
  | nil => intro e h _; exact ⟨rfl, h, Maint.refl e⟩
  | cons s ss ih =>
    intro e h hs
    obtain ⟨f1, f2, f3, _⟩ := compactShard_spec hc e s h (hs s List.mem_cons_self)
    obtain ⟨g1, g2, g3⟩ := ih (compactShard c e s).1 f2
      (fun x hx => f3.keysMono x (hs x (List.mem_cons_of_mem _ hx)))
    rw [compactMany_cons_ok ss f1]
    exact ⟨g1, g2, f3.trans g3⟩

theorem walSync_spec {G} (e : Engine) (h : PInv G e) :
    PInv G (walSync e) ∧ Maint e (walSync e) ∧ (∀ r, bufferOf (walSync e) r = bufferOf e r) := by
  refine ⟨⟨h.notDead, h.keysNodup, h.disk, h.good, ?_, ?_, ?_⟩, ⟨rfl, rfl, rfl, rfl, fun _ _ => rfl, fun _ hk => hk⟩,
    fun _ => rfl⟩
  · intro p hp; rw [walSync, List.append_nil] at hp; exact h.walGood p hp
  · intro r hr; rw [walSync, List.append_nil]; exact h.walEmpty r hr
  · intro hm
    have := h.walImm hm
    refine ⟨rfl, fun r => ?_⟩
    show walFor (e.wal ++ e.walBuf) r = _
    rw [this.1, List.append_nil]; exact this.2 r

theorem bufferOf_of_not_key (e : Engine) (r : String) (h : r ∉ shardNames e) : bufferOf e r = [] := by
  rw [bufferOf, shardOf, aget_none_of_not_mem h]; rfl

theorem saveAll_spec {c : Codec} {G} (hc : CodecOk c G) (e : Engine) (h : PInv G e) :
    (saveAll c e).2 = none ∧ PInv G (saveAll c e).1 ∧ Maint e (saveAll c e).1 ∧
    (∀ r, bufferOf (saveAll c e).1 r = []) := by
  obtain ⟨f1, f2, f3, _, f5⟩ := flushMany_spec hc (shardNames e) e h (fun s hs => mem_shardNames_isSome e s hs)
  rw [saveAll_ok f1]
  obtain ⟨w1, w2, w3⟩ := walSync_spec (flushMany c e (shardNames e)).1 f2
  refine ⟨rfl, w1, f3.trans w2, fun r => ?_⟩
  rw [w3, f5]
  split
  · rfl
  · next hr => exact bufferOf_of_not_key e r hr

theorem compactMany_sync_spec {c : Codec} {G} (hc : CodecOk c G) (e : Engine) (h : PInv G e) (names : List String)
    (hn : ∀ s ∈ names, (aget e.shards s).isSome) :
    (compactMany c e names).2 = none ∧
    PInv G (compactMany c e names).1 ∧ Maint e (compactMany c e names).1 ∧
    PInv G (walSync (compactMany c e names).1) ∧ Maint e (walSync (compactMany c e names).1) := by
  obtain ⟨f1, f2, f3⟩ := compactMany_spec hc names e h hn
  obtain ⟨w1, w2, _⟩ := walSync_spec (compactMany c e names).1 f2
  exact ⟨f1, f2, f3, w1, f3.trans w2⟩

theorem compactAll_spec {c : Codec} {G} (hc : CodecOk c G) (e : Engine) (h : PInv G e) :
    (compactAll c e).2 = none ∧ PInv G (compactAll c e).1 ∧ Maint e (compactAll c e).1 := by
  obtain ⟨f1, _, _, w1, w2⟩ := compactMany_sync_spec hc e h (shardNames e) (fun s hs => mem_shardNames_isSome e s hs)
  rw [compactAll_ok f1]
  exact ⟨rfl, w1, w2⟩

theorem compactIf_spec {c : Codec} {G} (hc : CodecOk c G) (e : Engine) (n : Nat) (h : PInv G e) :
    (compactIf c e n).1.2 = none ∧ PInv G (compactIf c e n).1.1 ∧ Maint e (compactIf c e n).1.1 := by
  unfold compactIf
  split
  · exact ⟨rfl, h, Maint.refl e⟩
  · obtain ⟨f1, f2, f3, w1, w2⟩ := compactMany_sync_spec hc e h
      ((e.shards.filter (fun p => p.2.batches.length ≥ n)).map (·.1)) (fun s hs => by
        obtain ⟨p, hp, rfl⟩ := List.mem_map.1 hs
        exact aget_isSome_of_mem_keys (List.mem_map.2 ⟨p, (List.mem_filter.1 hp).1, rfl⟩))
    simp only
    rw [eq_of_snd_none f1]
    simp only
    split
    · exact ⟨trivial, f2, f3⟩
    · exact ⟨trivial, w1, w2⟩

theorem keys_nodup_replay : ∀ (es : List (String × Update)) (m : List (String × Shard)), (keys m).Nodup → (keys (replay m es)).Nodup
  | [], _, h => h
  | (_, _) :: es, _, h => keys_nodup_replay es _ (keys_nodup_aset h)

theorem shardOf_replay : ∀ (es : List (String × Update)) (m : List (String × Shard)) (r : String),
    (aget (replay m es) r).getD {} =
      { (aget m r).getD {} with buffer := ((aget m r).getD {}).buffer ++ walFor es r } := by
  intro es
  induction es with
  | nil => intro m r; simp only [replay, walFor, List.filter_nil, List.map_nil, List.append_nil]
  | cons p es ih =>
    intro m r
    obtain ⟨s, u⟩ := p
    rw [replay, ih, getD_aget_aset, walFor_cons]
    by_cases hr : r = s
    · subst hr; simp only [if_true, List.append_assoc, List.singleton_append]
    · rw [if_neg hr, if_neg (fun e => hr e.symm)]

theorem loadShard_default : loadShard {} = {} := rfl

theorem reopened_spec {G} {e : Engine} (h : PInv G e) (hB : ∀ r, walFor (e.wal ++ e.walBuf) r = bufferOf e r) :
    PInv G (reopened e (e.wal ++ e.walBuf)) ∧ ∀ r, logOf (reopened e (e.wal ++ e.walBuf)) r = logOf e r := by
  have hshardOf : ∀ r, shardOf (reopened e (e.wal ++ e.walBuf)) r = { loadShard (shardOf e r) with buffer := bufferOf e r } := by
    intro r
    rw [shardOf, reopened, shardOf_replay, aget_map, hB, bufferOf, shardOf]
    cases aget e.shards r <;> rfl
  have hlog : ∀ r, logOf (reopened e (e.wal ++ e.walBuf)) r = logOf e r := by
    intro r
    rw [logOf, hshardOf]
    show (shardOf e r).diskBatches.flatten ++ _ = _
    rw [h.disk r]; rfl
  have hbuf : ∀ r, bufferOf (reopened e (e.wal ++ e.walBuf)) r = bufferOf e r := fun r => by rw [bufferOf, hshardOf]
  have hwal : (reopened e (e.wal ++ e.walBuf)).wal ++ (reopened e (e.wal ++ e.walBuf)).walBuf = e.wal ++ e.walBuf :=
    List.append_nil _
  refine ⟨⟨rfl, keys_nodup_replay _ _ (by rw [keys_map]; exact h.keysNodup), fun r => by rw [hshardOf]; rfl,
    fun r u hu => h.good r u (hlog r ▸ hu), fun p hp => h.walGood p (hwal ▸ hp), fun r hr => ?_,
    fun _ => ⟨rfl, fun r => ?_⟩⟩, hlog⟩
  · rw [hwal, hB, ← hbuf]; exact hr
  · show walFor (e.wal ++ e.walBuf) r = _
    rw [hB, hbuf]

/-- the engine right after `FilePersist::new`: same log, list by list. -/
theorem reopenPersist_spec {c : Codec} {G} (hc : CodecOk c G) (e : Engine) (h : PInv G e)
    (hB : ∀ r, walFor (e.wal ++ e.walBuf) r = bufferOf e r) :
    (reopenPersist c e).2 = none ∧ PInv G (reopenPersist c e).1 ∧ (reopenPersist c e).1.cfg = e.cfg ∧
    (∀ r, logOf (reopenPersist c e).1 r = logOf e r) := by
  obtain ⟨hP1, hlog1⟩ := reopened_spec h hB
  rw [reopenPersist_eq, walRead_id hc _ h.walGood]
  split
  · exact ⟨rfl, hP1, rfl, hlog1⟩
  · obtain ⟨f1, f2, f3, f4, _⟩ := flushMany_spec hc _ _ hP1 (fun x hx => mem_dirty_isSome _ x hx)
    exact ⟨f1, f2, f3.cfg, fun r => (f4 r).trans (hlog1 r)⟩

theorem liveOf_loadKgs (e : Engine) (hk : (keys e.shards).Nodup) (r : String) :
    liveOf (loadKgs e) r = recoverRel (shardOf e r) := by
  have hk' : (keys (e.shards.map (fun p => (p.1, recoverRel p.2)))).Nodup := by rw [keys_map]; exact hk
  rw [liveOf, loadKgs, aget_filter (e.shards.map (fun p => (p.1, recoverRel p.2))) (fun l => !l.isEmpty) r hk', aget_map,
    shardOf]
  cases aget e.shards r with
  | none => rfl
  | some sh =>
    show ((some (recoverRel sh)).filter _).getD [] = recoverRel sh
    cases hrec : recoverRel sh <;> rfl

theorem restart_spec {c : Codec} {G} (hc : CodecOk c G) (e : Engine) (h : PInv G e)
    (hB : ∀ r, walFor (e.wal ++ e.walBuf) r = bufferOf e r) :
    (restart c e).2 = none ∧ PInv G (restart c e).1 ∧ (restart c e).1.cfg = e.cfg ∧
    (∀ r, logOf (restart c e).1 r = logOf e r) ∧
    (∀ r, liveOf (restart c e).1 r = toTuples (consolidateToCurrent (logOf e r))) := by
  obtain ⟨f1, f2, f3, f4⟩ := reopenPersist_spec hc e h hB
  rw [restart_ok f1]
  generalize (reopenPersist c e).1 = e2 at f2 f3 f4
  refine ⟨rfl, PInv_congr f2 rfl rfl rfl rfl rfl, f3, f4, fun r => ?_⟩
  rw [← f4]; exact liveOf_loadKgs _ f2.keysNodup r

end ILV.Store
