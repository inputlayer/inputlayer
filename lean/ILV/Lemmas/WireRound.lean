/-
  C35 helper: `i64 as f64` (model `i64AsF64`) is weakly monotone in the sign-magnitude key order of
  doubles, and its result is a finite non-NaN double.
-/
import ILV.Model.WireSort
namespace ILV

theorem bitLenAux_eq (f : Nat) : ∀ m, 0 < m → m < 2 ^ f → bitLenAux f m = m.log2 + 1 := by
  induction f with
  | zero => intro m h0 h1; exact absurd h1 (by omega)
  | succ f ih =>
    intro m h0 h1
    rw [bitLenAux, if_neg (Nat.ne_of_gt h0), Nat.log2_def]
    by_cases h2 : 2 ≤ m
    · rw [if_pos h2, ih (m / 2) (Nat.div_pos h2 (by decide))
        (Nat.div_lt_of_lt_mul (by rwa [Nat.pow_succ, Nat.mul_comm] at h1)), Nat.add_comm]
    · have : m = 1 := by omega
      subst this
      cases f <;> rfl

theorem natToF64Bits_eq (m : Nat) (h0 : 0 < m) (h1 : m < 2 ^ 64) :
    natToF64Bits m = (m.log2 + 1022) * 2 ^ 52 + sigOf m m.log2 := by
  rw [natToF64Bits, if_neg (Nat.ne_of_gt h0)]
  show (bitLenAux 64 m - 1 + 1022) * 2 ^ 52 + sigOf m (bitLenAux 64 m - 1) = _
  rw [bitLenAux_eq 64 m h0 h1, Nat.add_sub_cancel]

theorem log2_mono {m m' : Nat} (h0 : 0 < m) (hle : m ≤ m') : m.log2 ≤ m'.log2 := by
  apply Nat.le_of_not_lt
  intro h
  have h1 := (Nat.log2_lt (Nat.ne_of_gt (Nat.lt_of_lt_of_le h0 hle))).1 h
  exact Nat.lt_irrefl _ (Nat.lt_of_lt_of_le h1 (Nat.le_trans (Nat.log2_self_le (Nat.ne_of_gt h0)) hle))

theorem rhe_bounds (m sh : Nat) : m / 2 ^ sh ≤ rhe m sh ∧ rhe m sh ≤ m / 2 ^ sh + 1 := by
  unfold rhe
  dsimp only
  split
  · exact ⟨Nat.le_succ _, Nat.le_refl _⟩
  · exact ⟨Nat.le_refl _, Nat.le_succ _⟩

theorem rhe_mono (m m' sh : Nat) (hle : m ≤ m') : rhe m sh ≤ rhe m' sh := by
  have hq : m / 2 ^ sh ≤ m' / 2 ^ sh := Nat.div_le_div_right hle
  rcases Nat.lt_or_eq_of_le hq with hlt | heq
  · exact Nat.le_trans (rhe_bounds m sh).2 (Nat.le_trans hlt (rhe_bounds m' sh).1)
  · -- same quotient: the remainder grows, and rounding up is monotone in the remainder
    have hr : m % 2 ^ sh ≤ m' % 2 ^ sh := by
      rw [← Nat.div_add_mod m (2 ^ sh), ← Nat.div_add_mod m' (2 ^ sh), heq] at hle
      exact Nat.le_of_add_le_add_left hle
    unfold rhe
    dsimp only
    rw [heq]
    generalize m % 2 ^ sh = r at hr
    generalize m' % 2 ^ sh = r' at hr
    generalize 2 ^ (sh - 1) = hf
    generalize m' / 2 ^ sh = q
    by_cases c1 : (decide (r > hf) || (r == hf && q % 2 == 1)) = true
    · have c2 : (decide (r' > hf) || (r' == hf && q % 2 == 1)) = true := by
        rw [Bool.or_eq_true, decide_eq_true_eq, Bool.and_eq_true, beq_iff_eq] at c1 ⊢
        rcases c1 with c | ⟨c, d⟩
        · exact .inl (Nat.lt_of_lt_of_le c hr)
        · rcases Nat.lt_or_eq_of_le hr with g | g
          · exact .inl (c ▸ g)
          · exact .inr ⟨g ▸ c, d⟩
      rw [if_pos c1, if_pos c2]; exact Nat.le_refl _
    · rw [if_neg c1]; split
      · exact Nat.le_succ _
      · exact Nat.le_refl _

theorem pow_split {a b : Nat} (h : a ≤ b) : 2 ^ b = 2 ^ a * 2 ^ (b - a) := by
  rw [← Nat.pow_add, Nat.add_sub_of_le h]

theorem sigOf_bounds (m e : Nat) (h1 : 2 ^ e ≤ m) (h2 : m < 2 ^ (e + 1)) :
    2 ^ 52 ≤ sigOf m e ∧ sigOf m e ≤ 2 * 2 ^ 52 := by
  rw [Nat.pow_succ'] at h2
  unfold sigOf
  split
  · rename_i he
    rw [pow_split he, ← Nat.mul_assoc]
    exact ⟨Nat.mul_le_mul_right _ h1, Nat.mul_le_mul_right _ (Nat.le_of_lt h2)⟩
  · rename_i he
    have hd : 0 < 2 ^ (e - 52) := Nat.two_pow_pos _
    rw [pow_split (Nat.le_of_not_le he)] at h1 h2
    have q1 : 2 ^ 52 ≤ m / 2 ^ (e - 52) := (Nat.le_div_iff_mul_le hd).2 h1
    have q2 : m / 2 ^ (e - 52) < 2 * 2 ^ 52 := (Nat.div_lt_iff_lt_mul hd).2 (by rw [Nat.mul_assoc]; exact h2)
    exact ⟨Nat.le_trans q1 (rhe_bounds m (e - 52)).1, Nat.le_trans (rhe_bounds m (e - 52)).2 q2⟩

theorem sigOf_mono (m m' e : Nat) (hle : m ≤ m') : sigOf m e ≤ sigOf m' e := by
  unfold sigOf
  split
  · exact Nat.mul_le_mul_right _ hle
  · exact rhe_mono m m' _ hle

/-- crossing to a higher exponent: the significand is at most `2 P` before and at least `P` after. -/
theorem bits_step (P e e' x y : Nat) (hlt : e + 1 ≤ e') (hx : x ≤ P + P) (hy : P ≤ y) :
    (e + 1022) * P + x ≤ (e' + 1022) * P + y := by
  calc (e + 1022) * P + x ≤ (e + 1022) * P + (P + P) := Nat.add_le_add_left hx _
    _ = (e + 1 + 1022) * P + P := by simp only [Nat.add_mul, Nat.one_mul]; ac_rfl
    _ ≤ (e' + 1022) * P + P := Nat.add_le_add_right (Nat.mul_le_mul_right _ (Nat.add_le_add_right hlt _)) _
    _ ≤ (e' + 1022) * P + y := Nat.add_le_add_left hy _

theorem natToF64Bits_mono (m m' : Nat) (hle : m ≤ m') (h1 : m' < 2 ^ 64) : natToF64Bits m ≤ natToF64Bits m' := by
  by_cases h0 : m = 0
  · rw [h0]; exact Nat.zero_le _
  · have hm : 0 < m := Nat.pos_of_ne_zero h0
    have hm' : 0 < m' := Nat.lt_of_lt_of_le hm hle
    rw [natToF64Bits_eq m hm (Nat.lt_of_le_of_lt hle h1), natToF64Bits_eq m' hm' h1]
    rcases Nat.lt_or_eq_of_le (log2_mono hm hle) with hlt | he
    · have sa := sigOf_bounds m m.log2 (Nat.log2_self_le h0) Nat.lt_log2_self
      have sb := sigOf_bounds m' m'.log2 (Nat.log2_self_le (Nat.ne_of_gt hm')) Nat.lt_log2_self
      exact bits_step _ _ _ _ _ hlt (Nat.two_mul _ ▸ sa.2) sb.1
    · rw [he]
      exact Nat.add_le_add_left (sigOf_mono m m' _ hle) _

theorem natToF64Bits_lt (m : Nat) (h1 : m < 2 ^ 64) : natToF64Bits m < 2 ^ 63 := by
  by_cases h0 : m = 0
  · rw [h0]; exact Nat.two_pow_pos _
  · have hm : 0 < m := Nat.pos_of_ne_zero h0
    rw [natToF64Bits_eq m hm h1]
    have he : m.log2 + 1022 ≤ 1085 := by have := (Nat.log2_lt h0).2 h1; omega
    have sa := (sigOf_bounds m m.log2 (Nat.log2_self_le h0) Nat.lt_log2_self).2
    calc (m.log2 + 1022) * 2 ^ 52 + sigOf m m.log2 ≤ 1085 * 2 ^ 52 + 2 * 2 ^ 52 :=
          Nat.add_le_add (Nat.mul_le_mul_right _ he) sa
      _ < 2 ^ 63 := by decide

theorem f64Key_pos (b : Nat) (hb : b < 2 ^ 63) : f64Key b = b := by
  rw [f64Key, Nat.div_eq_of_lt hb, Nat.mod_eq_of_lt hb]; rfl

theorem f64Key_neg (b : Nat) (hb : b < 2 ^ 63) : f64Key (2 ^ 63 + b) = -(b : Int) := by
  rw [f64Key, Nat.add_div_left _ (Nat.two_pow_pos 63), Nat.div_eq_of_lt hb, Nat.add_mod_left,
    Nat.mod_eq_of_lt hb]; rfl

def rkey (a : Int) : Int := f64Key (i64AsF64 a)

theorem rkey_eq (a : Int) (h : a.natAbs < 2 ^ 64) :
    rkey a = if a < 0 then - (natToF64Bits a.natAbs : Int) else (natToF64Bits a.natAbs : Int) := by
  have hb := natToF64Bits_lt a.natAbs h
  unfold rkey i64AsF64
  split
  · exact f64Key_neg _ hb
  · exact f64Key_pos _ hb

theorem rkey_mono (a a' : Int) (ha : a.natAbs < 2 ^ 64) (ha' : a'.natAbs < 2 ^ 64) (hle : a ≤ a') : rkey a ≤ rkey a' := by
  rw [rkey_eq a ha, rkey_eq a' ha']
  by_cases h1 : a < 0 <;> by_cases h2 : a' < 0
  · have hn : a'.natAbs ≤ a.natAbs := by clear ha ha'; omega
    rw [if_pos h1, if_pos h2]
    exact Int.neg_le_neg (Int.ofNat_le.2 (natToF64Bits_mono _ _ hn ha))
  · rw [if_pos h1, if_neg h2]
    exact Int.le_trans (Int.neg_nonpos_of_nonneg (Int.natCast_nonneg _)) (Int.natCast_nonneg _)
  · exact absurd (Int.lt_of_le_of_lt hle h2) h1
  · have hn : a.natAbs ≤ a'.natAbs := by clear ha ha'; omega
    rw [if_neg h1, if_neg h2]
    exact Int.ofNat_le.2 (natToF64Bits_mono _ _ hn ha')

end ILV
