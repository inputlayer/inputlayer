/-
  C21, main induction: every function of the chainer model preserves the builder invariant and only
  produces states / nodes that are locally valid; then the DAG is unfolded into a tree `valid` accepts.
-/
import ILV.Lemmas.ProvInv
namespace ILV.Prov
open ILV

/-- the data side of C21's hypotheses: no NaN is stored, only relations with rules have derived tuples. -/
structure Hyp (ctx : Ctx) (M : DB) : Prop where
  der : ctx.derived = some M
  goodBase : GoodDB ctx.base
  goodM : GoodDB M
  derOnly : ∀ rel, ctx.isDerived rel = false → M.get rel = []

structure RuleHyp (ctx : Ctx) (M : DB) (r : Rule) : Prop where
  sup : r.supported = true
  headNoWild : r.head.args.all (fun a => a != .wild) = true
  safe : safeNegAux r.body (varsOf r.head.args) = true
  arity : ∀ a, Lit.pos a ∈ r.body → ∀ r' ∈ ctx.rules, r'.head.rel = a.rel → r'.head.args.length = a.args.length
  plain : ∀ x ∈ varsOf r.terms, isPlaceholderName x = false
  goodTerms : ∀ t ∈ r.terms, GoodTerm t

def Concl (b : Builder) (id : Nat) (rel : String) (t : Tuple) : Prop :=
  ∃ n, b.nodes[id]? = some n ∧ n.pred = rel ∧ n.args = t ∧ n.kind.isNeg = false

theorem Concl_mono {b b' : Builder} (h : Pre b b') {id rel t} (hc : Concl b id rel t) : Concl b' id rel t := by
  obtain ⟨n, h1, h2⟩ := hc
  exact ⟨n, prefix_getElem? h h1, h2⟩

def BnSpec (ctx : Ctx) (M : DB) (bn : BuildFn) : Prop :=
  ∀ rel t b vis, BInv ctx.rules ctx.base M b → GoodT t →
    BInv ctx.rules ctx.base M (bn rel t b vis).2 ∧ Pre b (bn rel t b vis).2 ∧
    ∀ id ∈ (bn rel t b vis).1, Concl (bn rel t b vis).2 id rel t

def EnSpec (ctx : Ctx) (en : EnumFn) : Prop :=
  ∀ rel bts vis, GoodBts bts → ∀ p ∈ en rel bts vis,
    GoodT p.1 ∧ (∃ r ∈ ctx.rules, r.head.rel = rel ∧ p.1.length = r.head.args.length) ∧
    enumMatchesPattern bts p.1 = true ∧ enumNewBinds bts p.1 [] = some p.2

/-- the items are node ids that conclude `rel(t)`. -/
abbrev Built (ctx : Ctx) (M : DB) (b : Builder) (rel : String) (t : Tuple) (r : List Nat × Builder) : Prop :=
  Stepped (BInv ctx.rules ctx.base M) b (fun b' id => Concl b' id rel t) r

/-- a state after the prefix `pre` of the body of `r` (explaining `tuple`), in builder `b`;
    `bound` = the variables known to be bound. -/
structure StOK (ctx : Ctx) (M : DB) (r : Rule) (tuple : Tuple) (pre : List Lit) (bound : List String) (b : Builder)
    (st : State) : Prop where
  good : GoodB st.1
  head : headMatches st.1 r.head.args tuple = true
  cmps : cmpsHold st.1 pre = true
  kids : KidsOK ctx.base M b.nodes st.1 (pre.filter Lit.needsChild) st.2
  bnd : ∀ x ∈ bound, (st.1.lookup x).isSome = true
  keys : ∀ q ∈ st.1, q.1 ∈ varsOf r.terms

theorem StOK_mono {ctx M r tuple b b' pre bound st} (h : Pre b b') (hs : StOK ctx M r tuple pre bound b st) :
    StOK ctx M r tuple pre bound b' st :=
  { hs with kids := KidsOK_mono h hs.kids }

def boundAfter (l : Lit) (bound : List String) : List String :=
  match l with
  | .pos a => varsOf a.args ++ bound
  | _ => bound

theorem safeNeg_head {l : Lit} {ls : List Lit} {bound : List String} (h : safeNegAux (l :: ls) bound = true) :
    ∀ a, l = .neg a → ∀ x ∈ varsOf a.args, x ∈ bound := by
  rintro a rfl x hx
  simp only [safeNegAux, Bool.and_eq_true, List.all_eq_true] at h
  simpa using h.1 x hx

theorem safeNeg_tail {l : Lit} {ls : List Lit} {bound : List String} (h : safeNegAux (l :: ls) bound = true) :
    safeNegAux ls (boundAfter l bound) = true := by
  cases l with
  | neg a => simp only [safeNegAux, Bool.and_eq_true] at h; exact h.2
  | _ => exact h

theorem Atom.ne_other_of_supported {a : Atom} (h : a.supported = true) : ∀ x ∈ a.args, x ≠ Term.other := by
  rintro x hx rfl
  exact absurd (List.all_eq_true.mp h _ hx) (by decide)

theorem supported_pos (r : Rule) (h : r.supported = true) (a : Atom) (ha : Lit.pos a ∈ r.body) :
    ∀ x ∈ a.args, x ≠ Term.other :=
  Atom.ne_other_of_supported (List.all_eq_true.mp (Bool.and_eq_true_iff.mp h).2 _ ha)

theorem supported_head (r : Rule) (h : r.supported = true) : ∀ x ∈ r.head.args, x ≠ Term.other :=
  Atom.ne_other_of_supported (Bool.and_eq_true_iff.mp h).1

theorem mem_terms_head (r : Rule) : ∀ t ∈ r.head.args, t ∈ r.terms :=
  fun _ ht => List.mem_append_left _ ht

theorem mem_terms_pos (r : Rule) (a : Atom) (ha : Lit.pos a ∈ r.body) : ∀ t ∈ a.args, t ∈ r.terms :=
  fun _ ht => List.mem_append_right _ (List.mem_flatMap.mpr ⟨_, ha, ht⟩)

theorem mem_terms_neg (r : Rule) (a : Atom) (ha : Lit.neg a ∈ r.body) : ∀ t ∈ a.args, t ∈ r.terms := by
  intro t ht
  simp only [Rule.terms, List.mem_append, List.mem_flatMap]
  exact Or.inr ⟨_, ha, ht⟩

theorem filter_plain (β : Bindings) (h : ∀ q ∈ β, isPlaceholderName q.1 = false) :
    β.filter (fun p => !isPlaceholderName p.1) = β := by
  rw [List.filter_eq_self]
  intro q hq
  simp [h q hq]

theorem ruleIndex_get (rules : Program) (r : Rule) (h : r ∈ rules) : rules[ruleIndex rules r]? = some r := by
  have hlt : rules.findIdx (· == r) < rules.length := List.findIdx_lt_length_of_exists ⟨r, h, beq_self_eq_true r⟩
  rw [ruleIndex, List.getElem?_eq_getElem hlt, eq_of_beq (List.findIdx_getElem (w := hlt))]

theorem truncNodeAt_ok (ctx : Ctx) (M : DB) : BnSpec ctx M (truncNodeAt ctx) := by
  intro rel t b vis hb _
  obtain ⟨b1, p1, g1⟩ := BInv_insertIncomplete
    { kind := .trunc ctx.maxDepth, pred := rel, args := t } hb ⟨fun _ h => absurd h List.not_mem_nil, rfl⟩
  exact ⟨b1, p1, List.forall_mem_singleton.mpr ⟨_, g1, rfl, rfl, rfl⟩⟩

theorem factNode_ok {ctx : Ctx} {M : DB} (rel : String) (t : Tuple) {b : Builder} (s : Src)
    (hb : BInv ctx.rules ctx.base M b)
    (hs : match s with
      | .edb => memL t (ctx.base.get rel) = true
      | .derived => memL t (world ctx.base M rel) = true) :
    Built ctx M b rel t ([(b.insert (factNode rel t s)).1], (b.insert (factNode rel t s)).2) := by
  have hnode : NodeOK ctx.rules ctx.base M b.nodes b.nodes.length (factNode rel t s) := by
    cases s <;> exact ⟨fun _ h => absurd h List.not_mem_nil, hs, rfl⟩
  obtain ⟨b1, p1, g⟩ := BInv_insert _ hb hnode rfl
  exact ⟨b1, p1, List.forall_mem_singleton.mpr g⟩

theorem factNodeIncomplete_ok (ctx : Ctx) (M : DB) (rel : String) (t : Tuple) (b : Builder)
    (hb : BInv ctx.rules ctx.base M b) (hs : memL t (world ctx.base M rel) = true) :
    BInv ctx.rules ctx.base M (b.insertIncomplete (factNode rel t .derived)).2 ∧
      Pre b (b.insertIncomplete (factNode rel t .derived)).2 ∧
      Concl (b.insertIncomplete (factNode rel t .derived)).2 (b.insertIncomplete (factNode rel t .derived)).1 rel t := by
  obtain ⟨b1, p1, g1⟩ := BInv_insertIncomplete (factNode rel t .derived) hb
    ⟨fun _ h => absurd h List.not_mem_nil, hs, rfl⟩
  exact ⟨b1, p1, _, g1, rfl, rfl, rfl⟩

theorem buildNodeAt_cases {ctx : Ctx} {M : DB} (hd : ctx.derived = some M) (pb) (rel : String) (t : Tuple) (b : Builder)
    (vis : Visited) {motive : List Nat × Builder → Prop}
    (seen : ∀ id, b.getExisting rel t = some id → motive ([id], b))
    (cut : (rel, t) ∈ vis → motive ([], b))
    (stored : ctx.isDerived rel = false →
      motive (if tupleExistsIn rel t ctx.base || tupleExistsIn rel t M then
        ([(b.insert (factNode rel t .edb)).1], (b.insert (factNode rel t .edb)).2) else ([], b)))
    (rules : ctx.isDerived rel = true → (rel, t) ∉ vis →
      motive (derivedStep ctx pb rel t ((rel, t) :: vis) (tupleExistsIn rel t ctx.base) (tupleExistsIn rel t M) b)) :
    motive (buildNodeAt ctx pb rel t b vis) := by
  simp only [buildNodeAt, hd]
  split
  · exact seen _ ‹_›
  · split
    · exact cut (List.contains_iff_mem.mp ‹_›)
    · rename_i hv
      cases hr : ctx.isDerived rel with
      | false => exact stored hr
      | true => exact rules hr (fun h => hv (List.contains_iff_mem.mpr h))

theorem findMatching_good {rel : String} {bts : List BT} {db : DB} (hdb : GoodDB db) :
    ∀ p ∈ findMatching rel bts db, GoodB p.2 := by
  rintro ⟨t, nb⟩ hp q hq
  obtain ⟨ht, hm⟩ := mem_findMatching.mp hp
  rcases matchArgs_mem (matchTuple_eq_some.mp hm).2 q hq with h | h
  · cases h
  · exact hdb rel t ht _ h.2

theorem stepMatches_good (bn : BuildFn) (rel : String) (vis : Visited) {β : Bindings} (kids : List Nat) (hβ : GoodB β)
    (ms : List (Tuple × Bindings)) (b : Builder) (hm : ∀ p ∈ ms, GoodB p.2) :
    ∀ st ∈ (stepMatches bn rel vis β kids ms b).1, GoodB st.1 := by
  fun_induction stepMatches bn rel vis β kids ms b with
  | case1 => exact fun _ h => absurd h List.not_mem_nil
  | case2 t nb ms b _ _ _ _ _ ih =>
    exact List.forall_mem_cons.mpr ⟨GoodB_append nb β (hm (t, nb) List.mem_cons_self) hβ,
      ih (fun p hp => hm p (List.mem_cons_of_mem _ hp))⟩
  | case3 _ _ _ _ _ _ _ ih => exact ih (fun p hp => hm p (List.mem_cons_of_mem _ hp))

/-! The cases of `fun_induction enumHeadValues`: 1 no arguments; 2 / 3 a variable, with a value and a rest / not;
    4 / 5 another term, a constant with a rest / not. `enumHeadBindings`: 1 a concrete position at a head
    variable (the case that binds); 2 any other pair; 3 a list exhausted. -/

theorem enumHeadValues_spec {fb : Bindings} (hfb : GoodB fb) {args : List Term} {t : Tuple}
    (hg : ∀ a ∈ args, GoodTerm a) (h : enumHeadValues fb args = some t) : t.length = args.length ∧ GoodT t := by
  fun_induction enumHeadValues fb args generalizing t with
  | case1 => cases h; exact ⟨rfl, fun _ hv => absurd hv List.not_mem_nil⟩
  | case2 x ts v vs hr hx ih =>
    cases h
    obtain ⟨l1, g1⟩ := ih (fun a ha => hg a (List.mem_cons_of_mem _ ha)) hr
    exact ⟨by simp [l1], List.forall_mem_cons.mpr ⟨GoodB_lookup fb hfb x v hx, g1⟩⟩
  | case3 => cases h
  | case4 a ts _ v vs hr hc ih =>
    cases h
    obtain ⟨l1, g1⟩ := ih (fun a ha => hg a (List.mem_cons_of_mem _ ha)) hr
    exact ⟨by simp [l1], List.forall_mem_cons.mpr ⟨hg a List.mem_cons_self v hc, g1⟩⟩
  | case5 => cases h

theorem enumHeadBindings_good {bts : List BT} {args : List Term} {b : Bindings} (hg : GoodBts bts) (hb : GoodB b) :
    GoodB (enumHeadBindings bts args b) := by
  fun_induction enumHeadBindings bts args b with
  | case1 v bts x ts b ih =>
    exact ih (fun w hw => hg w (List.mem_cons_of_mem _ hw))
      (List.forall_mem_cons.mpr ⟨hg v List.mem_cons_self, hb⟩)
  | case2 _ bts _ ts b _ ih => exact ih (fun w hw => hg w (List.mem_cons_of_mem _ hw)) hb
  | case3 => exact hb

/-- what `EnSpec` says of one candidate. -/
def EnItem (ctx : Ctx) (rel : String) (bts : List BT) (p : Tuple × Bindings) : Prop :=
  GoodT p.1 ∧ (∃ r ∈ ctx.rules, r.head.rel = rel ∧ p.1.length = r.head.args.length) ∧
    enumMatchesPattern bts p.1 = true ∧ enumNewBinds bts p.1 [] = some p.2

theorem enumCollect_ok {ctx : Ctx} {rel : String} (bts : List BT) {r : Rule} (hr : r ∈ ctx.rules) (hrel : r.head.rel = rel)
    (hgt : ∀ a ∈ r.head.args, GoodTerm a) (sts : List State) (acc : List (Tuple × Bindings))
    (hs : ∀ st ∈ sts, GoodB st.1) (ha : ∀ p ∈ acc, EnItem ctx rel bts p) :
    ∀ p ∈ enumCollect ctx bts r.head sts acc, EnItem ctx rel bts p := by
  fun_induction enumCollect ctx bts r.head sts acc with
  | case1 | case2 => exact ha
  | case3 fb kids sts acc _ t hv hm nb hnb ih =>
    obtain ⟨l1, g1⟩ := enumHeadValues_spec (hs (fb, kids) List.mem_cons_self) hgt hv
    refine ih (List.forall_mem_cons.mp hs).2 (fun q hq => ?_)
    rcases List.mem_append.mp hq with hq | hq
    · exact ha q hq
    · rw [List.eq_of_mem_singleton hq]
      exact ⟨g1, ⟨r, hr, hrel, l1⟩, hm, hnb⟩
  | case4 _ _ _ _ _ _ _ _ _ ih | case5 _ _ _ _ _ _ _ _ ih | case6 _ _ _ _ _ _ ih =>
    exact ih (List.forall_mem_cons.mp hs).2 ha

/-! `bn`, `en` are the functions of the level below in the depth tower (`level`). -/

section Walk
variable {ctx : Ctx} {M : DB} (hy : Hyp ctx M) (hrules : ∀ r ∈ ctx.rules, RuleHyp ctx M r)
  {bn : BuildFn} {en : EnumFn} (hbn : BnSpec ctx M bn) (hen : EnSpec ctx en)
  {r : Rule} {tuple : Tuple} (hr : RuleHyp ctx M r) (vis : Visited)

section
include hbn

theorem stepMatches_ok {a : Atom} {pre : List Lit} {bound : List String} {β : Bindings} {kids : List Nat}
    (hv : ∀ x, Term.var x ∈ a.args → x ∈ varsOf r.terms) (ms : List (Tuple × Bindings)) (b : Builder)
    (hb : BInv ctx.rules ctx.base M b) (hst : StOK ctx M r tuple pre bound b (β, kids)) (hc : ∀ p ∈ ms, CandOK β a p) :
    Stepped (BInv ctx.rules ctx.base M) b (StOK ctx M r tuple (pre ++ [.pos a]) (varsOf a.args ++ bound))
      (stepMatches bn a.rel vis β kids ms b) := by
  fun_induction stepMatches bn a.rel vis β kids ms b with
  | case1 => exact Stepped.stay hb (fun _ h => absurd h List.not_mem_nil)
  | case3 t nb ms b _ _ _ ih =>
    obtain ⟨b1, p1, _⟩ := hbn a.rel t b vis hb (hc (t, nb) List.mem_cons_self).1
    exact Stepped.after p1 (ih b1 (StOK_mono p1 hst) (fun p hp => hc p (List.mem_cons_of_mem _ hp)))
  | case2 t nb ms b _ _ id _ hids ih =>
    obtain ⟨cg, cf, cb, cm, ck⟩ := hc (t, nb) List.mem_cons_self
    obtain ⟨b1, p1, c1⟩ := hbn a.rel t b vis hb cg
    obtain ⟨b2, p2, s2⟩ := ih b1 (StOK_mono p1 hst) (fun p hp => hc p (List.mem_cons_of_mem _ hp))
    refine ⟨b2, Pre.trans p1 p2, List.forall_mem_cons.mpr ⟨?_, s2⟩⟩
    have hE : Ext β (nb ++ β) := Ext_append_fresh nb β cf
    obtain ⟨kn, k1, k2, k3, k4⟩ := Concl_mono p2 (c1 id (hids ▸ List.mem_cons_self))
    refine ⟨GoodB_append nb β cb hst.good, headMatches_ext hE hst.head, ?_, ?_, ?_, ?_⟩
    · rw [cmpsHold_append, cmpsHold_ext hE hst.cmps]; rfl
    · rw [List.filter_append]
      exact KidsOK_append (KidsOK_ext hE (KidsOK_mono (Pre.trans p1 p2) hst.kids))
        ⟨⟨kn, k1, k2, k3 ▸ cm, k4⟩, trivial⟩
    · intro x hx
      rcases List.mem_append.mp hx with hx | hx
      · exact argsMatch_bound cm x (mem_varsOf.mp hx)
      · exact hE.isSome (hst.bnd x hx)
    · intro q hq
      rcases List.mem_append.mp hq with hq | hq
      · exact hv _ (ck q hq)
      · exact hst.keys q hq

end

/-! `enumerate_derived_candidates` runs `prove_body` from bindings that come from the pattern, not from a
    head unification, in a private builder: all that is needed of the resulting states is that their values
    are good. -/

section
include hy hen

theorem posMatches_cands {β : Bindings} {a : Atom} (hb : GoodB β)
    (hs : ∀ x ∈ a.args, x ≠ Term.other) (hgt : GoodAtom a)
    (har : ∀ r' ∈ ctx.rules, r'.head.rel = a.rel → r'.head.args.length = a.args.length) :
    ∀ p ∈ posMatches ctx en vis a β, CandOK β a p := by
  intro p hp
  simp only [posMatches, hy.der] at hp
  split at hp
  · split at hp
    · obtain ⟨g1, ⟨r', hr', hrel, hlen⟩, g3, g4⟩ := hen a.rel (substituteAtom a β) vis (GoodBts_substitute hb hgt) p hp
      have hl : p.1.length = (substituteAtom a β).length := by
        rw [hlen, har r' hr' hrel, substituteAtom, List.length_map]
      exact matchTuple_sound hs g1 (matchTuple_eq_some.mpr ⟨hl, matchArgs_of_enum g1 hl g3 g4⟩)
    · exact findMatching_cands hy.goodM hs p hp
  · exact findMatching_cands hy.goodBase hs p hp

theorem posMatches_good {β : Bindings} {a : Atom} (hb : GoodBts (substituteAtom a β)) :
    ∀ p ∈ posMatches ctx en vis a β, GoodB p.2 := by
  intro p hp
  simp only [posMatches, hy.der] at hp
  split at hp
  · split at hp
    · obtain ⟨g1, _, _, g4⟩ := hen a.rel (substituteAtom a β) vis hb p hp
      exact fun q hq => (enumNewBinds_mem g4 q hq).elim (fun h => by cases h) (g1 _)
    · exact findMatching_good hy.goodM p hp
  · exact findMatching_good hy.goodBase p hp

theorem stepState_good {l : Lit} (hl : ∀ a, l = .pos a → GoodAtom a) (st : State) (b : Builder) (hst : GoodB st.1) :
    ∀ st' ∈ (stepState ctx bn en vis l st b).1, GoodB st'.1 := by
  intro st' h
  cases l with
  | pos a =>
    exact stepMatches_good bn a.rel vis st.2 hst _ b
      (posMatches_good hy hen vis (GoodBts_substitute hst (hl a rfl))) st' h
  | neg a =>
    rw [stepState] at h
    split at h
    · rw [List.eq_of_mem_singleton h]; exact hst
    · cases h
  | cmp x op y =>
    rw [stepState] at h
    split at h
    · rw [List.eq_of_mem_singleton h]; exact hst
    · cases h
  | other => cases h

theorem stepStates_good {l : Lit} (hl : ∀ a, l = .pos a → GoodAtom a) (sts : List State) (b : Builder)
    (hs : ∀ st ∈ sts, GoodB st.1) : ∀ st' ∈ (stepStates ctx bn en vis l sts b).1, GoodB st'.1 := by
  fun_induction stepStates ctx bn en vis l sts b with
  | case1 => exact fun _ h => absurd h List.not_mem_nil
  | case2 st sts b _ _ ih =>
    intro st' h
    rcases List.mem_append.mp h with h | h
    · exact stepState_good hy hen vis hl st b (hs st List.mem_cons_self) st' h
    · exact ih (List.forall_mem_cons.mp hs).2 st' h

theorem proveBody_good (ls : List Lit) (sts : List State) (b : Builder) (hl : ∀ a, Lit.pos a ∈ ls → GoodAtom a)
    (hs : ∀ st ∈ sts, GoodB st.1) :
    ∀ sts', (proveBody ctx bn en vis ls sts b).1 = some sts' → ∀ st' ∈ sts', GoodB st'.1 := by
  fun_induction proveBody ctx bn en vis ls sts b with
  | case1 => exact fun _ he => Option.some.inj he ▸ hs
  | case2 => exact fun _ he => nomatch he
  | case3 l ls sts b _ _ ih =>
    exact ih (fun a ha => hl a (List.mem_cons_of_mem _ ha))
      (stepStates_good hy hen vis (fun a ha => hl a (ha ▸ List.mem_cons_self)) sts b hs)

end

section
include hy hbn hen hr

theorem stepState_ok {pre : List Lit} {l : Lit} (hl : l ∈ r.body) {bound : List String}
    (hsafe : ∀ a, l = .neg a → ∀ x ∈ varsOf a.args, x ∈ bound)
    (st : State) (b : Builder) (hb : BInv ctx.rules ctx.base M b) (hst : StOK ctx M r tuple pre bound b st) :
    Stepped (BInv ctx.rules ctx.base M) b (StOK ctx M r tuple (pre ++ [l]) (boundAfter l bound)) (stepState ctx bn en vis l st b) := by
  obtain ⟨β, kids⟩ := st
  cases l with
  | pos a =>
    exact stepMatches_ok hbn vis (fun x hx => mem_varsOf.mpr (mem_terms_pos r a hl _ hx)) _ b hb hst
      (posMatches_cands hy hen vis hst.good (supported_pos r hr.sup a hl)
        (fun t ht => hr.goodTerms t (mem_terms_pos r a hl t ht)) (hr.arity a hl))
  | neg a =>
    rw [stepState]
    split
    · rename_i hemp
      have hclosed : AtomClosed β a := fun x hx => hst.bnd x (hsafe a rfl x (mem_varsOf.mpr hx))
      obtain ⟨b1, p1, g1⟩ := BInv_insertUnique
        { kind := .neg (substituteAtom a β), pred := a.rel, args := concPart (substituteAtom a β) } hb
        ⟨fun _ h => absurd h List.not_mem_nil, rfl⟩
      refine ⟨b1, p1, List.forall_mem_singleton.mpr ⟨hst.good, hst.head, ?_, ?_, hst.bnd, hst.keys⟩⟩
      · rw [cmpsHold_append, hst.cmps]; rfl
      · rw [List.filter_append]
        refine KidsOK_append (KidsOK_mono p1 hst.kids) ⟨⟨_, g1, rfl, rfl, rfl, hclosed, ?_⟩, trivial⟩
        rw [List.all_eq_true]
        intro t ht
        rw [negBlockedBy, negMatches_eq_nil hy.der (List.isEmpty_iff.mp hemp) t ht]; rfl
    · exact Stepped.stay hb (fun _ h => absurd h List.not_mem_nil)
  | cmp x op y =>
    rw [stepState]
    split
    · rename_i hc
      refine Stepped.stay hb (List.forall_mem_singleton.mpr ⟨hst.good, hst.head, ?_, ?_, hst.bnd, hst.keys⟩)
      · rw [cmpsHold_append, hst.cmps]; simp [cmpsHold, hc]
      · rw [List.filter_append]; simpa [Lit.needsChild] using hst.kids
    · exact Stepped.stay hb (fun _ h => absurd h List.not_mem_nil)
  | other => exact Stepped.stay hb (fun _ h => absurd h List.not_mem_nil)

theorem stepStates_ok {pre : List Lit} {l : Lit} (hl : l ∈ r.body) {bound : List String}
    (hsafe : ∀ a, l = .neg a → ∀ x ∈ varsOf a.args, x ∈ bound) (sts : List State) (b : Builder)
    (hb : BInv ctx.rules ctx.base M b) (hs : ∀ st ∈ sts, StOK ctx M r tuple pre bound b st) :
    Stepped (BInv ctx.rules ctx.base M) b (StOK ctx M r tuple (pre ++ [l]) (boundAfter l bound)) (stepStates ctx bn en vis l sts b) := by
  fun_induction stepStates ctx bn en vis l sts b with
  | case1 => exact Stepped.stay hb (fun _ h => absurd h List.not_mem_nil)
  | case2 st sts b _ _ ih =>
    obtain ⟨b1, p1, s1⟩ := stepState_ok hy hbn hen hr vis hl hsafe st b hb (hs st List.mem_cons_self)
    obtain ⟨b2, p2, s2⟩ := ih b1 (fun st' h' => StOK_mono p1 (hs st' (List.mem_cons_of_mem _ h')))
    refine ⟨b2, Pre.trans p1 p2, fun st' hmem => ?_⟩
    rcases List.mem_append.mp hmem with h | h
    · exact StOK_mono p2 (s1 st' h)
    · exact s2 st' h

theorem proveBody_ok (ls pre : List Lit) (bound : List String) (sts : List State) (b : Builder)
    (hsp : r.body = pre ++ ls) (hsf : safeNegAux ls bound = true) (hb : BInv ctx.rules ctx.base M b)
    (hs : ∀ st ∈ sts, StOK ctx M r tuple pre bound b st) :
    BInv ctx.rules ctx.base M (proveBody ctx bn en vis ls sts b).2 ∧
      Pre b (proveBody ctx bn en vis ls sts b).2 ∧
      ∀ sts', (proveBody ctx bn en vis ls sts b).1 = some sts' →
        ∀ st' ∈ sts', StOK ctx M r tuple r.body [] (proveBody ctx bn en vis ls sts b).2 st' := by
  fun_induction proveBody ctx bn en vis ls sts b generalizing pre bound with
  | case1 sts b =>
    refine ⟨hb, Pre.refl b, fun sts' he st' hmem => ?_⟩
    cases he
    rw [hsp, List.append_nil]
    exact { hs st' hmem with bnd := fun _ h => absurd h List.not_mem_nil }
  | case2 l ls sts b _ _ =>
    obtain ⟨b1, p1, _⟩ := stepStates_ok hy hbn hen hr vis (hsp ▸ List.mem_append_right _ List.mem_cons_self)
      (safeNeg_head hsf) sts b hb hs
    exact ⟨b1, p1, fun _ he => nomatch he⟩
  | case3 l ls sts b _ _ ih =>
    obtain ⟨b1, p1, s1⟩ := stepStates_ok hy hbn hen hr vis (hsp ▸ List.mem_append_right _ List.mem_cons_self)
      (safeNeg_head hsf) sts b hb hs
    obtain ⟨b2, p2, s2⟩ := ih (pre ++ [l]) (boundAfter l bound) (by rw [hsp, List.append_assoc]; rfl)
      (safeNeg_tail hsf) b1 s1
    exact ⟨b2, Pre.trans p1 p2, s2⟩

end

theorem addRuleNodes_ok {ctx : Ctx} {M : DB} {r : Rule} (hr : RuleHyp ctx M r) {idx : Nat}
    (hidx : ctx.rules[idx]? = some r) {rel : String} (hrel : r.head.rel = rel) (values : Tuple)
    (sts : List State) (res : List Nat) (b : Builder) (hb : BInv ctx.rules ctx.base M b)
    (hs : ∀ st ∈ sts, StOK ctx M r values r.body [] b st) (hres : ∀ id ∈ res, Concl b id rel values) :
    Built ctx M b rel values (addRuleNodes ctx rel values idx sts res b) := by
  fun_induction addRuleNodes ctx rel values idx sts res b with
  | case1 | case2 => exact Stepped.stay hb hres
  | case3 fb kids sts res b _ _ ih =>
    have hst := hs (fb, kids) List.mem_cons_self
    have hnode : NodeOK ctx.rules ctx.base M b.nodes b.nodes.length
        { kind := .rule idx (fb.filter (fun p => !isPlaceholderName p.1)), pred := rel, args := values, children := kids } := by
      rw [filter_plain fb (fun q hq => hr.plain _ (hst.keys q hq))]
      exact ⟨KidsOK_lt hst.kids, r, hidx, hrel, hst.head, hst.cmps, hst.kids⟩
    obtain ⟨b1, p1, g⟩ := BInv_insertRule _ hb hnode rfl
    refine Stepped.after p1 (ih b1 (fun st h => StOK_mono p1 (hs st (List.mem_cons_of_mem _ h))) (fun id hid => ?_))
    rcases List.mem_append.mp hid with h | h
    · exact Concl_mono p1 (hres id h)
    · rw [List.eq_of_mem_singleton h]; exact g

section
include hy hrules hbn hen

theorem tryRules_ok {rel : String} {tuple : Tuple} (hg : GoodT tuple) (vis : Visited) :
    ∀ (rs : List Rule), (∀ r ∈ rs, r ∈ ctx.rules ∧ r.head.rel = rel) →
      ∀ (res : List Nat) (b : Builder), BInv ctx.rules ctx.base M b → (∀ id ∈ res, Concl b id rel tuple) →
      Built ctx M b rel tuple (tryRules ctx (fun v => proveBody ctx bn en v) rel tuple vis rs res b)
  | [], _, res, b, hb, hres => Stepped.stay hb hres
  | r :: rs, hrs, res, b, hb, hres => by
    have ih := tryRules_ok hg vis rs (fun r' h => hrs r' (List.mem_cons_of_mem _ h))
    obtain ⟨hrm, hrel⟩ := hrs r List.mem_cons_self
    have hr := hrules r hrm
    rw [tryRules]
    split
    · exact Stepped.stay hb hres
    · split
      · exact ih res b hb hres
      · rename_i bd hu
        obtain ⟨u1, u2, u3, u4⟩ := unifyHead_sound (supported_head r hr.sup) hr.headNoWild hg hu
        have hst0 : StOK ctx M r tuple [] (varsOf r.head.args) b (bd, []) :=
          { good := u1, head := u2, cmps := rfl, kids := trivial,
            bnd := fun x hx => u3 x (mem_varsOf.mp hx),
            keys := fun q hq => mem_varsOf.mpr (mem_terms_head r _ (u4 q hq)) }
        obtain ⟨b1, p1, s1⟩ := proveBody_ok hy hbn hen hr vis r.body [] (varsOf r.head.args)
          [(bd, [])] b rfl hr.safe hb (List.forall_mem_singleton.mpr hst0)
        have hres1 := fun id h => Concl_mono p1 (hres id h)
        dsimp only
        split
        · rename_i sts hp
          obtain ⟨b2, p2, c2⟩ := addRuleNodes_ok hr (ruleIndex_get ctx.rules r hrm) hrel tuple sts res _ b1 (s1 sts hp) hres1
          exact Stepped.after (Pre.trans p1 p2) (ih _ _ b2 c2)
        · exact Stepped.after p1 (ih res _ b1 hres1)

theorem derivedStep_ok {rel : String} {t : Tuple} (hg : GoodT t) (vis' : Visited) {inBase inDerived : Bool} {b : Builder}
    (hb : BInv ctx.rules ctx.base M b)
    (hin : inBase = true → memL t (ctx.base.get rel) = true)
    (hind : inDerived = true → memL t (world ctx.base M rel) = true) :
    Built ctx M b rel t (derivedStep ctx (fun v => proveBody ctx bn en v) rel t vis' inBase inDerived b) := by
  have h0 : Built ctx M b rel t (baseFactStep rel t inBase b) := by
    rw [baseFactStep]
    split
    · rename_i h; exact factNode_ok rel t .edb hb (hin h)
    · exact Stepped.stay hb (fun _ h => absurd h List.not_mem_nil)
  rw [derivedStep]
  split
  · exact h0
  · obtain ⟨b1, p1, c1⟩ := tryRules_ok hy hrules hbn hen hg vis' (ctx.rulesFor rel) (rulesFor_mem ctx rel) _ _ h0.1 h0.2.2
    refine Stepped.after (Pre.trans h0.2.1 p1) ?_
    rw [fallbackStep]
    split
    · rename_i h
      exact factNode_ok rel t .derived b1 (hind (Bool.and_eq_true_iff.mp h).2)
    · exact Stepped.stay b1 c1

theorem buildNodeAt_ok : BnSpec ctx M (buildNodeAt ctx (fun v => proveBody ctx bn en v)) := by
  intro rel t b vis hb hg
  show Built ctx M b rel t _
  have hbase : tupleExistsIn rel t ctx.base = true → memL t (ctx.base.get rel) = true := memL_of_contains t _ hg
  have hder : tupleExistsIn rel t M = true → memL t (world ctx.base M rel) = true := fun h => by
    rw [world, memL_append, memL_of_contains t _ hg h, Bool.or_true]
  refine buildNodeAt_cases hy.der _ rel t b vis (fun id hge => ?_) (fun _ => ?_) (fun hr => ?_) (fun _ _ => ?_)
  · exact Stepped.stay hb (List.forall_mem_singleton.mpr (hb.seen (rel, t) id (lookup_mem hge)))
  · exact Stepped.stay hb (fun _ h => absurd h List.not_mem_nil)
  · split
    · rename_i hin
      refine factNode_ok rel t .edb hb ((Bool.or_eq_true_iff.mp hin).elim hbase fun h => ?_)
      rw [tupleExistsIn, hy.derOnly rel hr] at h; cases h
    · exact Stepped.stay hb (fun _ h => absurd h List.not_mem_nil)
  · exact derivedStep_ok hy hrules hbn hen hg _ hb hbase hder

end

section
include hy hrules hen

theorem enumRules_ok {rel : String} {bts : List BT} (hb : GoodBts bts) (rs : List Rule)
    (hrs : ∀ r ∈ rs, r ∈ ctx.rules ∧ r.head.rel = rel) (tb : Builder) (acc : List (Tuple × Bindings))
    (ha : ∀ p ∈ acc, EnItem ctx rel bts p) :
    ∀ p ∈ enumRules ctx (fun v => proveBody ctx bn en v) bts vis rs tb acc, EnItem ctx rel bts p := by
  fun_induction enumRules ctx (fun v => proveBody ctx bn en v) bts vis rs tb acc with
  | case1 | case2 => exact ha
  | case3 r rs tb acc _ _ sts hpb ih =>
    obtain ⟨hrm, hrel⟩ := hrs r List.mem_cons_self
    have hr := hrules r hrm
    refine ih (List.forall_mem_cons.mp hrs).2
      (enumCollect_ok bts hrm hrel (fun a ha' => hr.goodTerms a (mem_terms_head r a ha')) sts acc ?_ ha)
    exact proveBody_good hy hen vis r.body _ tb (fun a ha t ht => hr.goodTerms t (mem_terms_pos r a ha t ht))
      (List.forall_mem_singleton.mpr (enumHeadBindings_good hb (fun _ h => absurd h List.not_mem_nil))) sts hpb
  | case4 _ _ _ _ _ _ _ ih => exact ih (List.forall_mem_cons.mp hrs).2 ha

theorem enumerateAt_ok :
    EnSpec ctx (enumerateAt ctx (fun v => proveBody ctx bn en v)) :=
  fun rel _ vis hb => enumRules_ok hy hrules hen vis hb (ctx.rulesFor rel) (rulesFor_mem ctx rel) {} []
    (fun _ hq => absurd hq List.not_mem_nil)

end

end Walk

theorem level_ok (ctx : Ctx) (M : DB) (hy : Hyp ctx M) (hrules : ∀ r ∈ ctx.rules, RuleHyp ctx M r) :
    ∀ n, BnSpec ctx M (level ctx n).bn ∧ EnSpec ctx (level ctx n).en
  | 0 => ⟨truncNodeAt_ok ctx M, fun _ _ _ _ _ hp => absurd hp List.not_mem_nil⟩
  | n + 1 => by
    obtain ⟨h1, h2⟩ := level_ok ctx M hy hrules n
    exact ⟨buildNodeAt_ok hy hrules h1 h2, enumerateAt_ok hy hrules h2⟩

theorem unfold_succ (ns : List Node) (fuel id : Nat) (n : Node) (h : ns[id]? = some n) :
    unfold ns (fuel + 1) id = .node n.kind n.pred n.args (n.children.map (unfold ns fuel)) := by
  simp only [unfold, h]

theorem validKids_of_KidsOK {prog : Program} {base M : DB} {ns : List Node} {fuel : Nat}
    (hrec : ∀ id n, ns[id]? = some n → id < fuel → n.kind.isNeg = false → valid prog base M (unfold ns fuel id) = true)
    {β : Bindings} {ls : List Lit} {ks : List Nat} (hk : KidsOK base M ns β ls ks) (hlt : ∀ k ∈ ks, k < fuel) :
    validKids prog base M β ls (ks.map (unfold ns fuel)) = true := by
  fun_induction KidsOK base M ns β ls ks with
  | case1 => rfl
  | case2 a ls k ks ih =>
    obtain ⟨⟨kn, h1, h2, h3, h4⟩, hr⟩ := hk
    obtain ⟨hk', hlt'⟩ := List.forall_mem_cons.mp hlt
    have hv := hrec k kn h1 hk' h4
    obtain ⟨f, rfl⟩ : ∃ f, fuel = f + 1 := ⟨fuel - 1, by omega⟩
    rw [List.map_cons, validKids, ih hr hlt', Bool.and_true]
    rw [unfold_succ ns f k kn h1] at hv ⊢
    rw [h2] at hv
    simp only [Tree.pred, Tree.args, h2, h3, hv, beq_self_eq_true, Bool.and_self]
  | case3 a ls k ks ih =>
    obtain ⟨⟨kn, h1, h2, h3, h4, _, h6⟩, hr⟩ := hk
    obtain ⟨hk', hlt'⟩ := List.forall_mem_cons.mp hlt
    obtain ⟨f, rfl⟩ : ∃ f, fuel = f + 1 := ⟨fuel - 1, by omega⟩
    rw [List.map_cons, validKids, ih hr hlt', Bool.and_true, unfold_succ ns f k kn h1]
    simp only [Tree.kind, Tree.pred, Tree.args, h2, h3, h4, h6, beq_self_eq_true, Bool.and_self]
  | case4 => exact hk.elim

theorem valid_unfold (prog : Program) (base M : DB) (b : Builder) (hb : BInv prog base M b) :
    ∀ (fuel id : Nat) (n : Node), b.nodes[id]? = some n → id < fuel → n.kind.isNeg = false →
      valid prog base M (unfold b.nodes fuel id) = true
  | 0, id, n, _, hlt, _ => by omega
  | fuel + 1, id, n, hn, hlt, hneg => by
    rw [unfold_succ b.nodes fuel id n hn]
    obtain ⟨hch, hk⟩ := hb.nodes id n hn
    cases hkind : n.kind with
    | fact s =>
      rw [hkind] at hk
      cases s <;> simp [valid, hk.1, hk.2]
    | trunc l => rw [hkind] at hk; simp [valid, hk]
    | neg pat => rw [hkind] at hneg; cases hneg
    | rule idx β =>
      rw [hkind] at hk
      obtain ⟨r, h1, h2, h3, h4, h5⟩ := hk
      simp only [valid, h1, h2, beq_self_eq_true, h3, h4, Bool.and_self, Bool.true_and]
      exact validKids_of_KidsOK (valid_unfold prog base M b hb fuel) h5 (fun k hk' => by have := hch k hk'; omega)

theorem RuleHyp_of_fragment (ctx : Ctx) (M : DB) (h : c21Fragment ctx.rules = true) :
    ∀ r ∈ ctx.rules, RuleHyp ctx M r := by
  intro r hr
  have hr' := List.all_eq_true.mp h r hr
  simp only [Bool.and_eq_true, List.all_eq_true] at hr'
  obtain ⟨⟨⟨⟨⟨h1, h2⟩, h3⟩, h4⟩, h5⟩, h6⟩ := hr'
  refine ⟨h1, List.all_eq_true.mpr h2, h3, fun a ha r' hr'm hrel => ?_, fun x hx => by simpa using h5 x hx,
    fun t ht v hv => ?_⟩
  · have := List.all_eq_true.mp (h6 _ ha) r' hr'm
    simpa [hrel] using this
  · have := h4 t ht
    rwa [Term.good, hv] at this

/-- **build_valid**: in the fragment, whatever `.why` returns is accepted by `valid`. -/
theorem whyTree_valid (prog : Program) (base M : DB) (rel : String) (tuple : Tuple) (depth : Nat)
    (hf : c21Fragment prog = true) (hd : derivedOnlyHeads prog M = true)
    (hb : goodDB base = true) (hm : goodDB M = true) (ht : tuple.all goodV = true) :
    valid prog base M (whyTree { rules := prog, base := base, derived := some M, maxDepth := depth } rel tuple) = true := by
  let ctx : Ctx := { rules := prog, base := base, derived := some M, maxDepth := depth }
  have hy : Hyp ctx M := ⟨rfl, GoodDB_of_goodDB base hb, GoodDB_of_goodDB M hm,
    fun r hr => derOnly_of prog M hd r hr⟩
  have hgt := GoodT_of_goodV ht
  have hgt' : GoodT (truncateToArity ctx rel tuple) := by
    unfold truncateToArity
    split
    · split
      · exact fun v hv => hgt v (List.mem_of_mem_take hv)
      · exact hgt
    · exact hgt
  obtain ⟨b1, _, c1⟩ := (level_ok ctx M hy (RuleHyp_of_fragment ctx M hf) ctx.maxDepth).1 rel _ {} []
    (BInv_empty prog base M) hgt'
  rw [whyTree]
  split
  · rename_i id b hbp
    rw [buildProofTree] at hbp
    split at hbp
    · rename_i id' rest hids
      obtain ⟨rfl, rfl⟩ := Prod.mk.inj (Option.some.inj hbp)
      obtain ⟨n, n1, _, _, n4⟩ := c1 id' (hids ▸ List.mem_cons_self)
      exact valid_unfold prog base M _ b1 (id' + 1) id' n n1 (Nat.lt_succ_self _) n4
    · cases hbp
  · rfl

end ILV.Prov
