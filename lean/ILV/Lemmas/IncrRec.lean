/-
  C18, two fragments in which the evaluator's tables are known exactly (not only as sets).
  Self-level programs (bodies mention non-heads and the clause's own head): the table of a head evolves
  by a step function `nstep` that depends on nothing but its own clauses and the non-head inputs, so
  two evaluations that share that step function produce the same table.
  One-level programs (bodies mention non-heads only) are the special case in which `nstep` ignores
  the table: one round computes everything.
-/
import ILV.Lemmas.IncrFuel
namespace ILV.C18

def SelfLevel (prog : List Clause) : Prop :=
  ∀ c ∈ prog, ∀ r ∈ bodyRels c, r ∉ heads prog ∨ r = c.head.rel

/-- one round for the table of `n`, given only its own clauses and the non-head inputs. -/
def nstep (cls : List Clause) (inputs : List (Name × List Tup)) (n : Name) (tbl : List Tup) : List Tup :=
  addNew tbl (consequences cls (fun r => if r = n then tbl else inDb inputs r) n)

def npow (cls : List Clause) (inputs : List (Name × List Tup)) (n : Name) : Nat → List Tup → List Tup
  | 0, t => t
  | j + 1, t => npow cls inputs n j (nstep cls inputs n t)

theorem consequences_own (prog : List Clause) (db : Name → List Tup) (n : Name) :
    consequences prog db n = consequences (clausesOf prog n) db n := by
  unfold consequences clausesOf
  rw [List.filter_filter]
  simp

theorem tstep_table (prog : List Clause) (inputs d : List (Name × List Tup)) (hs : SelfLevel prog)
    (hk : akeys d = heads prog) (n : Name) (hn : n ∈ heads prog) (tbl : List Tup) (hd : aget d n = some tbl) :
    aget (tstep prog inputs d) n = some (nstep (clausesOf prog n) inputs n tbl) := by
  rw [aget_tstep, hd]
  simp only [Option.map_some, nstep]
  congr 2
  rw [consequences_own prog]
  apply consequences_congr
  intro c hc hcn r hr
  rcases hs c (List.mem_filter.mp hc).1 r hr with h | h
  · rw [if_neg (fun e : r = n => h (e ▸ hn))]
    exact look_nonhead inputs d r (hk ▸ h)
  · rw [h, hcn, if_pos rfl]
    exact look_head hd

theorem tpow_table (prog : List Clause) (inputs : List (Name × List Tup)) (hs : SelfLevel prog)
    (n : Name) (hn : n ∈ heads prog) (j : Nat) (d : List (Name × List Tup)) (hk : akeys d = heads prog)
    (tbl : List Tup) (hd : aget d n = some tbl) :
    aget (tpow prog inputs j d) n = some (npow (clausesOf prog n) inputs n j tbl) := by
  induction j generalizing d tbl with
  | zero => exact hd
  | succ j ih =>
    exact ih (tstep prog inputs d) (by rw [akeys_tstep, hk]) _ (tstep_table prog inputs d hs hk n hn tbl hd)

theorem npow_add (cls : List Clause) (inputs : List (Name × List Tup)) (n : Name) (a b : Nat) (t : List Tup) :
    npow cls inputs n (a + b) t = npow cls inputs n b (npow cls inputs n a t) := by
  induction a generalizing t with
  | zero => rw [Nat.zero_add]; rfl
  | succ a ih => rw [Nat.add_right_comm]; exact ih _

theorem npow_stable (cls : List Clause) (inputs : List (Name × List Tup)) (n : Name) (j : Nat) (t : List Tup)
    (h : nstep cls inputs n t = t) : npow cls inputs n j t = t := by
  induction j with
  | zero => rfl
  | succ j ih => simp only [npow]; rw [h]; exact ih

theorem npow_congr (cls : List Clause) (i1 i2 : List (Name × List Tup)) (n : Name)
    (h : ∀ t, nstep cls i1 n t = nstep cls i2 n t) (j : Nat) (t : List Tup) :
    npow cls i1 n j t = npow cls i2 n j t := by
  induction j generalizing t with
  | zero => rfl
  | succ j ih => simp only [npow]; rw [h t]; exact ih _

theorem res_table (prog : List Clause) (inputs : List (Name × List Tup)) (hs : SelfLevel prog)
    (hc : conv prog inputs = true) (n : Name) (hn : n ∈ heads prog) :
    ∃ j, aget (res prog inputs) n = some (npow (clausesOf prog n) inputs n j []) ∧
      nstep (clausesOf prog n) inputs n (npow (clausesOf prog n) inputs n j []) = npow (clausesOf prog n) inputs n j [] := by
  obtain ⟨j, hr⟩ := res_is_pow prog inputs
  have ht := tpow_table prog inputs hs n hn j (d0 prog) (akeys_d0 prog) [] (aget_d0 prog hn)
  rw [← hr] at ht
  refine ⟨j, ht, ?_⟩
  have h1 := tstep_table prog inputs (res prog inputs) hs (akeys_res prog inputs) n hn _ ht
  rw [of_decide_eq_true hc, ht] at h1
  exact (Option.some.inj h1).symm

theorem evalProg_local (p1 p2 : List Clause) (i1 i2 : List (Name × List Tup))
    (hs1 : SelfLevel p1) (hs2 : SelfLevel p2) (hc1 : conv p1 i1 = true) (hc2 : conv p2 i2 = true)
    (n : Name) (hn1 : n ∈ heads p1) (hn2 : n ∈ heads p2)
    (hcl : clausesOf p1 n = clausesOf p2 n)
    (hst : ∀ t, nstep (clausesOf p1 n) i1 n t = nstep (clausesOf p1 n) i2 n t) :
    evalProg p1 i1 n = evalProg p2 i2 n := by
  obtain ⟨j1, ht1, hs1'⟩ := res_table p1 i1 hs1 hc1 n hn1
  obtain ⟨j2, ht2, hs2'⟩ := res_table p2 i2 hs2 hc2 n hn2
  rw [← hcl, ← npow_congr _ i1 i2 n hst] at ht2 hs2'
  rw [← hst] at hs2'
  rw [evalProg_eq, evalProg_eq, look_head ht1, look_head ht2]
  rcases Nat.le_total j1 j2 with h | h
  · obtain ⟨d, rfl⟩ := Nat.exists_eq_add_of_le h
    rw [npow_add, npow_stable _ _ _ _ _ hs1']
  · obtain ⟨d, rfl⟩ := Nat.exists_eq_add_of_le h
    rw [npow_add, npow_stable _ _ _ _ _ hs2']

/-- every body relation is a non-head: evaluation finishes in one round. -/
def OneLevel (prog : List Clause) : Prop := ∀ c ∈ prog, ∀ r ∈ bodyRels c, r ∉ heads prog

theorem evalProg_oneLevel (prog : List Clause) (inputs : List (Name × List Tup)) (hp : OneLevel prog) (r : Name) :
    evalProg prog inputs r =
      if r ∈ heads prog then addNew [] (consequences prog (inDb inputs) r) else inDb inputs r := by
  by_cases h : r ∈ heads prog
  · obtain ⟨j, ht, hst⟩ := res_table prog inputs (fun c hc x hx => Or.inl (hp c hc x hx)) (conv_always _ _) r h
    rw [if_pos h, evalProg_eq, look_head ht]
    have hn : ∀ t, nstep (clausesOf prog r) inputs r t = addNew t (consequences prog (inDb inputs) r) := by
      intro t
      unfold nstep
      rw [consequences_own prog (inDb inputs) r]
      congr 1
      apply consequences_congr
      intro c hc _ x hx
      rw [if_neg fun e : x = r => hp c (List.mem_filter.mp hc).1 x hx (e ▸ h)]
    cases j with
    | zero => exact ((hn []).symm.trans hst).symm
    | succ j =>
      show npow _ inputs r j (nstep _ inputs r []) = _
      rw [hn, npow_stable]
      rw [hn]
      exact addNew_of_subset _ _ fun t ht => (mem_addNew _ _ t).mpr (Or.inr ht)
  · rw [if_neg h, evalProg_nonhead prog inputs r h]

theorem conv_oneLevel (prog : List Clause) (inputs : List (Name × List Tup)) (hp : OneLevel prog) :
    conv prog inputs = true :=
  conv_always prog inputs

theorem nstep_congr (cls : List Clause) (i1 i2 : List (Name × List Tup)) (n : Name)
    (h : ∀ c ∈ cls, ∀ r ∈ bodyRels c, r ≠ n → inDb i1 r = inDb i2 r) (t : List Tup) :
    nstep cls i1 n t = nstep cls i2 n t := by
  unfold nstep
  congr 1
  apply consequences_congr
  intro c hc _ r hr
  by_cases e : r = n
  · rw [if_pos e, if_pos e]
  · rw [if_neg e, if_neg e]; exact h c hc r hr e

end ILV.C18
