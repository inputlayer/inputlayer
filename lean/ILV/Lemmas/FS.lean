/-
  The abstract file system seen through `get`: one equation per primitive, the effect of a crash, and the temp-file
  discipline of a save (write the temp file, fsync it, rename it over the destination).
-/
import ILV.Model.FS
namespace ILV
open ILV.FS

namespace FS
variable {π ρ : Type} [DecidableEq π]

theorem get_del (fs : Files π ρ) (p q : π) : get (del fs p) q = if q = p then none else get fs q := by
  induction fs with
  | nil => simp [del, get]
  | cons e rest ih =>
    obtain ⟨k, f⟩ := e
    by_cases hk : k = p
    · subst hk
      simp only [del, if_true, ih]
      by_cases hq : q = k
      · simp [hq]
      · simp [get, hq, Ne.symm hq]
    · simp only [del, hk, if_false, get, ih]
      by_cases hkq : k = q
      · subst hkq; simp [hk]
      · simp [hkq]

theorem get_put (fs : Files π ρ) (p q : π) (f : File ρ) :
    get (put fs p f) q = if p = q then some f else get fs q := by
  by_cases h : p = q
  · simp [put, get, h]
  · simp [put, get, get_del, h, Ne.symm h]

theorem get_crash (fs : Files π ρ) (cuts : π → Option Cut) (p : π) :
    get (crash fs cuts) p = (get fs p).map (fun f => crashFile f (cuts p)) := by
  induction fs with
  | nil => rfl
  | cons e rest ih =>
    by_cases hk : e.1 = p
    · simp [crash, get, hk]
    · simp [crash, get, hk, ih]

omit [DecidableEq π] in
theorem crash_idem (fs : Files π ρ) : crash (crash fs noCut) noCut = crash fs noCut := by
  induction fs with
  | nil => rfl
  | cons e rest ih => simp [crash, ih, noCut, crashFile]

theorem applyAll_nil (fs : Files π ρ) : applyAll fs [] = fs := rfl

theorem applyAll_cons (fs : Files π ρ) (o : Op π ρ) (os : List (Op π ρ)) :
    applyAll fs (o :: os) = applyAll (apply fs o) os := rfl

theorem apply_nop (fs : Files π ρ) (l : Nat) : apply fs (.nop l) = fs := rfl

theorem applyAll_append (fs : Files π ρ) (a b : List (Op π ρ)) :
    applyAll fs (a ++ b) = applyAll (applyAll fs a) b := List.foldl_append ..

theorem get_write (fs : Files π ρ) (p q : π) (rs : List ρ) :
    get (apply fs (.write p rs)) q = if p = q then some { synced := [], unsynced := rs.map .whole } else get fs q :=
  get_put ..

theorem get_append (fs : Files π ρ) (p q : π) (rs : List ρ) :
    get (apply fs (.append p rs)) q =
      if p = q then some { synced := ((get fs p).getD {}).synced, unsynced := ((get fs p).getD {}).unsynced ++ rs.map .whole }
      else get fs q := by
  cases h : get fs p <;> simp [apply, h, get_put]

theorem get_fsync (fs : Files π ρ) (p q : π) :
    get (apply fs (.fsync p)) q =
      if p = q then (get fs p).map (fun f => { synced := f.items, unsynced := [] }) else get fs q := by
  by_cases hq : p = q
  · subst hq
    cases h : get fs p <;> simp [apply, h, get_put]
  · cases h : get fs p <;> simp [apply, h, get_put, hq]

theorem get_rename (fs : Files π ρ) (a b q : π) :
    get (apply fs (.rename a b)) q =
      match get fs a with
      | some f => if b = q then some f else if q = a then none else get fs q
      | none => get fs q := by
  cases h : get fs a <;> simp [apply, h, get_put, get_del]

theorem get_unlink (fs : Files π ρ) (p q : π) :
    get (apply fs (.unlink p)) q = if q = p then none else get fs q := get_del ..

theorem mem_paths (fs : Files π ρ) (p : π) : p ∈ paths fs ↔ (get fs p).isSome := by
  induction fs with
  | nil => simp [paths, get]
  | cons e rest ih =>
    have ih' : p ∈ rest.map (·.1) ↔ (get rest p).isSome := ih
    by_cases hk : e.1 = p
    · simp [paths, get, hk]
    · simp [paths, get, hk, Ne.symm hk, ih']

/-- The temp-file discipline of every `save`: (mkdir,) write `tmp`, fsync it, rename it over `dst`(, fsync the
    directory), cut after `j` steps. -/
theorem get_save_take (fs : Files π ρ) (l l' : Nat) (tmp dst : π) (doc : ρ) (j : Nat) (q : π) (hq : q ≠ tmp) :
    get (applyAll fs ([.nop l, .write tmp [doc], .fsync tmp, .rename tmp dst, .nop l'].take j)) q =
      if 4 ≤ j ∧ q = dst then some { synced := [.whole doc], unsynced := [] } else get fs q := by
  have hq' : ¬ tmp = q := Ne.symm hq
  match j with
  | 0 | 1 => simp [applyAll_cons, applyAll_nil, apply_nop]
  | 2 => simp [applyAll_cons, applyAll_nil, apply_nop, get_write, hq']
  | 3 => simp [applyAll_cons, applyAll_nil, apply_nop, get_fsync, get_write, hq']
  | n + 4 =>
    have hn : applyAll fs ([.nop l, .write tmp [doc], .fsync tmp, .rename tmp dst, .nop l'].take (n + 4)) =
        apply (apply (apply fs (.write tmp [doc])) (.fsync tmp)) (.rename tmp dst) := by
      cases n <;> simp [applyAll_cons, applyAll_nil, apply_nop]
    rw [hn]
    simp [get_rename, get_fsync, get_write, hq, hq', File.items, eq_comm]
end FS

end ILV
