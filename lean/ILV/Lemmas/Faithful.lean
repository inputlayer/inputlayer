/-
  Decidable fragments on which the engine's clause evaluation coincides with the Spec's:
  rules whose comparison literals are pure *filters* over variables bound by positive atoms
  (no assignment, no arithmetic on both sides), with negation, constants, wildcards, repeated
  variables; in particular rules without comparison literals. (After the push-down and wildcard
  repairs the only clause-level deviation left in the model is the equality dropped by the builder's
  pass 2, which needs an assignment.)
-/
import ILV.Lemmas.Engine
import ILV.Lemmas.Spec
namespace ILV.Engine
open ILV ILV.DL

def notBinBin (c : Cmp) : Bool :=
  match c.2.1, c.2.2 with
  | .bin .., .bin .. => false
  | _, _ => true

/-- no aggregate; every comparison literal only mentions variables of positive atoms and has at most
    one arithmetic side. -/
def filterRule (r : Rule) : Bool :=
  !r.hasAgg && r.cmps.all (fun c => (Cmp.vars c).all r.posVars.contains && notBinBin c)

/-- no aggregate, no comparison literal. -/
def simpleRule (r : Rule) : Bool :=
  !r.hasAgg && r.body.all (fun
    | .pos _ => true
    | .neg _ => true
    | .cmp .. => false)

/-! A comparison literal all of whose variables are bound is a filter: every arm of the builder's
    case analyses (and of the Spec's `defines`) tests whether a variable of the literal is bound. -/

theorem mem_vars_left {op : CmpOp} {x : String} {r : Expr} : x ∈ Cmp.vars (op, .var x, r) := by
  simp [Cmp.vars, Expr.vars]

theorem mem_vars_right {op : CmpOp} {x : String} {l : Expr} : x ∈ Cmp.vars (op, l, .var x) := by
  simp [Cmp.vars, Expr.vars]

theorem pass1Of_bound {bnd : List String} {c : Cmp} (h : ∀ x, x ∈ Cmp.vars c → bnd.contains x = true) :
    pass1Of bnd c = .skip := by
  unfold pass1Of
  split
  · rw [if_pos (h _ mem_vars_left)]
  · rw [if_pos (h _ mem_vars_right)]
  · simp only [h _ mem_vars_left, h _ mem_vars_right, Bool.not_true, Bool.and_false, Bool.false_and,
      Bool.false_eq_true, if_false]
  · rw [if_pos (h _ mem_vars_left)]
  · rw [if_pos (h _ mem_vars_right)]
  · rfl

theorem skipped_bound {pre : List String} {c : Cmp} (h : ∀ x, x ∈ Cmp.vars c → pre.contains x = true) :
    skippedInPass2 pre c = false := by
  unfold skippedInPass2
  split
  · rw [h _ mem_vars_left]; rfl
  · rw [h _ mem_vars_right]; rfl
  · rw [h _ mem_vars_left, h _ mem_vars_right]; rfl
  · rw [h _ mem_vars_left]; rfl
  · rw [h _ mem_vars_right]; rfl
  · rfl

theorem defines_bound {bnd : List String} {c : Cmp} (h : ∀ x, x ∈ Cmp.vars c → bnd.contains x = true) :
    defines bnd c = none := by
  unfold defines
  split
  · rw [h _ mem_vars_left, Bool.not_true, Bool.false_and, if_neg Bool.false_ne_true]
    split
    · rw [h _ mem_vars_right, Bool.not_true, Bool.and_false, if_neg Bool.false_ne_true]
    · rfl
  · rw [h _ mem_vars_right, Bool.not_true, Bool.false_and, if_neg Bool.false_ne_true]
  · rfl

theorem pass1_filters (pre : List String) : ∀ (cs : List Cmp), (∀ c, c ∈ cs → ∀ x, x ∈ Cmp.vars c → pre.contains x = true) →
    pass1 cs pre = some []
  | [], _ => rfl
  | c :: cs, h => by
    rw [pass1, pass1Of_bound (h c (List.mem_cons_self ..))]
    exact pass1_filters pre cs (fun x hx => h x (List.mem_cons_of_mem _ hx))

theorem buildCmps_filters (r : Rule) (h : filterRule r = true) : buildCmps r.posVars r.cmps = some ([], r.cmps) := by
  simp only [filterRule, Bool.and_eq_true, List.all_eq_true] at h
  have hv : ∀ c, c ∈ r.cmps → ∀ x, x ∈ Cmp.vars c → r.posVars.contains x = true := fun c hc => (h.2 c hc).1
  have hf : r.cmps.filter (fun c => !skippedInPass2 r.posVars c) = r.cmps :=
    List.filter_eq_self.2 fun c hc => by rw [skipped_bound (hv c hc)]; rfl
  have hb : r.cmps.all (filterBuildable r.posVars) = true :=
    List.all_eq_true.2 fun c hc => Bool.and_eq_true_iff.2 ⟨List.all_eq_true.2 (hv c hc), (h.2 c hc).2⟩
  simp only [buildCmps, pass1_filters r.posVars r.cmps hv, List.map_nil, List.nil_append, hf, hb, if_true]

theorem lookup_isSome_keys : ∀ (env : Env) (x : String), bound env x = true → (env.map (·.1)).contains x = true
  | [], x, h => by simp [bound, List.lookup] at h
  | (y, v) :: env, x, h => by
    by_cases hxy : x = y
    · simp [hxy]
    · rw [bound, lookup_cons_ne x y v env hxy] at h
      rw [List.map_cons, List.contains_cons, lookup_isSome_keys env x h, Bool.or_true]

theorem bindRound_id (cs : List Cmp) (env : Env) (h : ∀ c, c ∈ cs → (Cmp.vars c).all (bound env) = true) : bindRound cs env = env := by
  unfold bindRound
  induction cs with
  | nil => rfl
  | cons c cs ih =>
    rw [List.foldl_cons, defines_bound fun x hx =>
      lookup_isSome_keys env x (List.all_eq_true.1 (h c (List.mem_cons_self ..)) x hx)]
    exact ih (fun d hd => h d (List.mem_cons_of_mem _ hd))

theorem iter_id {α} (f : α → α) (a : α) (h : f a = a) : ∀ n, iter f n a = a
  | 0 => rfl
  | n + 1 => by rw [iter, h]; exact iter_id f a h n

theorem specCmps_filters (lk : String → List Tuple) (r : Rule) (h : filterRule r = true) :
    specCmps r.cmps (evalPos lk r.posAtoms [[]]) =
      (evalPos lk r.posAtoms [[]]).filter (fun env => r.cmps.all (Cmp.holds env)) := by
  simp only [filterRule, Bool.and_eq_true, List.all_eq_true] at h
  have hb : ∀ env, env ∈ evalPos lk r.posAtoms [[]] → r.cmps.all (fun c => (Cmp.vars c).all (bound env)) = true :=
    fun env he => List.all_eq_true.2 fun c hc => List.all_eq_true.2 fun x hx =>
      evalPos_binds lk r env he x (List.contains_iff_mem.1 ((h.2 c hc).1 x hx))
  unfold specCmps
  rw [(List.map_congr_left fun env he => iter_id _ env (bindRound_id r.cmps env (List.all_eq_true.1 (hb env he))) _).trans
    (List.map_id' _), List.filter_eq_self.2 hb]

theorem evalRuleM_eq_of_filter (r : Rule) (h : filterRule r = true) (lk : String → List Tuple) :
    evalRuleM true lk r = evalRuleLk lk r := by
  unfold evalRuleM bodyEnvsM evalRuleLk bodyEnvs headOf
  rw [buildCmps_filters r h, specCmps_filters lk r h]
  have : applyCols [] = fun env => some env := rfl
  simp only [List.any_nil, Bool.false_eq_true, if_false, this, optMapM_some_id]

theorem clauseFaithful_of_filter (p : Program) (h : p.all filterRule = true) : ClauseFaithful p := by
  intro r hr lk
  exact evalRuleM_eq_of_filter r (List.all_eq_true.1 h r hr) lk

theorem cmps_nil_of_simple (r : Rule) (h : simpleRule r = true) : r.cmps = [] := by
  rw [simpleRule, Bool.and_eq_true, List.all_eq_true] at h
  refine List.filterMap_eq_nil_iff.2 fun l hl => ?_
  have := h.2 l hl
  cases l <;> first | rfl | cases this

theorem filterRule_of_simple {r : Rule} (h : simpleRule r = true) : filterRule r = true := by
  rw [filterRule, cmps_nil_of_simple r h, List.all_nil, Bool.and_true]
  exact (Bool.and_eq_true_iff.1 h).1

/-! ### the unrepaired push-down plan (kept for `Drv.C01.pushdownShift`) does nothing without filters -/

theorem evalPosF_trivial (lk : String → List Tuple) : ∀ (l : List Atom) (envs : List Env),
    evalPosF lk (l.map (fun a => (a, noFilter))) envs = evalPos lk l envs
  | [], _ => rfl
  | a :: l, envs => by
    rw [List.map_cons, evalPosF, evalPos, List.filter_eq_self (p := noFilter) |>.2 fun _ _ => rfl]
    exact evalPosF_trivial lk l _

theorem pushPlan_nil (r : Rule) : pushPlan r [] = none := by
  unfold pushPlan
  split
  · rfl
  · simp

end ILV.Engine
