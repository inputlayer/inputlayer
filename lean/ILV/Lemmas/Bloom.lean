/-
  Helper lemmas for C36 (bloom filter part): word-level bit set/test, monotonicity of `insert`.
-/
import ILV.Model.Index
namespace ILV

theorem and_two_pow_ne_zero_iff (x o : Nat) : (x &&& 2 ^ o ≠ 0) ↔ x.testBit o = true := by
  constructor
  · intro h
    obtain ⟨i, hi⟩ := Nat.exists_testBit_of_ne_zero h
    rw [Nat.testBit_and, Bool.and_eq_true, Nat.testBit_two_pow] at hi
    have : o = i := by simpa using hi.2
    subst this; exact hi.1
  · intro h e
    have : (x &&& 2 ^ o).testBit o = true := by
      rw [Nat.testBit_and, h, Nat.testBit_two_pow_self]; rfl
    rw [e] at this
    simp at this

theorem getBit_iff (ws : List Nat) (idx : Nat) :
    getBit ws idx = true ↔ (ws.getD (idx / 64) 0).testBit (idx % 64) = true := by
  unfold getBit
  rw [Nat.one_shiftLeft, bne_iff_ne]
  exact and_two_pow_ne_zero_iff _ _

theorem getBit_setBit_self (ws : List Nat) (idx : Nat) (h : idx / 64 < ws.length) :
    getBit (setBit ws idx) idx = true := by
  rw [getBit_iff]
  unfold setBit
  rw [List.getD_eq_getElem?_getD, List.getElem?_set]
  simp only [h, if_true, Option.getD_some]
  rw [Nat.testBit_or, Nat.one_shiftLeft, Nat.testBit_two_pow_self]
  simp

theorem getBit_setBit_mono (ws : List Nat) (idx j : Nat) (hj : getBit ws j = true) :
    getBit (setBit ws idx) j = true := by
  rw [getBit_iff] at hj ⊢
  unfold setBit
  rw [List.getD_eq_getElem?_getD, List.getElem?_set]
  by_cases e : idx / 64 = j / 64
  · by_cases hl : idx / 64 < ws.length
    · simp only [e, if_true]
      rw [e] at hl
      simp only [hl, if_true, Option.getD_some]
      rw [Nat.testBit_or, hj]; rfl
    · -- out of range: the word reads as 0, contradiction with hj
      exfalso
      rw [e] at hl
      rw [List.getD_eq_getElem?_getD, List.getElem?_eq_none (by omega)] at hj
      simp at hj
  · simp only [e, if_false]
    rw [← List.getD_eq_getElem?_getD]; exact hj

theorem length_setBit (ws : List Nat) (idx : Nat) : (setBit ws idx).length = ws.length := by
  unfold setBit; simp

def setBits (ws : List Nat) (idxs : List Nat) : List Nat := idxs.foldl setBit ws

theorem length_setBits (idxs : List Nat) : ∀ ws, (setBits ws idxs).length = ws.length := by
  induction idxs with
  | nil => intro ws; rfl
  | cons i is ih => intro ws; simp [setBits] at ih ⊢; rw [ih, length_setBit]

theorem getBit_setBits_mono (idxs : List Nat) : ∀ ws j, getBit ws j = true → getBit (setBits ws idxs) j = true := by
  induction idxs with
  | nil => intro ws j h; exact h
  | cons i is ih =>
    intro ws j h
    simp only [setBits, List.foldl_cons]
    exact ih _ _ (getBit_setBit_mono ws i j h)

theorem getBit_setBits_mem (idxs : List Nat) :
    ∀ ws j, j ∈ idxs → j / 64 < ws.length → getBit (setBits ws idxs) j = true := by
  induction idxs with
  | nil => intro ws j h; cases h
  | cons i is ih =>
    intro ws j hmem hlen
    simp only [setBits, List.foldl_cons]
    rcases List.mem_cons.1 hmem with e | hm
    · subst e
      exact getBit_setBits_mono is _ _ (getBit_setBit_self ws j hlen)
    · exact ih _ _ hm (by rw [length_setBit]; exact hlen)

/-- well-formedness of a filter: the invariant every constructor establishes. -/
structure Bloom.WF (b : Bloom) : Prop where
  bits_len : b.numBits = b.bits.length * 64
  pos : 0 < b.numBits

theorem insert_bits_eq (b : Bloom) (h1 h2 : Nat) :
    (b.insert h1 h2).bits = setBits b.bits ((List.range b.numHashes).map (b.bitIndex h1 h2)) := by
  simp [Bloom.insert, setBits, List.foldl_map]

theorem Bloom.WF.bitIndex_lt {b : Bloom} (w : b.WF) (h1 h2 i : Nat) : b.bitIndex h1 h2 i / 64 < b.bits.length := by
  have : b.bitIndex h1 h2 i < b.numBits := Nat.mod_lt _ w.pos
  rw [w.bits_len] at this
  omega

theorem Bloom.WF.insert {b : Bloom} (w : b.WF) (h1 h2 : Nat) : (b.insert h1 h2).WF := by
  constructor
  · rw [insert_bits_eq, length_setBits]; exact w.bits_len
  · exact w.pos

theorem Bloom.WF.clear {b : Bloom} (w : b.WF) : b.clear.WF := by
  constructor
  · simp [Bloom.clear]; exact w.bits_len
  · exact w.pos

theorem divCeil_pos (a : Nat) (h : 64 ≤ a) : 0 < divCeil a 64 := by
  unfold divCeil
  exact Nat.div_pos (by omega) (by decide)

/-- both constructors allocate `w > 0` zero words and set `num_bits = 64 w`. -/
theorem wf_of_words {w k c : Nat} (hw : 0 < w) : Bloom.WF ⟨List.replicate w 0, w * 64, k, c⟩ :=
  ⟨by rw [List.length_replicate], Nat.mul_pos hw (by decide)⟩

theorem Bloom.withParams_WF (nb k : Nat) : (Bloom.withParams nb k).WF :=
  wf_of_words (divCeil_pos _ (Nat.le_max_right _ _))

theorem Bloom.newFrom_WF (rb rk : Nat) : (Bloom.newFrom rb rk).WF :=
  wf_of_words (divCeil_pos _ (Nat.le_max_right _ _))

@[simp] theorem insert_numBits (b : Bloom) (h1 h2 : Nat) : (b.insert h1 h2).numBits = b.numBits := rfl
@[simp] theorem insert_numHashes (b : Bloom) (h1 h2 : Nat) : (b.insert h1 h2).numHashes = b.numHashes := rfl
@[simp] theorem insert_bitIndex (b : Bloom) (h1 h2 x y i : Nat) :
    (b.insert h1 h2).bitIndex x y i = b.bitIndex x y i := rfl

theorem mightContain_insert_self {b : Bloom} (w : b.WF) (h1 h2 : Nat) :
    (b.insert h1 h2).mightContain h1 h2 = true := by
  unfold Bloom.mightContain
  rw [List.all_eq_true]
  intro i hi
  rw [insert_bits_eq, insert_bitIndex]
  apply getBit_setBits_mem
  · exact List.mem_map.2 ⟨i, by simpa using hi, rfl⟩
  · exact w.bitIndex_lt h1 h2 i

theorem mightContain_insert_mono (b : Bloom) (h1 h2 x y : Nat) (hc : b.mightContain x y = true) :
    (b.insert h1 h2).mightContain x y = true := by
  unfold Bloom.mightContain at hc ⊢
  rw [List.all_eq_true] at hc ⊢
  intro i hi
  rw [insert_bits_eq, insert_bitIndex]
  exact getBit_setBits_mono _ _ _ (hc i (by simpa using hi))

theorem Bloom.WF.apply {b : Bloom} (w : b.WF) (op : BloomOp) : (b.apply op).WF := by
  cases op with
  | ins h1 h2 => exact w.insert h1 h2
  | clear => exact w.clear

theorem Bloom.WF.runOps {b : Bloom} (w : b.WF) (ops : List BloomOp) : (b.runOps ops).WF := by
  induction ops generalizing b with
  | nil => exact w
  | cons op ops ih => exact ih (w.apply op)

theorem runOps_no_clear_mono (ops : List BloomOp) :
    ∀ (b : Bloom) (x y : Nat), ops.any (· == .clear) = false → b.mightContain x y = true →
      (b.runOps ops).mightContain x y = true := by
  induction ops with
  | nil => intro b x y _ h; exact h
  | cons op ops ih =>
    intro b x y hn h
    simp only [List.any_cons, Bool.or_eq_false_iff] at hn
    cases op with
    | clear => simp at hn
    | ins h1 h2 =>
      exact ih _ x y hn.2 (mightContain_insert_mono b h1 h2 x y h)

theorem no_false_negative (ops : List BloomOp) :
    ∀ (b : Bloom), b.WF → ∀ h1 h2, insertedSinceClear h1 h2 ops = true →
      (b.runOps ops).mightContain h1 h2 = true := by
  induction ops with
  | nil => intro b _ h1 h2 h; simp [insertedSinceClear] at h
  | cons op ops ih =>
    intro b w h1 h2 h
    unfold insertedSinceClear at h
    by_cases hs : insertedSinceClear h1 h2 ops = true
    · exact ih (b.apply op) (w.apply op) h1 h2 hs
    · simp only [hs] at h
      by_cases hc : ops.any (· == .clear) = true
      · simp [hc] at h
      · simp only [hc] at h
        have hop : op = .ins h1 h2 := by simpa using h
        subst hop
        have hc' : ops.any (· == .clear) = false := by
          cases hq : ops.any (· == .clear) with
          | true => exact absurd hq hc
          | false => rfl
        exact runOps_no_clear_mono ops _ h1 h2 hc' (mightContain_insert_self w h1 h2)

end ILV
