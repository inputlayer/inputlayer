/-
  For C13: recovery of a single-shard store from an as-is image, stage by stage — `load_shards` and
  the orphan cleanup keep the image, the WAL replay yields a running state whose drain flush is the `flush` of
  `PersistRun`, the read-back serves the image's content.
-/
import ILV.Lemmas.PersistRun
namespace ILV.Persist
open ILV.FS

def orphan (shards : List (Name × Shard)) : Path → Bool
  | .batch id => !referenced shards id
  | .batchTmp _ => true
  | _ => false

theorem cleanup_ext (L : List Path) : ∀ w : World,
    (cleanupOrphans w L).1.mem = w.mem ∧ (cleanupOrphans w L).1.failed = w.failed ∧
    ∀ q, itemsAt (cleanupOrphans w L).1.disk q = if (q ∈ L ∧ orphan w.mem.shards q = true) then none else itemsAt w.disk q := by
  induction L with
  | nil => intro w; simp [cleanupOrphans]
  | cons p rest ih =>
    intro w
    -- the head `p` is unlinked, under label `l`, if it is an orphan (`o`), and skipped otherwise (`l` is then not looked at)
    have step : ∀ (l : Lbl) (o : Bool), o = orphan w.mem.shards p →
        (cleanupOrphans (bif o then emit w l (.unlink p) else w) rest).1.mem = w.mem ∧
        (cleanupOrphans (bif o then emit w l (.unlink p) else w) rest).1.failed = w.failed ∧
        ∀ q, itemsAt (cleanupOrphans (bif o then emit w l (.unlink p) else w) rest).1.disk q =
          if (q ∈ p :: rest ∧ orphan w.mem.shards q = true) then none else itemsAt w.disk q := by
      intro l o ho
      obtain ⟨h1, h2, h3⟩ := ih (bif o then emit w l (.unlink p) else w)
      have hm : (bif o then emit w l (.unlink p) else w).mem = w.mem := by cases o <;> rfl
      refine ⟨h1.trans hm, h2.trans (by cases o <;> rfl), fun q => ?_⟩
      rw [h3, hm]
      by_cases hq : q = p
      · subst hq; cases o <;> simp [← ho, emit, itemsAt_unlink]
      · cases o <;> simp [hq, emit, itemsAt_unlink]
    cases p with
    | batch id =>
      simp only [cleanupOrphans]
      split
      · next href => exact step .orphansUnlinkBatch false (by simp [orphan, href])
      · next href => exact step .orphansUnlinkBatch true (by simpa [orphan] using href)
    | batchTmp id => exact step .orphansUnlinkTmp true rfl
    | wal | walNew | smeta f | metaTmp f => exact step .walOpen false rfl

theorem cleanup_steps {s : Name} {md : Option ShardMeta} {X es : List Update} (L : List Path) :
    ∀ w : World, Img s w.disk md X es → (∀ q, orphan w.mem.shards q = true → ¬ observed md q) →
      Steps (fun d' => Img s d' md X es) w (cleanupOrphans w L).1 := by
  induction L with
  | nil => exact fun w himg _ => .refl himg
  | cons p rest ih =>
    intro w himg horph
    cases p with
    | batch id =>
      simp only [cleanupOrphans]
      split
      · exact ih w himg horph
      · next href =>
        have h1 := himg.unlink (.batch id) (horph _ (by simpa [orphan] using href))
        exact (Steps.emit .orphansUnlinkBatch _ himg h1).trans (ih (emit w _ _) h1 horph)
    | batchTmp id =>
      have h1 := himg.unlink (.batchTmp id) (fun h => h)
      exact (Steps.emit .orphansUnlinkTmp _ himg h1).trans (ih (emit w _ _) h1 horph)
    | wal | walNew | smeta f | metaTmp f => exact ih w himg horph

theorem afterCleanup_steps {s : Name} {md : Option ShardMeta} {X es : List Update} (w : World) (L : List Path)
    (himg : Img s w.disk md X es) (horph : ∀ q, orphan w.mem.shards q = true → ¬ observed md q) :
    Steps (fun d' => Img s d' md X es) w (afterCleanup w L) ∧ (afterCleanup w L).mem = w.mem ∧
      (afterCleanup w L).failed = w.failed := by
  have h := cleanup_steps L w himg horph
  obtain ⟨hm, hf, _⟩ := cleanup_ext L w
  simp only [afterCleanup]
  split
  · exact ⟨h.trans (.emit _ _ h.last (h.last.nop 0)), hm, hf⟩
  · exact ⟨h, hm, hf⟩

theorem foldl_max_ge (l : List BatchRef) (init : Nat) :
    init ≤ l.foldl (fun a b => max a (b.id + 1)) init ∧ ∀ b ∈ l, b.id < l.foldl (fun a b => max a (b.id + 1)) init := by
  induction l generalizing init with
  | nil => simp
  | cons x xs ih =>
    simp only [List.foldl_cons]
    obtain ⟨h1, h2⟩ := ih (max init (x.id + 1))
    refine ⟨by omega, ?_⟩
    intro b hb
    rcases List.mem_cons.1 hb with e | e
    · subst e; omega
    · exact h2 b e

theorem readBatches_isSome (d : Disk) (bs : List BatchRef) (X : List Update) (h : readBatches d bs = some X) :
    ∀ b ∈ bs, (get d (.batch b.id)).isSome = true := by
  induction bs generalizing X with
  | nil => simp
  | cons x xs ih =>
    simp only [readBatches] at h
    cases hx : readBatch d x.id with
    | none => simp [hx] at h
    | some ux =>
      cases hxs : readBatches d xs with
      | none => simp [hx, hxs] at h
      | some uxs =>
        intro b hb
        rcases List.mem_cons.1 hb with e | e
        · subst e
          simp only [readBatch, readDoc] at hx
          cases hg : get d (.batch b.id) with
          | none => simp [hg] at hx
          | some f => simp
        · exact ih uxs hxs b e

theorem loadShards_const (d : Disk) (f0 : Name) (m : ShardMeta)
    (hdoc : readDoc d (.smeta f0) = some (.smeta m))
    (hex : ∀ b ∈ m.batches, (get d (.batch b.id)).isSome = true) :
    ∀ L : List Name, L ≠ [] → (∀ f ∈ L, f = f0) →
      ∃ nb, loadShards d L = some ([(m.name, { md := m, buffer := [] })], nb) ∧ ∀ b ∈ m.batches, b.id < nb := by
  have hvalid : m.batches.filter (fun b => (get d (.batch b.id)).isSome) = m.batches :=
    List.filter_eq_self.2 hex
  intro L
  induction L with
  | nil => intro h; exact absurd rfl h
  | cons f rest ih =>
    intro _ hall
    have hf : f = f0 := hall f (by simp)
    subst hf
    by_cases hr : rest = []
    · subst hr
      refine ⟨m.batches.foldl (fun a b => max a (b.id + 1)) 1, by simp [loadShards, hdoc, hvalid, sSet], (foldl_max_ge _ _).2⟩
    · obtain ⟨nb, h1, _⟩ := ih hr (fun g hg => hall g (by simp [hg]))
      refine ⟨m.batches.foldl (fun a b => max a (b.id + 1)) nb, by simp [loadShards, hdoc, h1, hvalid, sSet], (foldl_max_ge _ _).2⟩

theorem stageLoad_steps {s : Name} {d : Disk} {md : Option ShardMeta} {X es : List Update} {shards : List (Name × Shard)}
    {nb : Nat} (h : Img s d md X es) (hls : loadShards d (metaPaths d) = some (shards, nb))
    (horph : ∀ q, orphan shards q = true → ¬ observed md q) :
    ∃ w1, stageLoad d = some w1 ∧ w1.failed = false ∧ w1.mem.shards = shards ∧ w1.mem.nextBatch = nb ∧
      Steps (fun d' => Img s d' md X es) { disk := d } w1 := by
  obtain ⟨hst, hm, hf⟩ := afterCleanup_steps (loadWorld d shards nb) (paths d) h horph
  have h0 : Steps (fun d' => Img s d' md X es) { disk := d } (loadWorld d shards nb) :=
    ⟨_, rfl, rfl, allPre_cons h (allPre_cons h (allPre_nil h))⟩
  exact ⟨_, by simp [stageLoad, hls], hf, congrArg Mem.shards hm, congrArg Mem.nextBatch hm, h0.trans hst⟩

theorem load_ok {s : Name} {d : Disk} {md : Option ShardMeta} {X es : List Update} (h : Img s d md X es) :
    ∃ w1, stageLoad d = some w1 ∧ w1.failed = false ∧ Steps (fun d' => Img s d' md X es) { disk := d } w1 ∧
      ((md = none ∧ w1.mem.shards = []) ∨ ∃ m, md = some m ∧ w1.mem.shards = [(s, { md := m, buffer := [] })] ∧
        ∀ b ∈ m.batches, b.id < w1.mem.nextBatch) := by
  cases md with
  | none =>
    have hmp : metaPaths d = [] := List.eq_nil_iff_forall_not_mem.2 fun f hf => by
      simpa [(h.noMeta rfl).1 f] using (mem_metaPaths d f).1 hf
    obtain ⟨w1, h1, h2, h3, _, h5⟩ := stageLoad_steps (shards := []) (nb := 1) h (by rw [hmp]; rfl)
      (fun q hq hobs => by
        cases q with
        | batch id => obtain ⟨_, hm, _⟩ := hobs; cases hm
        | batchTmp id => exact hobs
        | _ => cases hq)
    exact ⟨w1, h1, h2, h5, .inl ⟨rfl, h3⟩⟩
  | some m =>
    obtain ⟨hname, hmeta, hothers, hX⟩ := h.hasMeta m rfl
    have hin : metaFile s ∈ metaPaths d := (mem_metaPaths d _).2 (by simp [hmeta])
    have hall : ∀ f ∈ metaPaths d, f = metaFile s := fun f hf => by
      by_cases e : f = metaFile s
      · exact e
      · simpa [hothers f e] using (mem_metaPaths d f).1 hf
    obtain ⟨nb, hls, hids⟩ := loadShards_const d (metaFile s) m (by rw [readDoc_eq, hmeta])
      (readBatches_isSome d _ X hX) _ (List.ne_nil_of_mem hin) hall
    rw [hname] at hls
    obtain ⟨w1, h1, h2, h3, h4, h5⟩ := stageLoad_steps h hls (fun q hq hobs => by
      cases q with
      | batch id =>
        obtain ⟨m', hm', b, hb, hid⟩ := hobs
        cases hm'
        simp only [orphan, referenced, List.any_cons, List.any_nil, Bool.or_false, Bool.not_eq_true',
          List.any_eq_false] at hq
        exact hq b hb (by simpa using hid)
      | batchTmp id => exact hobs
      | _ => cases hq)
    exact ⟨w1, h1, h2, h5, .inr ⟨m, rfl, h3, h4 ▸ hids⟩⟩

theorem replay_one (s : Name) (es : List Update) (sh : Shard) :
    replay [(s, sh)] (es.map (fun u => (s, u))) = [(s, { sh with buffer := sh.buffer ++ es })] := by
  induction es generalizing sh with
  | nil => simp [replay]
  | cons e es ih =>
    simp only [List.map_cons, replay, sGet, if_true, Option.getD_some, sSet]
    rw [ih]
    simp

theorem stageReplay_nil (w : World) (ord : List Name) (h : readAll w.disk = some []) (hf : w.failed = false) :
    stageReplay w ord = some w := by
  obtain ⟨mem, disk, trace, failed⟩ := w
  obtain ⟨shards, nb, wo, cl, kn⟩ := mem
  simp only at h hf
  subst hf
  simp [stageReplay, h, replay]

theorem stageReplay_flush (w : World) (s : Name) (sh1 : Shard) (entries : List (Name × Update))
    (h : readAll w.disk = some entries) (hne : entries ≠ []) (hrp : replay w.mem.shards entries = [(s, sh1)])
    (hb : sh1.buffer ≠ [])
    (hff : (flush { w with mem := { w.mem with shards := [(s, sh1)] } } s).failed = false) :
    stageReplay w [] = some (flush { w with mem := { w.mem with shards := [(s, sh1)] } } s) := by
  have hd : dirty [(s, sh1)] = [s] := by simp [dirty, hb]
  simp only [stageReplay, h, hne, if_false, hrp, hd, orderBy, List.eraseDups_nil, List.filter_nil, List.nil_append,
    List.not_mem_nil, not_false_eq_true, decide_true, List.filter_cons_of_pos, flushList]
  simp [hff]

theorem replay_ok {s : Name} {w1 : World} {md : Option ShardMeta} {X es : List Update} (hf1 : w1.failed = false)
    (himg : Img s w1.disk md X es)
    (hshape : (md = none ∧ w1.mem.shards = []) ∨ ∃ m, md = some m ∧ w1.mem.shards = [(s, { md := m, buffer := [] })] ∧
      ∀ b ∈ m.batches, b.id < w1.mem.nextBatch) (C' : List Update) :
    ∃ w2, stageReplay w1 [] = some w2 ∧ Run s w2 (X ++ es) ∧ Steps (PreOk s C' (X ++ es)) w1 w2 := by
  have hread := readAll_of_img himg
  by_cases hes : es = []
  · subst hes
    refine ⟨w1, stageReplay_nil w1 [] hread hf1, ⟨hf1, ?_⟩, .refl (himg.new _)⟩
    rcases hshape with ⟨rfl, hsh⟩ | ⟨m, rfl, hsh, hids⟩
    · obtain ⟨_, rfl, _⟩ := himg.noMeta rfl
      exact .inl ⟨hsh, himg, rfl⟩
    · exact .inr ⟨_, m, X, hsh, (himg.hasMeta m rfl).1, rfl, himg, rfl, hids⟩
  · rcases hshape with ⟨rfl, _⟩ | ⟨m, rfl, hsh, hids⟩
    · exact absurd (himg.noMeta rfl).2.2 hes
    · have hrun : Run s { w1 with mem := { w1.mem with shards := [(s, { md := m, buffer := es })] } } (X ++ es) :=
        ⟨hf1, .inr ⟨_, m, X, rfl, (himg.hasMeta m rfl).1, rfl, himg, rfl, hids⟩⟩
      obtain ⟨hr, hst⟩ := run_flush hrun rfl hes C'
      exact ⟨_, stageReplay_flush w1 s { md := m, buffer := es } _ hread (by simpa using hes)
        (by rw [hsh, replay_one]; rfl) hes hr.notFailed, hr, hst⟩

theorem stageFinish_eq (w : World) (rels : List (Name × List Nat)) (hnew : (get w.disk .walNew).isSome = false)
    (hrel : loadRelations w.disk w.mem.shards = some rels) :
    ∃ w', stageFinish w = some w' ∧ w'.mem.shards = w.mem.shards ∧ w'.mem.nextBatch = w.mem.nextBatch ∧
      w'.disk = w.disk ∧ w'.failed = w.failed ∧ w'.trace = w.trace := by
  simp only [stageFinish, hnew, Bool.false_eq_true, if_false, hrel]
  exact ⟨_, rfl, rfl, rfl, rfl, rfl, rfl⟩

theorem finish_ok {s : Name} {w : World} {C : List Update} (hrun : Run s w C) :
    ∃ w', stageFinish w = some w' ∧ Run s w' C ∧ visible w' = visOf s C ∧ w'.trace = w.trace := by
  obtain ⟨_, _, _, himg0, _⟩ := hrun.img
  have key : ∀ rels, loadRelations w.disk w.mem.shards = some rels →
      (rels.filter (fun e => e.2 ≠ [])).foldr insertRel [] = visOf s C →
      ∃ w', stageFinish w = some w' ∧ Run s w' C ∧ visible w' = visOf s C ∧ w'.trace = w.trace := by
    intro rels hrel hv
    obtain ⟨w', hfin, e1, e2, e3, e4, e5⟩ := stageFinish_eq w rels (isSome_walNew himg0) hrel
    exact ⟨w', hfin, hrun.congr e1 e2 e3 e4, by rw [visible, e3, e1, hrel]; exact hv, e5⟩
  rcases hrun.shape with ⟨hsh, _, hC⟩ | ⟨sh, md0, X, hsh, _, hb0, himg, hC, _⟩
  · exact key [] (by rw [hsh]; rfl) (by simp [visOf, positive, hC])
  · have hX : readBatches w.disk sh.md.batches = some X := hb0 ▸ (himg.hasMeta md0 rfl).2.2.2
    refine key [(s, positive (X ++ sh.buffer))] (by simp [hsh, loadRelations, readShard, hX]) ?_
    rw [hC, visOf]
    by_cases h : positive (X ++ sh.buffer) = []
    · simp [h]
    · simp [h, insertRel]

theorem recover_ok {s : Name} {d : Disk} {md : Option ShardMeta} {X es : List Update} (h : Img s d md X es) :
    ∃ w, openEngine d = some w ∧ Run s w (X ++ es) ∧ visible w = visOf s (X ++ es) ∧
      AllPre d (w.trace.map (·.2)) (PreOk s (X ++ es) (X ++ es)) := by
  obtain ⟨w1, hload, hf1, hst1, hshape⟩ := load_ok h
  obtain ⟨w2, hrep, hrun2, hst2⟩ := replay_ok hf1 hst1.last hshape (X ++ es)
  obtain ⟨w', hfin, hrun', hvis, ht⟩ := finish_ok hrun2
  refine ⟨w', by simp only [openEngine, hload, hrep, hfin], hrun', hvis, ?_⟩
  rw [ht]
  exact ((hst1.mono fun _ hd => hd.new _).trans hst2).allPre rfl

theorem recover_img {s : Name} {d : Disk} {md : Option ShardMeta} {X es : List Update} (h : Img s d md X es) :
    ∃ w, openEngine d = some w ∧ Run s w (X ++ es) ∧ visible w = visOf s (X ++ es) := by
  obtain ⟨w, h1, h2, h3, _⟩ := recover_ok h
  exact ⟨w, h1, h2, h3⟩

theorem recover_pre {s : Name} {d : Disk} {md : Option ShardMeta} {X es : List Update} (h : Img s d md X es) :
    ∃ w, openEngine d = some w ∧ AllPre d (w.trace.map (·.2)) (PreOk s (X ++ es) (X ++ es)) := by
  obtain ⟨w, h1, _, _, h4⟩ := recover_ok h
  exact ⟨w, h1, h4⟩

end ILV.Persist
