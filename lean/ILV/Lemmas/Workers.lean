/-
  Lemmas for C03: hash partitioning covers every relation, and the evaluation of a clause with at
  most one positive atom, no negated atom and no aggregate distributes over the partitions.
-/
import ILV.Lemmas.Engine
namespace ILV.Engine
open ILV ILV.DL

theorem part_cover (hash : Tuple → Nat) (n : Nat) (hn : 0 < n) (lk : String → List Tuple) (r : String) (t : Tuple) :
    t ∈ lk r ↔ ∃ w, w ∈ List.range n ∧ t ∈ partLk hash n w lk r := by
  unfold partLk
  simp only [List.mem_filter, List.mem_range, beq_iff_eq]
  constructor
  · intro h; exact ⟨hash t % n, Nat.mod_lt _ hn, h, rfl⟩
  · rintro ⟨w, _, h, _⟩; exact h

theorem evalPos_dist (hash : Tuple → Nat) (n : Nat) (hn : 0 < n) (lk : String → List Tuple) (atoms : List Atom)
    (hlen : atoms.length ≤ 1) (env : Env) :
    env ∈ evalPos lk atoms [[]] ↔ ∃ w, w ∈ List.range n ∧ env ∈ evalPos (partLk hash n w lk) atoms [[]] := by
  match atoms, hlen with
  | [], _ =>
    simp only [evalPos, List.mem_singleton, List.mem_range]
    constructor
    · intro h; exact ⟨0, hn, h⟩
    · rintro ⟨_, _, h⟩; exact h
  | [a], _ =>
    simp only [evalPos, List.flatMap_cons, List.flatMap_nil, List.append_nil, List.mem_filterMap]
    constructor
    · rintro ⟨t, ht, hm⟩
      obtain ⟨w, hw, htw⟩ := (part_cover hash n hn lk a.rel t).1 ht
      exact ⟨w, hw, t, htw, hm⟩
    · rintro ⟨w, _, t, ht, hm⟩
      exact ⟨t, (List.mem_filter.1 ht).1, hm⟩

theorem specCmps_mem (cs : List Cmp) (envs : List Env) (x : Env) :
    x ∈ specCmps cs envs ↔ ∃ e, e ∈ envs ∧ x ∈ specCmps cs [e] := by
  unfold specCmps
  simp only [List.mem_filter, List.mem_map, List.map_cons, List.map_nil, List.mem_singleton]
  constructor
  · rintro ⟨⟨⟨e, he, rfl⟩, h1⟩, h2⟩
    exact ⟨e, he, ⟨rfl, h1⟩, h2⟩
  · rintro ⟨e, he, ⟨rfl, h1⟩, h2⟩
    exact ⟨⟨⟨e, he, rfl⟩, h1⟩, h2⟩

theorem evalNegs_nil (lk : String → List Tuple) (envs : List Env) : evalNegs lk [] envs = envs := by
  unfold evalNegs
  exact List.filter_eq_self.2 fun _ _ => rfl

theorem bodyEnvs_dist (hash : Tuple → Nat) (n : Nat) (hn : 0 < n) (lk : String → List Tuple) (r : Rule)
    (hpos : r.posAtoms.length ≤ 1) (hneg : r.negAtoms = []) (x : Env) :
    x ∈ bodyEnvs lk r ↔ ∃ w, w ∈ List.range n ∧ x ∈ bodyEnvs (partLk hash n w lk) r := by
  unfold bodyEnvs
  simp only [hneg, evalNegs_nil]
  rw [specCmps_mem]
  constructor
  · rintro ⟨e, he, hx⟩
    obtain ⟨w, hw, hew⟩ := (evalPos_dist hash n hn lk r.posAtoms hpos e).1 he
    exact ⟨w, hw, (specCmps_mem _ _ _).2 ⟨e, hew, hx⟩⟩
  · rintro ⟨w, hw, hx⟩
    obtain ⟨e, he, hx⟩ := (specCmps_mem _ _ _).1 hx
    exact ⟨e, (evalPos_dist hash n hn lk r.posAtoms hpos e).2 ⟨w, hw, he⟩, hx⟩

theorem bodyEnvsM_dist (hash : Tuple → Nat) (n : Nat) (hn : 0 < n) (lk : String → List Tuple) (r : Rule)
    (hpos : r.posAtoms.length ≤ 1) (hneg : r.negAtoms = []) (B : List Env) (hev : bodyEnvsM true lk r = some B) :
    (∀ w, w ∈ List.range n → ∃ Bw, bodyEnvsM true (partLk hash n w lk) r = some Bw) ∧
    (∀ x, x ∈ B ↔ ∃ w Bw, w ∈ List.range n ∧ bodyEnvsM true (partLk hash n w lk) r = some Bw ∧ x ∈ Bw) := by
  unfold bodyEnvsM at hev ⊢
  rw [hneg] at hev ⊢
  simp only [evalNegs_nil] at hev ⊢
  split at hev
  · cases hev
  next cols fs hb =>
  split at hev
  · cases hev
  next hdm =>
  simp only [if_neg hdm]
  split at hev
  · cases hev
  next E hc =>
  cases hev
  obtain ⟨hcw, hmemE⟩ := optMapM_dist (evalPos_dist hash n hn lk r.posAtoms hpos) hc
  constructor
  · intro w hw
    obtain ⟨Ew, hEw⟩ := hcw w hw
    rw [hEw]; exact ⟨_, rfl⟩
  · intro x
    rw [List.mem_filter, hmemE x]
    constructor
    · rintro ⟨⟨w, Ew, hw, hEw, hx⟩, hq⟩
      exact ⟨w, _, hw, by rw [hEw], List.mem_filter.2 ⟨hx, hq⟩⟩
    · rintro ⟨w, Bw, hw, hBw, hx⟩
      obtain ⟨Ew, hEw⟩ := hcw w hw
      rw [hEw] at hBw; cases hBw
      exact ⟨⟨w, Ew, hw, hEw, (List.mem_filter.1 hx).1⟩, (List.mem_filter.1 hx).2⟩

theorem evalRuleM_dist (hash : Tuple → Nat) (n : Nat) (hn : 0 < n) (lk : String → List Tuple) (r : Rule)
    (hpos : r.posAtoms.length ≤ 1) (hneg : r.negAtoms = []) (hagg : r.hasAgg = false)
    (ts : List Tuple) (hev : evalRuleM true lk r = some ts) :
    (∀ w, w ∈ List.range n → ∃ tw, evalRuleM true (partLk hash n w lk) r = some tw) ∧
    (∀ t, t ∈ ts ↔ ∃ w tw, w ∈ List.range n ∧ evalRuleM true (partLk hash n w lk) r = some tw ∧ t ∈ tw) := by
  have hhead : ∀ envs, headOf r envs = optMapM (fun env => optMapM (HTerm.plain env) r.hargs) envs := fun envs => by
    simp only [headOf, headOfSpec, hagg, Bool.false_eq_true, if_false, headRows]
  unfold evalRuleM at hev ⊢
  split at hev
  · next B hB =>
    rw [hhead] at hev
    obtain ⟨hbw, hmemB⟩ := bodyEnvsM_dist hash n hn lk r hpos hneg B hB
    obtain ⟨h1, h2⟩ := optMapM_dist (ls := fun w => (bodyEnvsM true (partLk hash n w lk) r).getD []) (fun x => by
      rw [hmemB x]
      constructor
      · rintro ⟨w, Bw, hw, hBw, hx⟩; exact ⟨w, hw, by rw [hBw]; exact hx⟩
      · rintro ⟨w, hw, hx⟩
        obtain ⟨Bw, hBw⟩ := hbw w hw
        exact ⟨w, Bw, hw, hBw, by rw [hBw] at hx; exact hx⟩) hev
    have hw' : ∀ w, w ∈ List.range n → ∀ tw, (match bodyEnvsM true (partLk hash n w lk) r with
        | some envs => headOf r envs | none => none) = some tw ↔
        optMapM (fun env => optMapM (HTerm.plain env) r.hargs) ((bodyEnvsM true (partLk hash n w lk) r).getD []) = some tw :=
      fun w hw tw => by
        obtain ⟨Bw, hBw⟩ := hbw w hw
        rw [hBw]; exact (hhead Bw) ▸ Iff.rfl
    constructor
    · intro w hw
      obtain ⟨tw, htw⟩ := h1 w hw
      exact ⟨tw, (hw' w hw tw).2 htw⟩
    · intro t
      rw [h2 t]
      constructor <;> rintro ⟨w, tw, hw, htw, ht⟩
      · exact ⟨w, tw, hw, (hw' w hw tw).2 htw, ht⟩
      · exact ⟨w, tw, hw, (hw' w hw tw).1 htw, ht⟩
  · cases hev

theorem evalRuleLk_dist (hash : Tuple → Nat) (n : Nat) (hn : 0 < n) (lk : String → List Tuple) (r : Rule)
    (hpos : r.posAtoms.length ≤ 1) (hneg : r.negAtoms = []) (hagg : r.hasAgg = false)
    (ts : List Tuple) (hev : evalRuleLk lk r = some ts) :
    (∀ w, w ∈ List.range n → ∃ tw, evalRuleLk (partLk hash n w lk) r = some tw) ∧
    (∀ t, t ∈ ts ↔ ∃ w tw, w ∈ List.range n ∧ evalRuleLk (partLk hash n w lk) r = some tw ∧ t ∈ tw) := by
  rw [evalRuleLk_noAgg lk hagg] at hev
  simp only [evalRuleLk_noAgg _ hagg]
  exact optMapM_dist (bodyEnvs_dist hash n hn lk r hpos hneg) hev

theorem evalRulesM_dist (hash : Tuple → Nat) (n : Nat) (hn : 0 < n) (lk : String → List Tuple) (cs : List Rule)
    (hsafe : parSafe cs = true) (ts : List Tuple) (hev : evalRulesM true lk cs = some ts) :
    MemEq (unionAll ((List.range n).map (fun w => (evalRulesM true (partLk hash n w lk) cs).getD []))) ts := by
  -- every clause distributes (`evalRuleM_dist`); in particular every partition evaluates every clause
  have hdist : ∀ r a, r ∈ cs → evalRuleM true lk r = some a → _ := fun r a hr ha => by
    have := List.all_eq_true.1 hsafe r hr
    simp only [Bool.and_eq_true, decide_eq_true_eq, List.isEmpty_iff, Bool.not_eq_true'] at this
    exact evalRuleM_dist hash n hn lk r this.1.1 this.1.2 this.2 a ha
  unfold evalRulesM at hev ⊢
  have hall := evalRulesWith_isSome.1 ⟨ts, hev⟩
  have hpart : ∀ w, w ∈ List.range n → ∃ tw, evalRulesWith (evalRuleM true (partLk hash n w lk)) cs = some tw :=
    fun w hw => evalRulesWith_isSome.2 fun r hr => let ⟨a, ha⟩ := hall r hr; (hdist r a hr ha).1 w hw
  intro t
  rw [mem_unionAll, evalRulesWith_some_mem _ _ _ hev t]
  simp only [List.mem_map]
  constructor
  · rintro ⟨l, ⟨w, hw, rfl⟩, ht⟩
    obtain ⟨tw, htw⟩ := hpart w hw
    rw [htw] at ht
    obtain ⟨r, a, hr, ha, hta⟩ := (evalRulesWith_some_mem _ _ _ htw t).1 ht
    obtain ⟨b, hb⟩ := hall r hr
    exact ⟨r, b, hr, hb, ((hdist r b hr hb).2 t).2 ⟨w, a, hw, ha, hta⟩⟩
  · rintro ⟨r, a, hr, ha, hta⟩
    obtain ⟨w, tw, hw, htw, htt⟩ := ((hdist r a hr ha).2 t).1 hta
    obtain ⟨tws, htws⟩ := hpart w hw
    exact ⟨tws, ⟨w, hw, by rw [htws]; rfl⟩, (evalRulesWith_some_mem _ _ _ htws t).2 ⟨r, tw, hr, htw, htt⟩⟩

/-- switches off, `n` workers, no row limit. -/
def cfgW (n : Nat) : Cfg := { workers := n }

/-- Recursive heads and heads with joins, negation or aggregates are never partitioned; for
    partitioned heads by distributivity (`evalRulesM_dist`). -/
theorem evalHead_workers (p : Program) (h : String) (n : Nat) (hn : 0 < n) (hash hash' : Tuple → Nat) (fuel : Nat)
    (lk : String → List Tuple) (ts : List Tuple)
    (he1 : evalHead (cfgW 1) hash' fuel p lk h = some ts) : evalHead (cfgW n) hash fuel p lk h = some ts := by
  unfold evalHead at he1 ⊢
  by_cases hs : selfRec p h = true
  · simp only [hs, if_true] at he1 ⊢; exact he1
  · simp only [hs, Bool.false_eq_true, if_false] at he1 ⊢
    have h1 : ¬ ((decide ((cfgW 1).workers > 1) && parSafe (clausesOf p h)) = true) := by
      simp [cfgW]
    rw [if_neg h1] at he1
    by_cases hpar : (decide ((cfgW n).workers > 1) && parSafe (clausesOf p h)) = true
    · rw [if_pos hpar]
      simp only [Bool.and_eq_true] at hpar
      have hd := evalRulesM_dist hash n hn lk (clausesOf p h) hpar.2 ts he1
      have hw : (cfgW n).workers = n := rfl
      simp only [hw, he1, Option.getD_some]
      congr 1
      rw [List.filter_eq_self.2 fun t ht => List.contains_iff_mem.2 ((hd t).2 ht),
        List.filter_eq_nil_iff.2 fun t ht => by simpa using (hd t).1 ht, List.append_nil]
    · rw [if_neg hpar]; exact he1

theorem execLoop_workers (p : Program) (edb : DB) (n : Nat) (hn : 0 < n) (hash hash' : Tuple → Nat)
    (ord : String → List Tuple → List Tuple) (fuel : Nat) :
    ∀ (order : List String) (acc : DB) (last A : List Tuple) (acc' : DB),
      execLoop (cfgW 1) hash' ord fuel p edb order acc last = .ok A acc' →
      execLoop (cfgW n) hash ord fuel p edb order acc last = .ok A acc'
  | [], _, _, _, _, h => by simpa [execLoop] using h
  | h :: rest, acc, last, A, acc', hr => by
    unfold execLoop at hr ⊢
    cases he1 : evalHead (cfgW 1) hash' fuel p (lkOf edb acc) h with
    | none => rw [he1] at hr; simp at hr
    | some ts =>
      rw [he1] at hr
      rw [evalHead_workers p h n hn hash hash' fuel _ ts he1]
      simp only [limited_eq_false (cfg := cfgW 1) rfl, limited_eq_false (cfg := cfgW n) rfl, Bool.and_false,
        Bool.false_eq_true, if_false] at hr ⊢
      exact execLoop_workers p edb n hn hash hash' ord fuel rest _ _ A acc' hr

theorem run_workers (p : Program) (edb : DB) (n : Nat) (hn : 0 < n) (hash hash' : Tuple → Nat)
    (ord : String → List Tuple → List Tuple) (fuel : Nat) (A : List Tuple) (acc : DB)
    (h1 : Engine.run (cfgW 1) hash' ord fuel p edb = .ok A acc) :
    Engine.run (cfgW n) hash ord fuel p edb = .ok A acc := by
  obtain ⟨h_e, h_s, h_b, hl⟩ := run_ok h1
  unfold Engine.run
  rw [h_e, h_s, h_b]
  exact execLoop_workers p edb n hn hash hash' ord fuel _ _ _ _ _ hl

end ILV.Engine
