/-
  Lemmas for C07: every tuple the engine model derives for a head has the shape of one of the
  head's clauses, and every head result is duplicate-free.
-/
import ILV.Lemmas.Engine
namespace ILV.Engine
open ILV ILV.DL

/-- `t` has the shape of the head of `r`: its arity, and (for non-aggregate heads) the head's
    constants in their positions. -/
def Fits (r : Rule) (t : Tuple) : Prop :=
  t.length = r.hargs.length ∧ (r.hasAgg = false → ∀ (i : Nat) (c : Value), r.hargs[i]? = some (HTerm.const c) → t[i]? = some c)

theorem plainRows_fits (hargs : List HTerm) (envs : List Env) (rows : List Tuple)
    (h : headRows hargs envs = some rows) (t : Tuple) (ht : t ∈ rows) :
    t.length = hargs.length ∧ ∀ (i : Nat) (c : Value), hargs[i]? = some (HTerm.const c) → t[i]? = some c := by
  obtain ⟨env, _, he⟩ := (optMapM_some_mem _ _ _ h t).1 ht
  refine ⟨optMapM_length _ _ _ he, fun i c hc => ?_⟩
  obtain ⟨y, hy, hg⟩ := optMapM_get _ _ _ he i _ hc
  cases hy
  exact hg

theorem headRows_fits (r : Rule) (_hagg : r.hasAgg = false) (envs : List Env) (rows : List Tuple)
    (h : headRows r.hargs envs = some rows) (t : Tuple) (ht : t ∈ rows) : Fits r t :=
  let ⟨hl, hc⟩ := plainRows_fits _ envs rows h t ht; ⟨hl, fun _ => hc⟩

theorem keysOf_mem (hargs : List HTerm) : ∀ (envs : List Env) (k : Tuple), k ∈ keysOf hargs envs →
    ∃ env, groupKey hargs env = some k
  | [], k, h => by simp [keysOf] at h
  | env :: envs, k, h => by
    unfold keysOf at h
    split at h
    · rename_i k' hk
      rcases List.mem_cons.1 h with rfl | h
      · exact ⟨env, hk⟩
      · exact keysOf_mem hargs envs k h
    · exact keysOf_mem hargs envs k h

theorem length_plain_add_agg : ∀ (hargs : List HTerm),
    (hargs.filter HTerm.isPlain).length + (aggArgs hargs).length = hargs.length
  | [] => rfl
  | .var _ :: hs | .const _ :: hs => by
    show ((hs.filter HTerm.isPlain).length + 1) + (aggArgs hs).length = hs.length + 1
    rw [Nat.add_right_comm, length_plain_add_agg hs]
  | .agg .. :: hs => congrArg (· + 1) (length_plain_add_agg hs)

theorem aggRows_length (hargs : List HTerm) (envs : List Env) (rows : List Tuple)
    (h : aggRows hargs envs = some rows) (t : Tuple) (ht : t ∈ rows) : t.length = hargs.length := by
  unfold aggRows at h
  obtain ⟨k, hk, he⟩ := (optMapM_some_mem _ _ _ h t).1 ht
  rw [mem_dedupT] at hk
  obtain ⟨env, hg⟩ := keysOf_mem hargs envs k hk
  unfold groupKey at hg
  have hkl := optMapM_length _ _ _ hg
  dsimp only at he
  split at he
  · rename_i avs hav
    have hal := optMapM_length _ _ _ hav
    cases he
    rw [List.length_append, hkl, hal]
    exact length_plain_add_agg hargs
  · cases he

theorem aggRowsSpec_length (hargs : List HTerm) (envs : List Env) (rows : List Tuple)
    (h : aggRowsSpec hargs envs = some rows) (t : Tuple) (ht : t ∈ rows) : t.length = hargs.length := by
  unfold aggRowsSpec at h
  obtain ⟨k, _, he⟩ := (optMapM_some_mem _ _ _ h t).1 ht
  dsimp only at he
  split at he
  · cases he
  · exact optMapM_length _ _ _ he

theorem headOf_fits (r : Rule) (envs : List Env) (rows : List Tuple) (h : headOf r envs = some rows)
    (t : Tuple) (ht : t ∈ rows) : Fits r t := by
  unfold headOf headOfSpec at h
  cases hagg : r.hasAgg
  · rw [hagg] at h; simp only [Bool.false_eq_true, if_false] at h
    exact headRows_fits r hagg envs rows h t ht
  · rw [hagg] at h; simp only [if_true] at h
    exact ⟨aggRowsSpec_length _ _ _ h t ht, fun hc => by rw [hagg] at hc; cases hc⟩

theorem evalRuleM_fits (opt : Bool) (lk : String → List Tuple) (r : Rule) (rows : List Tuple)
    (h : evalRuleM opt lk r = some rows) (t : Tuple) (ht : t ∈ rows) : Fits r t := by
  unfold evalRuleM at h
  split at h
  · exact headOf_fits r _ rows h t ht
  · cases h

/-- all tuples fit some rule of `cs`. -/
def AllFit (cs : List Rule) (ts : List Tuple) : Prop := ∀ t, t ∈ ts → ∃ r, r ∈ cs ∧ Fits r t

theorem evalRulesM_fits (opt : Bool) (lk : String → List Tuple) (cs : List Rule) (ts : List Tuple)
    (h : evalRulesM opt lk cs = some ts) : AllFit cs ts := by
  intro t ht
  unfold evalRulesM at h
  obtain ⟨r, a, hr, ha, hta⟩ := (evalRulesWith_some_mem _ _ _ h t).1 ht
  exact ⟨r, hr, evalRuleM_fits opt lk r a ha t hta⟩

theorem evalRulesWith_nodup (ev : Rule → Option (List Tuple)) : ∀ (rs : List Rule) (ts : List Tuple),
    evalRulesWith ev rs = some ts → ts.Nodup := by
  intro rs ts h
  rw [evalRulesWith_eq, Option.map_eq_some_iff] at h
  obtain ⟨as, _, rfl⟩ := h
  exact unionAll_nodup as

theorem allFit_mono {cs cs' : List Rule} (h : ∀ r, r ∈ cs → r ∈ cs') {ts : List Tuple} (hf : AllFit cs ts) : AllFit cs' ts :=
  fun t ht => let ⟨r, hr, hfit⟩ := hf t ht; ⟨r, h r hr, hfit⟩

theorem allFit_unionT {cs : List Rule} {a b : List Tuple} (ha : AllFit cs a) (hb : AllFit cs b) : AllFit cs (unionT a b) := by
  intro t ht
  rcases mem_unionT.1 ht with h | h
  · exact ha t h
  · exact hb t h

theorem lfpLoop_wf (lk : String → List Tuple) (h : String) (cs : List Rule) (base : List Tuple) (recs : List Rule)
    (hrecs : ∀ r, r ∈ recs → r ∈ cs) (hbn : base.Nodup) (hbf : AllFit cs base) :
    ∀ (fuel : Nat) (x y : List Tuple), x.Nodup → AllFit cs x → lfpLoop lk h base recs fuel x = some y →
      y.Nodup ∧ AllFit cs y := fun fuel x y hxn hxf hr =>
  (lfpLoop_inv lk h base recs (fun x => x.Nodup ∧ AllFit cs x) (fun _ d _ hev =>
    ⟨unionT_nodup hbn (evalRulesWith_nodup _ _ _ hev),
      allFit_unionT hbf (allFit_mono hrecs (evalRulesM_fits false _ recs d hev))⟩) fuel x y ⟨hxn, hxf⟩ hr).1

theorem bestOf_mem (g : Nat) (m : Bool) : ∀ (l : List Tuple) (b : Tuple), bestOf g m l = some b → b ∈ l
  | t :: ts, b, h => by
    rw [bestOf] at h
    split at h
    · next b' hb =>
      cases h
      split
      · exact List.mem_cons_of_mem _ (bestOf_mem g m ts b' hb)
      · exact List.mem_cons_self ..
    · cases h; exact List.mem_cons_self ..

theorem nodup_filterMap_keyed {κ} (f : κ → Option Tuple) (key : Tuple → κ) :
    ∀ (ks : List κ), ks.Nodup → (∀ k b, f k = some b → key b = k) → (ks.filterMap f).Nodup
  | [], _, _ => List.nodup_nil
  | k :: ks, hn, hk => by
    have hn' := List.nodup_cons.1 hn
    have ih := nodup_filterMap_keyed f key ks hn'.2 hk
    cases hf : f k with
    | none => simpa [List.filterMap, hf] using ih
    | some b =>
      simp only [List.filterMap, hf]
      refine List.nodup_cons.2 ⟨?_, ih⟩
      intro hmem
      obtain ⟨k', hk', hb'⟩ := List.mem_filterMap.1 hmem
      have e1 := hk k b hf
      have e2 := hk k' b hb'
      exact hn'.1 (e1 ▸ e2 ▸ hk')

theorem bestPerKey_sub (g : Nat) (m : Bool) (ts : List Tuple) : ∀ t, t ∈ bestPerKey g m ts → t ∈ ts := by
  intro t ht
  unfold bestPerKey at ht
  obtain ⟨k, _, hb⟩ := List.mem_filterMap.1 ht
  exact (List.mem_filter.1 (bestOf_mem g m _ t hb)).1

theorem bestPerKey_nodup (g : Nat) (m : Bool) (ts : List Tuple) : (bestPerKey g m ts).Nodup := by
  unfold bestPerKey
  apply nodup_filterMap_keyed _ (fun t => t.take g) _ (dedupT_nodup _)
  intro k b hb
  have := (List.mem_filter.1 (bestOf_mem g m _ b hb)).2
  simpa using this

theorem projRows_fits (r : Rule) (envs : List Env) (rows : List Tuple) (h : projRows r envs = some rows)
    (t : Tuple) (ht : t ∈ rows) : Fits r t := by
  obtain ⟨hl, hc⟩ := plainRows_fits _ envs rows h t ht
  exact ⟨hl.trans (List.length_map _), fun _ i c hi => hc i c (by rw [List.getElem?_map, hi]; rfl)⟩

theorem recRows_fits (lk : String → List Tuple) : ∀ (rs : List Rule) (d : List Tuple), recRows lk rs = some d → AllFit rs d
  | [], d, h => by cases h; exact fun t ht => nomatch ht
  | r :: rs, d, h => by
    rw [recRows] at h
    split at h
    · next envs rest _ hr =>
      obtain ⟨rows, hp, rfl⟩ := Option.map_eq_some_iff.1 h
      intro t ht
      rcases List.mem_append.1 ht with ht | ht
      · exact ⟨r, List.mem_cons_self .., projRows_fits r envs rows hp t ht⟩
      · obtain ⟨r', hr', hf⟩ := recRows_fits lk rs rest hr t ht
        exact ⟨r', List.mem_cons_of_mem _ hr', hf⟩
    · cases h

theorem lfpMinMax_wf (lk : String → List Tuple) (h : String) (cs : List Rule) (base : List Tuple) (recs : List Rule)
    (g : Nat) (m : Bool) (hrecs : ∀ r, r ∈ recs → r ∈ cs) (hbf : AllFit cs base) :
    ∀ (fuel : Nat) (x seen y : List Tuple), x.Nodup → AllFit cs x → seen.Nodup → AllFit cs seen →
      lfpMinMax lk h base recs g m fuel x seen = some y → y.Nodup ∧ AllFit cs y
  | 0, _, _, _, _, _, _, _, hr => by simp [lfpMinMax] at hr
  | fuel + 1, x, seen, y, hxn, hxf, hsn, hsf, hr => by
    unfold lfpMinMax at hr
    cases hev : recRows (override lk h x) recs with
    | none => rw [hev] at hr; cases hr
    | some d =>
      rw [hev] at hr
      simp only at hr
      have hx'f : AllFit cs (bestPerKey g m (dedupT (base ++ d))) := by
        intro t ht
        have := mem_dedupT.1 (bestPerKey_sub g m _ t ht)
        rcases List.mem_append.1 this with hb | hd
        · exact hbf t hb
        · exact allFit_mono hrecs (recRows_fits _ recs d hev) t hd
      split at hr
      · cases hr; exact ⟨unionT_nodup hsn hxn, allFit_unionT hsf hxf⟩
      · exact lfpMinMax_wf lk h cs base recs g m hrecs hbf fuel _ _ y (bestPerKey_nodup _ _ _) hx'f
          (unionT_nodup hsn (bestPerKey_nodup _ _ _)) (allFit_unionT hsf hx'f) hr

/-- the base case of a self fix-point, whichever way `lfpSelf` splits the clauses. -/
theorem lfpBase_wf {lk : String → List Tuple} {h : String} {cs : List Rule} (hself : AllFit cs (lk h))
    {c : Prop} [Decidable c] {q : Rule → Bool} {b : List Tuple}
    (hb : (if c then evalRulesM false lk (cs.filter q) else some (dedupT (lk h))) = some b) :
    b.Nodup ∧ AllFit cs b := by
  split at hb
  · exact ⟨evalRulesWith_nodup _ _ _ hb,
      allFit_mono (fun r hr => (List.mem_filter.1 hr).1) (evalRulesM_fits false lk _ b hb)⟩
  · cases hb
    exact ⟨dedupT_nodup _, fun t ht => hself t (mem_dedupT.1 ht)⟩

theorem mem_ite_filter {cs : List Rule} {c : Prop} [Decidable c] {q : Rule → Bool} {r : Rule}
    (hr : r ∈ (if c then cs.filter q else cs)) : r ∈ cs := by
  split at hr
  · exact (List.mem_filter.1 hr).1
  · exact hr

theorem lfpSelf_wf (fuel : Nat) (lk : String → List Tuple) (h : String) (cs : List Rule) (hself : AllFit cs (lk h))
    (ts : List Tuple) (hev : lfpSelf fuel lk h cs = some ts) : ts.Nodup ∧ AllFit cs ts := by
  unfold lfpSelf at hev
  dsimp only at hev
  split at hev
  · split at hev
    · next g isMin b _ hb =>
      exact lfpMinMax_wf lk h cs b _ g isMin (fun _ => mem_ite_filter) (lfpBase_wf hself hb).2 fuel [] [] ts
        List.nodup_nil (fun t ht => nomatch ht) List.nodup_nil (fun t ht => nomatch ht) hev
    · cases hev
  · split at hev
    · cases hev
    · next b hb =>
      exact lfpLoop_wf lk h cs b _ (fun _ => mem_ite_filter) (lfpBase_wf hself hb).1 (lfpBase_wf hself hb).2 fuel [] ts
        List.nodup_nil (fun t ht => nomatch ht) hev

theorem evalHead_wf (cfg : Cfg) (hash : Tuple → Nat) (fuel : Nat) (p : Program) (lk : String → List Tuple) (h : String)
    (hself : AllFit (clausesOf p h) (lk h)) (ts : List Tuple)
    (hev : evalHead cfg hash fuel p lk h = some ts) : ts.Nodup ∧ AllFit (clausesOf p h) ts := by
  -- a successful or failed (= empty) evaluation of the clauses
  have hrules : ∀ lk', ((evalRulesM true lk' (clausesOf p h)).getD []).Nodup ∧
      AllFit (clausesOf p h) ((evalRulesM true lk' (clausesOf p h)).getD []) := fun lk' => by
    cases hw : evalRulesM true lk' (clausesOf p h) with
    | none => exact ⟨List.nodup_nil, fun t ht => nomatch ht⟩
    | some tw => exact ⟨evalRulesWith_nodup _ _ _ hw, evalRulesM_fits true lk' _ tw hw⟩
  unfold evalHead at hev
  dsimp only at hev
  split at hev
  · exact lfpSelf_wf fuel lk h _ hself ts hev
  · split at hev
    · cases hev
      refine ⟨List.nodup_append.2 ⟨(hrules lk).1.filter _, (unionAll_nodup _).filter _, ?_⟩, fun t ht => ?_⟩
      · intro x hx y hy hxy
        have h2 := (List.mem_filter.1 hy).2
        rw [← hxy, List.contains_iff_mem.2 (List.mem_filter.1 hx).1] at h2
        cases h2
      · rcases List.mem_append.1 ht with ht | ht
        · exact (hrules lk).2 t (List.mem_filter.1 ht).1
        · obtain ⟨l, hl, htl⟩ := (mem_unionAll t _).1 (List.mem_filter.1 ht).1
          obtain ⟨w, _, rfl⟩ := List.mem_map.1 hl
          exact (hrules _).2 t htl
    · exact ⟨evalRulesWith_nodup _ _ _ hev, evalRulesM_fits true lk _ ts hev⟩

/-- every accumulated relation is well-formed for its head. -/
def AccWf (p : Program) (acc : DB) : Prop :=
  ∀ g ts, acc.lookup g = some ts → ts.Nodup ∧ AllFit (clausesOf p g) ts

theorem execLoop_wf (cfg : Cfg) (hlim : cfg.limit = 0) (hash : Tuple → Nat) (ord : String → List Tuple → List Tuple)
    (fuel : Nat) (p : Program) (edb : DB) (hno : ∀ h, h ∈ heads p → edb.get h = []) :
    ∀ (order : List String) (acc : DB) (last A : List Tuple) (acc' : DB),
      (∀ g, g ∈ order → g ∈ heads p) → AccWf p acc →
      execLoop cfg hash ord fuel p edb order acc last = .ok A acc' →
      AccWf p acc' ∧ (∀ g, order.getLast? = some g → A.Nodup ∧ AllFit (clausesOf p g) A)
  | [], acc, last, A, acc', _, hacc, hr => by
    cases hr
    exact ⟨hacc, fun g hg => nomatch hg⟩
  | h :: rest, acc, last, A, acc', hheads, hacc, hr => by
    obtain ⟨ts, hev, hrest⟩ := execLoop_cons_ok hlim hr
    have hself : AllFit (clausesOf p h) (lkOf edb acc h) := by
      unfold lkOf
      split
      · next x hl => exact (hacc h x hl).2
      · rw [hno h (hheads h (List.mem_cons_self ..))]; exact fun t ht => nomatch ht
    have hw := evalHead_wf cfg hash fuel p (lkOf edb acc) h hself ts hev
    have hacc1 : AccWf p ((h, ts) :: acc) := fun g x hg => by
      by_cases hgh : g = h
      · subst hgh; rw [lookup_cons_self] at hg; cases hg; exact hw
      · rw [lookup_cons_ne g h ts acc hgh] at hg; exact hacc g x hg
    obtain ⟨hacc', _⟩ := execLoop_wf cfg hlim hash ord fuel p edb hno rest ((h, ts) :: acc) ts A acc'
      (fun g hg => hheads g (List.mem_cons_of_mem _ hg)) hacc1 hrest
    exact ⟨hacc', fun g hg => hacc' g A (execLoop_last hr g hg)⟩

end ILV.Engine
