/-
  The batch-file codec (ILV.Model.Batch) is the identity on homogeneous buffers: if every tuple has the
  kind vector `ks` of the first one (any kinds, any arity), then `batchCodec us = .ok us`. Column by
  column: a column whose values all have the column's type is read back unchanged (`column_same`).
-/
import ILV.Model.Batch
namespace ILV.Batch
open ILV

theorem map_eq_self {α} {f : α → α} : ∀ {l : List α}, (∀ v ∈ l, f v = v) → l.map f = l
  | [], _ => rfl
  | v :: l, h => by
    rw [List.map_cons, h v List.mem_cons_self, map_eq_self (fun x hx => h x (List.mem_cons_of_mem _ hx))]

theorem coerceScalar_same : ∀ (v : Value) (ty : DType), dataType v = ty → (∀ d, ty ≠ .vec d) → (∀ d, ty ≠ .vec8 d) →
    coerceScalar ty v = v := by
  intro v
  cases v <;> rintro _ rfl h1 h2
  case vec l => exact absurd rfl (h1 _)
  case vec8 l => exact absurd rfl (h2 _)
  all_goals rfl

/-- a fixed-size-list column of dimension `d`; `mk` is `Value.vec` or `Value.vec8`. -/
theorem chunks_cells {α} (mk : List α → Value) (cells : Value → List α) (d : Nat) : ∀ (col : List Value),
    (∀ v ∈ col, ∃ l, v = mk l ∧ l.length = d ∧ cells v = l) →
    (col.map cells).flatten.length = col.length * d ∧ (chunks d col.length (col.map cells).flatten).map mk = col := by
  intro col
  induction col with
  | nil => exact fun _ => ⟨(Nat.zero_mul d).symm, rfl⟩
  | cons v col ih =>
    intro h
    obtain ⟨l, rfl, hl, hc⟩ := h v List.mem_cons_self
    obtain ⟨ih1, ih2⟩ := ih (fun x hx => h x (List.mem_cons_of_mem _ hx))
    rw [List.map_cons, List.flatten_cons, hc, List.length_cons, List.length_append, ih1, hl, chunks,
      List.take_left' hl, List.drop_left' hl, List.map_cons, ih2, Nat.succ_mul, Nat.add_comm]
    exact ⟨rfl, rfl⟩

/-- a vector column of either kind, dimension `0` (variable length) or fixed. The left side is the body
    that `vecColumn` and `vec8Column` share, spelt out because the model states it twice. -/
theorem listColumn_same {α} (mk : List α → Value) (cells : Nat → Value → List α) (d : Nat) (col : List Value)
    (h : ∀ v ∈ col, ∃ l, v = mk l ∧ l.length = d ∧ ∀ k, cells k v = l) :
    (if (d == 0) = true then some (col.map (fun v => mk (cells 0 v))) else
      if ((if (d == 0) = true then 0 else (col.map (cells d)).flatten.length / d) == col.length) = true then
        some ((chunks d (if (d == 0) = true then 0 else (col.map (cells d)).flatten.length / d)
          (col.map (cells d)).flatten).map mk)
      else none) = some col := by
  cases d with
  | zero =>
    refine congrArg some (map_eq_self (fun v hv => ?_))
    obtain ⟨l, rfl, _, hc⟩ := h v hv
    rw [hc]
  | succ d =>
    obtain ⟨h1, h2⟩ := chunks_cells mk (cells (d + 1)) (d + 1) col
      (fun v hv => (h v hv).imp fun l hl => ⟨hl.1, hl.2.1, hl.2.2 _⟩)
    rw [show (d + 1 == 0) = false from rfl, h1, Nat.mul_div_cancel _ (Nat.succ_pos d)]
    simp only [Bool.false_eq_true, if_false, beq_self_eq_true, if_true, h2]

theorem vecColumn_same (d : Nat) (col : List Value) (h : ∀ v ∈ col, dataType v = .vec d) :
    vecColumn d col = some col :=
  listColumn_same Value.vec vecCells d col (fun v hv => by
    have := h v hv
    cases v <;> cases this
    exact ⟨_, rfl, rfl, fun _ => rfl⟩)

theorem vec8Column_same (d : Nat) (col : List Value) (h : ∀ v ∈ col, dataType v = .vec8 d) :
    vec8Column d col = some col :=
  listColumn_same Value.vec8 vec8Cells d col (fun v hv => by
    have := h v hv
    cases v <;> cases this
    exact ⟨_, rfl, rfl, fun _ => rfl⟩)

theorem column_same (ty : DType) (col : List Value) (h : ∀ v ∈ col, dataType v = ty) :
    column ty col = some col := by
  cases ty with
  | null =>
    refine congrArg some (map_eq_self (fun v hv => ?_))
    have := h v hv
    cases v <;> cases this
    rfl
  | vec d => exact vecColumn_same d col h
  | vec8 d => exact vec8Column_same d col h
  | i32 | i64 | f64 | str | bool | ts =>
    exact congrArg some (map_eq_self (fun v hv => coerceScalar_same v _ (h v hv) (fun _ e => nomatch e) (fun _ e => nomatch e)))

def colsFrom (rows : List Tuple) : Nat → Nat → List (List Value)
  | _, 0 => []
  | i, n + 1 => colAt i rows :: colsFrom rows (i + 1) n

theorem getD_eq_of_drop {α} (d : α) (l : List α) (i : Nat) (x : α) (xs : List α) (h : l.drop i = x :: xs) :
    l.getD i d = x := by
  rw [List.getD_eq_getElem?_getD, ← List.head?_drop, h]; rfl

theorem drop_succ_of_drop {α} (l : List α) (i : Nat) (x : α) (xs : List α) (h : l.drop i = x :: xs) :
    l.drop (i + 1) = xs := by
  rw [← List.tail_drop, h]; rfl

theorem columnsBack_same : ∀ (tys : List DType) (i : Nat) (rows : List Tuple),
    (∀ r ∈ rows, (r.drop i).map dataType = tys) → columnsBack i tys rows = some (colsFrom rows i tys.length) := by
  intro tys
  induction tys with
  | nil => intro i rows _; rfl
  | cons ty tys ih =>
    intro i rows h
    have hsplit : ∀ r ∈ rows, dataType (r.getD i Value.null) = ty ∧ (r.drop (i + 1)).map dataType = tys := by
      intro r hr
      have := h r hr
      cases hd : r.drop i with
      | nil => rw [hd] at this; cases this
      | cons x xs =>
        rw [hd, List.map_cons] at this
        rw [getD_eq_of_drop _ r i x xs hd, drop_succ_of_drop r i x xs hd]
        exact List.cons.inj this
    have hcol : column ty (colAt i rows) = some (colAt i rows) := column_same ty _ (fun v hv => by
      obtain ⟨r, hr, rfl⟩ := List.mem_map.1 hv
      exact (hsplit r hr).1)
    simp only [columnsBack, hcol, ih (i + 1) rows (fun r hr => (hsplit r hr).2), List.length_cons, colsFrom]

theorem colsFrom_getD (rows : List Tuple) (j : Nat) (r : Tuple) (hr : rows[j]? = some r) :
    ∀ (n i : Nat), r.length = i + n → (colsFrom rows i n).map (fun c => c.getD j Value.null) = r.drop i := by
  intro n
  induction n with
  | zero => intro i h; simp [colsFrom, List.drop_eq_nil_of_le (Nat.le_of_eq (by omega : r.length = i))]
  | succ n ih =>
    intro i h
    simp only [colsFrom, List.map_cons]
    rw [ih (i + 1) (by omega)]
    have hlt : i < r.length := by omega
    have : (colAt i rows).getD j Value.null = r[i] := by
      simp only [colAt, List.getD_eq_getElem?_getD, List.getElem?_map, hr, Option.map_some, Option.getD_some]
      simp [List.getElem?_eq_getElem hlt]
    rw [this]
    exact (List.drop_eq_getElem_cons hlt).symm

theorem rowsOf_colsFrom (rows : List Tuple) (k : Nat) (hk : ∀ r ∈ rows, r.length = k) :
    ∀ (rest done : List Tuple), rows = done ++ rest → rowsOf rest.length done.length (colsFrom rows 0 k) = rest := by
  intro rest
  induction rest with
  | nil => intro done _; rfl
  | cons r rest ih =>
    intro done hsplit
    simp only [List.length_cons, rowsOf]
    have hr : rows[done.length]? = some r := by rw [hsplit]; simp
    have hmem : r ∈ rows := by rw [hsplit]; simp
    rw [colsFrom_getD rows done.length r hr k 0 (by simp [hk r hmem])]
    simp only [List.drop_zero, List.cons.injEq, true_and]
    have := ih (done ++ [r]) (by rw [hsplit]; simp)
    simpa using this

theorem tuplesBack_homog (ks : List DType) (rows : List Tuple)
    (h : ∀ r ∈ rows, r.map dataType = ks) : tuplesBack rows = .ok rows := by
  cases rows with
  | nil => rfl
  | cons first rest =>
    have hf : inferSchema first = ks := h first (by simp)
    have hlen : ∀ r ∈ first :: rest, r.length = ks.length := by
      intro r hr; rw [← h r hr]; simp
    simp only [tuplesBack, hf]
    have hall : (first :: rest).all (fun r => r.length == ks.length) = true := by
      rw [List.all_eq_true]; intro r hr; simp [hlen r hr]
    rw [hall]
    simp only [Bool.not_true, Bool.false_eq_true, if_false]
    rw [columnsBack_same ks 0 (first :: rest) (fun r hr => by simpa using h r hr)]
    simp only
    have := rowsOf_colsFrom (first :: rest) ks.length hlen (first :: rest) [] rfl
    simp only [List.length_nil] at this
    rw [this]

theorem rezip_same : ∀ (us : List Update), rezip us (us.map (·.data)) = us := by
  intro us
  induction us with
  | nil => rfl
  | cons u us ih => simp [rezip, ih]

theorem batchCodec_homog (ks : List DType) (us : List Update)
    (h : ∀ u ∈ us, u.data.map dataType = ks) : batchCodec us = .ok us := by
  unfold batchCodec
  rw [tuplesBack_homog ks (us.map (·.data)) (by intro r hr; rw [List.mem_map] at hr; obtain ⟨u, hu, rfl⟩ := hr; exact h u hu)]
  simp [rezip_same]

end ILV.Batch
