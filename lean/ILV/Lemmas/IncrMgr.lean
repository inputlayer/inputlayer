/-
  C18: the manager's operations (merge into the snapshot, valid materialisations, register / remove /
  transitive notify / reindex / enable) and `Upd`, the one statement about an update of the manager
  through which the invariant uses them.
-/
import ILV.Lemmas.IncrEval
namespace ILV.C18

abbrev b2dOf (i : Inc) (r : Name) : List Name := (aget i.b2d r).getD []

theorem aget_mergeMats_not_key (f : List (Name × List Tup)) (vm : List (Name × List Tup)) (r : Name)
    (h : r ∉ akeys vm) : aget (mergeMats f vm) r = aget f r := by
  induction vm generalizing f with
  | nil => rfl
  | cons p l ih =>
    obtain ⟨n, ts⟩ := p
    have h1 : n ≠ r := fun e => h (e ▸ List.mem_cons_self)
    exact (ih _ fun hm => h (List.mem_cons_of_mem _ hm)).trans (aget_aset_ne h1)

theorem inDb_mergeMats_key (f : List (Name × List Tup)) (vm : List (Name × List Tup)) (r : Name) (ts : List Tup)
    (hn : (akeys vm).Nodup) (h : (r, ts) ∈ vm) : inDb (mergeMats f vm) r = inDb f r ++ ts := by
  induction vm generalizing f with
  | nil => exact absurd h List.not_mem_nil
  | cons p l ih =>
    obtain ⟨n, ts'⟩ := p
    have hn' := List.nodup_cons.mp hn
    rcases List.mem_cons.mp h with h1 | h1
    · cases h1
      unfold inDb
      rw [show mergeMats f ((r, ts) :: l) = mergeMats (aset f r (inDb f r ++ ts)) l from rfl,
        aget_mergeMats_not_key _ _ _ hn'.1, aget_aset_eq]
      rfl
    · have hne : n ≠ r := fun e => hn'.1 (e ▸ List.mem_map.mpr ⟨(r, ts), h1, rfl⟩)
      refine (ih _ hn'.2 h1).trans ?_
      unfold inDb
      rw [aget_aset_ne hne]

theorem validMats_eq (i : Inc) :
    validMats i = (i.mats.filter fun p => p.2.valid).map fun p => (p.1, p.2.tuples) := by
  unfold validMats
  induction i.mats with
  | nil => rfl
  | cons p l ih =>
    by_cases h : p.2.valid = true
    · rw [List.filterMap_cons, List.filter_cons, if_pos h, if_pos h, List.map_cons, ih]
    · rw [List.filterMap_cons, List.filter_cons, if_neg h, if_neg h, ih]

theorem isValid_iff (i : Inc) (n : Name) : isValid i n = true ↔ ∃ m, aget i.mats n = some m ∧ m.valid = true := by
  unfold isValid
  cases h : aget i.mats n with
  | none => simp
  | some m => simp

theorem akeys_validMats (i : Inc) : akeys (validMats i) = akeys (i.mats.filter fun p => p.2.valid) := by
  rw [validMats_eq]
  exact akeys_map_val _ fun _ (m : Mat) => m.tuples

theorem nodup_validMats (i : Inc) (hn : (akeys i.mats).Nodup) : (akeys (validMats i)).Nodup := by
  rw [akeys_validMats]
  exact nodup_filter_key _ hn

theorem mem_validMats (i : Inc) {n : Name} {m : Mat} (hm : aget i.mats n = some m) (hv : m.valid = true) :
    (n, m.tuples) ∈ validMats i := by
  rw [validMats_eq]
  exact List.mem_map.mpr ⟨(n, m), List.mem_filter.mpr ⟨aget_some_mem hm, hv⟩, rfl⟩

theorem key_validMats (i : Inc) (hn : (akeys i.mats).Nodup) {n : Name} (h : n ∈ akeys (validMats i)) :
    isValid i n = true := by
  rw [akeys_validMats] at h
  obtain ⟨⟨a, m⟩, hm, rfl⟩ := List.mem_map.mp h
  have hm' := List.mem_filter.mp hm
  exact (isValid_iff i a).mpr ⟨m, mem_aget_of_nodup hn hm'.1, hm'.2⟩

/-- `register`'s update of `base_to_derived`. -/
def regB2d (b2d : List (Name × List Name)) (deps : List Name) (n : Name) : List (Name × List Name) :=
  deps.foldl (fun acc b => aset acc b (sins ((aget acc b).getD []) n)) b2d

theorem regB2d_step (acc : List (Name × List Name)) (b n x r : Name) (h : x ∈ (aget acc r).getD []) :
    x ∈ (aget (aset acc b (sins ((aget acc b).getD []) n)) r).getD [] := by
  by_cases hb : b = r
  · subst hb
    rw [aget_aset_eq]
    exact (mem_sins _ _ _).mpr (Or.inl h)
  · rw [aget_aset_ne hb]; exact h

theorem regB2d_mono (b2d : List (Name × List Name)) (deps : List Name) (n x r : Name)
    (h : x ∈ (aget b2d r).getD []) : x ∈ (aget (regB2d b2d deps n) r).getD [] :=
  foldl_inv _ (fun acc => x ∈ (aget acc r).getD []) (fun acc b => regB2d_step acc b n x r) deps b2d h

theorem regB2d_new (b2d : List (Name × List Name)) (deps : List Name) (n r : Name) (h : r ∈ deps) :
    n ∈ (aget (regB2d b2d deps n) r).getD [] :=
  foldl_mem _ (fun acc => n ∈ (aget acc r).getD []) (fun acc b => regB2d_step acc b n n r)
    (fun acc => by rw [aget_aset_eq]; exact (mem_sins _ _ _).mpr (Or.inr rfl)) h b2d

theorem register_b2d (i : Inc) (n : Name) (deps : List Name) : (i.register n deps).b2d = regB2d i.b2d deps n := rfl
theorem register_mats (i : Inc) (n : Name) (deps : List Name) : (i.register n deps).mats = i.mats := rfl
theorem register_d2d (i : Inc) (n : Name) (deps : List Name) : (i.register n deps).d2d = i.d2d := rfl

theorem mem_clauseDeps (c : Clause) (r : Name) : r ∈ clauseDeps c ↔ r ∈ bodyRels c ∧ r ≠ c.head.rel := by
  simp [clauseDeps, mem_dedupNames, List.mem_filter]

theorem mem_allDeps (cls : List Clause) (n r : Name) :
    r ∈ allDeps cls n ↔ (∃ c ∈ cls, r ∈ bodyRels c) ∧ r ≠ n := by
  simp [allDeps, mem_dedupNames, List.mem_filter, List.mem_flatMap]

theorem register_edges (i : Inc) (n : Name) {cls : List Clause} {c : Clause} (hc : c ∈ cls)
    {r : Name} (hr : r ∈ bodyRels c) (hrn : r ≠ n) : n ∈ b2dOf (i.register n (allDeps cls n)) r :=
  regB2d_new _ _ _ _ ((mem_allDeps cls n r).mpr ⟨⟨c, hc, hr⟩, hrn⟩)

/-- `remove`'s update of `base_to_derived`. -/
def remB2d (b2d : List (Name × List Name)) (deps : List Name) (n : Name) : List (Name × List Name) :=
  deps.foldl (fun acc b => match aget acc b with
    | some ds => aset acc b (ds.filter (· ≠ n))
    | none => acc) b2d

theorem remB2d_keep (b2d : List (Name × List Name)) (deps : List Name) (n x r : Name) (hx : x ≠ n)
    (h : x ∈ (aget b2d r).getD []) : x ∈ (aget (remB2d b2d deps n) r).getD [] := by
  refine foldl_inv _ (fun acc => x ∈ (aget acc r).getD []) (fun acc b h => ?_) deps b2d h
  cases hg : aget acc b with
  | none => exact h
  | some ds =>
    simp only
    by_cases hb : b = r
    · subst hb
      rw [hg] at h
      rw [aget_aset_eq]
      exact List.mem_filter.mpr ⟨h, by simpa using hx⟩
    · rw [aget_aset_ne hb]; exact h

theorem remove_b2d_keep (i : Inc) (n x r : Name) (hx : x ≠ n) (h : x ∈ b2dOf i r) : x ∈ b2dOf (i.remove n) r := by
  unfold b2dOf Inc.remove
  cases hg : aget i.d2b n with
  | none => exact h
  | some deps => exact remB2d_keep i.b2d deps n x r hx h

/-- `enable_incremental` handles one catalogue entry. -/
abbrev regEntry (i : Inc) (p : Name × List Clause) : Inc :=
  if p.2.isEmpty then i else i.register p.1 (allDeps p.2 p.1)

theorem regEntry_mats (i : Inc) (p : Name × List Clause) : (regEntry i p).mats = i.mats := by
  unfold regEntry
  cases p.2.isEmpty <;> rfl

theorem regEntry_mono (i : Inc) (p : Name × List Clause) (x r : Name) (h : x ∈ b2dOf i r) :
    x ∈ b2dOf (regEntry i p) r := by
  unfold regEntry
  cases p.2.isEmpty
  · exact regB2d_mono _ _ _ _ _ h
  · exact h

theorem enableInc_mats (s : St) : (enableInc s).mats = [] :=
  foldl_inv regEntry (fun j => j.mats = []) (fun j p h => (regEntry_mats j p).trans h) s.catalog _ rfl

theorem enableInc_edges (s : St) {n : Name} {cs : List Clause} (hm : (n, cs) ∈ s.catalog) {c : Clause} (hc : c ∈ cs)
    {r : Name} (hr : r ∈ bodyRels c) (hrn : r ≠ n) : n ∈ b2dOf (enableInc s) r := by
  refine foldl_mem regEntry (fun j => n ∈ b2dOf j r) (fun j p => regEntry_mono j p n r) (fun j => ?_) hm _
  cases cs with
  | nil => exact absurd hc List.not_mem_nil
  | cons _ _ => exact register_edges j n hc hr hrn

theorem mapInc_id (s : St) : mapInc s (fun i => i) = s := by
  cases s with
  | mk f a c inc sn => cases inc <;> rfl

theorem match_inc_eq (s1 : St) (g : Inc → Inc) :
    (match s1.inc with
      | some i => { s1 with inc := some (g i) }
      | none => s1) = mapInc s1 g := by
  cases s1 with
  | mk f a c inc sn => cases inc <;> rfl

theorem closeFuel_sub (i : Inc) (k : Nat) (s : List Name) (x : Name) (h : x ∈ s) : x ∈ closeFuel i k s := by
  induction k generalizing s with
  | zero => exact h
  | succ k ih =>
    unfold closeFuel
    by_cases e : grow i s = s
    · rw [if_pos e]; exact h
    · rw [if_neg e]; exact ih _ ((mem_addNames _ _ _).mpr (Or.inl h))

theorem mem_depUniverse (i : Inc) (y h : Name) (hb : h ∈ b2dOf i y) : h ∈ depUniverse i := by
  unfold depUniverse
  rw [mem_dedupNames]
  apply List.mem_append_left
  cases hg : aget i.b2d y with
  | none => rw [b2dOf, hg] at hb; exact absurd hb List.not_mem_nil
  | some l =>
    rw [b2dOf, hg] at hb
    exact List.mem_flatMap.mpr ⟨(y, l), aget_some_mem hg, hb⟩

theorem reach_seed (i : Inc) (base h : Name) (hb : h ∈ b2dOf i base) : h ∈ reachFrom i base := by
  unfold reachFrom
  simp only
  split
  · exact closeFuel_sub i _ _ h ((mem_dedupNames _ _).mpr (List.mem_append_left _ hb))
  · exact mem_depUniverse i base h hb

theorem reach_closed (i : Inc) (base y h : Name) (hy : y ∈ reachFrom i base) (hb : h ∈ b2dOf i y) :
    h ∈ reachFrom i base := by
  unfold reachFrom at hy ⊢
  simp only at hy ⊢
  split
  · next hc =>
    rw [if_pos hc] at hy
    simp only [isClosed, List.all_eq_true, List.contains_iff_mem] at hc
    exact hc h (List.mem_flatMap.mpr ⟨y, hy, List.mem_append_left _ hb⟩)
  · exact mem_depUniverse i y h hb

theorem reachFrom_congr (i1 i2 : Inc) (hb : i1.b2d = i2.b2d) (hd : i1.d2d = i2.d2d) (r : Name) :
    reachFrom i1 r = reachFrom i2 r := by
  have hs : succs i1 = succs i2 := by funext x; simp [succs, hb, hd]
  have hg : grow i1 = grow i2 := by funext s; simp [grow, hs]
  have hcf : ∀ k s, closeFuel i1 k s = closeFuel i2 k s := by
    intro k
    induction k with
    | zero => intro s; rfl
    | succ k ih => intro s; simp only [closeFuel, hg, ih]
  have hu : depUniverse i1 = depUniverse i2 := by simp [depUniverse, hb, hd]
  have hc : isClosed i1 = isClosed i2 := by funext s; simp [isClosed, hs]
  simp only [reachFrom, hs, hcf, hu, hc]

def invF (i : Inc) (r : Name) (n : Name) (m : Mat) : Mat :=
  if n ∈ reachFrom i r then { m with valid := false } else m

theorem notify_mats_eq (i : Inc) (r : Name) :
    (i.notify r).mats = i.mats.map fun p => (p.1, invF i r p.1 p.2) := by
  unfold Inc.notify invF
  apply List.map_congr_left
  intro p _
  by_cases h : p.1 ∈ reachFrom i r
  · rw [if_pos h, if_pos h]
  · rw [if_neg h, if_neg h]

theorem notify_valid (i : Inc) (r n : Name) (m : Mat) (h : aget (i.notify r).mats n = some m) (hv : m.valid = true) :
    aget i.mats n = some m ∧ n ∉ reachFrom i r := by
  rw [notify_mats_eq, aget_map_val i.mats (invF i r)] at h
  cases hg : aget i.mats n with
  | none => rw [hg] at h; cases h
  | some m0 =>
    rw [hg] at h
    have h' : invF i r n m0 = m := Option.some.inj h
    unfold invF at h'
    by_cases hin : n ∈ reachFrom i r
    · rw [if_pos hin] at h'
      rw [← h'] at hv
      cases hv
    · rw [if_neg hin] at h'
      exact ⟨congrArg some h', hin⟩

theorem notify_b2d (i : Inc) (r : Name) : (i.notify r).b2d = i.b2d := rfl

theorem notify_keys (i : Inc) (r : Name) : akeys (i.notify r).mats = akeys i.mats := by
  rw [notify_mats_eq, akeys_map_val i.mats (invF i r)]

/-- What an update of the manager guarantees, in the form the invariant needs. `X` = the names whose
    facts or clauses changed. Some "dirty" set `D` makes `X ∪ D` closed under the OLD dependency edges;
    every materialisation still valid afterwards is an old valid one outside `D`; edges into names
    outside `X` survive. -/
structure Upd (i i' : Inc) (X : Name → Prop) : Prop where
  nodup : (akeys i.mats).Nodup → (akeys i'.mats).Nodup
  dirty : ∃ D : Name → Prop,
    (∀ y h, X y ∨ D y → h ∈ b2dOf i y → X h ∨ D h) ∧
    (∀ n m, aget i'.mats n = some m → m.valid = true → aget i.mats n = some m ∧ ¬ D n)
  keep : ∀ h y, ¬ X h → h ∈ b2dOf i y → h ∈ b2dOf i' y

theorem upd_refl (i : Inc) : Upd i i (fun _ => False) :=
  ⟨id, ⟨fun _ => False, fun _ _ h => (h.elim id id).elim, fun _ _ h _ => ⟨h, id⟩⟩, fun _ _ _ h => h⟩

theorem upd_congr {i i' : Inc} {X Y : Name → Prop} (h : Upd i i' X) (hXY : ∀ x, X x ↔ Y x) : Upd i i' Y := by
  obtain ⟨D, hc, hv⟩ := h.dirty
  refine ⟨h.nodup, ⟨D, ?_, hv⟩, fun a y hY => h.keep a y (fun hx => hY ((hXY a).mp hx))⟩
  intro y a hy hb
  exact (hc y a (hy.imp_left (hXY y).mpr) hb).imp_left (hXY a).mp

theorem upd_trans {i1 i2 i3 : Inc} {X1 X2 : Name → Prop} (h1 : Upd i1 i2 X1) (h2 : Upd i2 i3 X2) :
    Upd i1 i3 (fun x => X1 x ∨ X2 x) := by
  obtain ⟨D1, hc1, hv1⟩ := h1.dirty
  obtain ⟨D2, hc2, hv2⟩ := h2.dirty
  refine ⟨fun h => h2.nodup (h1.nodup h), ⟨fun y => D1 y ∨ D2 y, ?_, ?_⟩, ?_⟩
  · intro y a hy hb
    by_cases hX : X1 a
    · exact Or.inl (Or.inl hX)
    -- an old edge into a name outside `X1` is still there for the second update
    · have e1 : X1 y ∨ D1 y → (X1 a ∨ X2 a) ∨ (D1 a ∨ D2 a) := fun hy =>
        (hc1 y a hy hb).elim (fun e => Or.inl (Or.inl e)) (fun e => Or.inr (Or.inl e))
      have e2 : X2 y ∨ D2 y → (X1 a ∨ X2 a) ∨ (D1 a ∨ D2 a) := fun hy =>
        (hc2 y a hy (h1.keep a y hX hb)).elim (fun e => Or.inl (Or.inr e)) (fun e => Or.inr (Or.inr e))
      rcases hy with (hy | hy) | (hy | hy)
      · exact e1 (Or.inl hy)
      · exact e2 (Or.inl hy)
      · exact e1 (Or.inr hy)
      · exact e2 (Or.inr hy)
  · intro n m hm hv
    obtain ⟨hm2, hd2⟩ := hv2 n m hm hv
    obtain ⟨hm1, hd1⟩ := hv1 n m hm2 hv
    exact ⟨hm1, fun hd => hd.elim hd1 hd2⟩
  · intro a y hX hb
    exact h2.keep a y (fun hx => hX (Or.inr hx)) (h1.keep a y (fun hx => hX (Or.inl hx)) hb)

/-- the dirty set is what is reachable from `x` in `j`. -/
theorem notify_upd_after (i j : Inc) (x : Name)
    (hn : (akeys i.mats).Nodup → (akeys j.mats).Nodup)
    (hm : ∀ n m, aget j.mats n = some m → aget i.mats n = some m)
    (hk : ∀ h y, h ≠ x → h ∈ b2dOf i y → h ∈ b2dOf j y) :
    Upd i (j.notify x) (fun y => y = x) := by
  refine ⟨fun h => by rw [notify_keys]; exact hn h, ⟨fun y => y ∈ reachFrom j x, ?_, ?_⟩, hk⟩
  · intro y a hy hb
    by_cases e : a = x
    · exact Or.inl e
    · rcases hy with hy | hy
      · exact Or.inr (reach_seed j x a (hy ▸ hk a y e hb))
      · exact Or.inr (reach_closed j x y a hy (hk a y e hb))
  · intro n m hm' hv
    obtain ⟨h1, h2⟩ := notify_valid j x n m hm' hv
    exact ⟨hm n m h1, h2⟩

theorem notify_upd (i : Inc) (r : Name) : Upd i (i.notify r) (fun x => x = r) :=
  notify_upd_after i i r id (fun _ _ h => h) (fun _ _ _ h => h)

theorem foldNotify_upd (rs : List Name) (i : Inc) : Upd i (rs.foldl Inc.notify i) (fun x => x ∈ rs) := by
  induction rs generalizing i with
  | nil => exact upd_congr (upd_refl i) (by simp)
  | cons r rs ih =>
    exact upd_congr (upd_trans (notify_upd i r) (ih (i.notify r))) (by intro x; simp)

theorem upd_remove {i i' : Inc} {X : Name → Prop} (h : Upd i i' X) {r : Name} (hr : X r) :
    Upd i (i'.remove r) X := by
  obtain ⟨D, hc, hv⟩ := h.dirty
  refine ⟨fun hn => nodup_aerase r (h.nodup hn), ⟨D, hc, fun n m hm => hv n m (aget_aerase_some hm).1⟩, ?_⟩
  intro a y ha hb
  exact remove_b2d_keep i' r a y (fun e => ha (e ▸ hr)) (h.keep a y ha hb)

/-- `drop_relation`: notify, then remove. -/
theorem drel_upd (i : Inc) (r : Name) : Upd i ((i.notify r).remove r) (fun y => y = r) :=
  upd_remove (notify_upd i r) rfl

/-- the manager inside `reindex`, before `x` is notified. -/
def reindexPre (i : Inc) (x : Name) (cls : List Clause) : Inc :=
  if cls.isEmpty then i.remove x else (i.remove x).register x (allDeps cls x)

theorem reindex_eq (i : Inc) (x : Name) (cls : List Clause) : i.reindex x cls = (reindexPre i x cls).notify x := rfl

theorem reindexPre_mats (i : Inc) (x : Name) (cls : List Clause) : (reindexPre i x cls).mats = aerase i.mats x := by
  unfold reindexPre
  cases cls.isEmpty <;> rfl

theorem reindexPre_keep (i : Inc) (x : Name) (cls : List Clause) (h y : Name) (hne : h ≠ x) (hb : h ∈ b2dOf i y) :
    h ∈ b2dOf (reindexPre i x cls) y := by
  have h1 := remove_b2d_keep i x h y hne hb
  unfold reindexPre
  cases cls.isEmpty
  · exact regB2d_mono _ _ _ _ _ h1
  · exact h1

theorem reindex_upd (i : Inc) (x : Name) (cls : List Clause) : Upd i (i.reindex x cls) (fun y => y = x) :=
  reindex_eq i x cls ▸ notify_upd_after i (reindexPre i x cls) x
    (fun h => by rw [reindexPre_mats]; exact nodup_aerase x h)
    (fun n m h => (aget_aerase_some (reindexPre_mats i x cls ▸ h)).1)
    (reindexPre_keep i x cls)

theorem reindex_mats_ne (i : Inc) (x : Name) (cls : List Clause) (n : Name) (m : Mat)
    (hm : aget (i.reindex x cls).mats n = some m) (hv : m.valid = true) : n ≠ x := by
  rw [reindex_eq] at hm
  have h1 := (notify_valid (reindexPre i x cls) x n m hm hv).1
  rw [reindexPre_mats] at h1
  exact (aget_aerase_some h1).2

theorem reindex_newEdges (i : Inc) (x : Name) {cls : List Clause} {c : Clause} (hc : c ∈ cls)
    {r : Name} (hr : r ∈ bodyRels c) (hrn : r ≠ x) : x ∈ b2dOf (i.reindex x cls) r := by
  cases cls with
  | nil => exact absurd hc List.not_mem_nil
  | cons _ _ => exact register_edges (i.remove x) x hc hr hrn

end ILV.C18
