/-
  The repaired authorization pre-pass (`authorizeProgram` / `authorizeLines`, mirror of
  `Handler::authorize_program`) walks the lines with a simulated running KG and KG set: `applyStmt_inv`
  shows that they track the executor's exactly. (That every executed statement was therefore gated
  against the KG it runs on is `specRun_gated` in Lemmas/C27.lean.)
-/
import ILV.Lemmas.Handler
namespace ILV.Props.Auth
open ILV ILV.Text ILV.Handler ILV.Gen.C28

/-- the pre-pass state agrees with the executor state -/
def Inv (sim : Sim) (s : QState) : Prop :=
  sim.kg = some s.kg ∧ ∀ n, sim.existing.contains n = hasKg s.w n

theorem say_kg (s : QState) (ms : List String) : (s.say ms).kg = s.kg := rfl
theorem say_w (s : QState) (ms : List String) : (s.say ms).w = s.w := rfl

theorem inv_iff (sim : Sim) (s : QState) :
    Inv sim s ↔ sim.kg = some s.kg ∧ ∀ n, n ∈ sim.existing ↔ n ∈ s.w.kgs.map (·.name) := by
  refine and_congr_right fun _ => forall_congr' fun n => ?_
  rw [Bool.eq_iff_iff, List.contains_iff_mem, hasKg_iff]

theorem Inv.frame {sim : Sim} {s s' : QState} (hi : Inv sim s) (hk : s'.kg = s.kg)
    (hn : s'.w.kgs.map (·.name) = s.w.kgs.map (·.name)) : Inv sim s' := by
  rw [inv_iff] at hi ⊢
  rw [hk, hn]
  exact hi

/-- `p` holds of the state the step continues with -/
def OnCont (p : QState → Prop) : Step → Prop
  | .cont s => p s
  | .abort _ _ => True

theorem applyStmt_inv (s s' : QState) (text : List Char) (st : Stmt) (sim : Sim)
    (h : applyStmt s text st = .cont s') (hi : Inv sim s) : Inv (simStep sim st) s' := by
  suffices key : OnCont (Inv (simStep sim st)) (applyStmt s text st) by
    rw [h] at key
    exact key
  obtain ⟨kind, eff⟩ := st
  have hm := ((inv_iff _ _).1 hi).2
  unfold applyStmt
  dsimp only
  -- in every arm but `.kg create/use/drop` and the last, `simStep` computes to `sim`, the current KG
  -- stays and the world changes at most by `updKg` with a function that keeps names
  split
  case h_1 =>
    exact hi.frame rfl (updKg_names _ _ _ fun k => by split <;> rfl)
  case h_2 =>
    exact of_ite (fun _ => trivial) fun _ => hi.frame rfl (updKg_names _ _ _ fun k => setRel_name _ _ _)
  case h_3 =>
    exact hi.frame rfl rfl
  case h_4 =>
    exact hi.frame rfl rfl
  case h_5 =>
    refine hi.frame rfl ?_
    show (if _ then _ else _ : World).kgs.map _ = _
    split
    · exact updKg_names _ _ _ fun k => setRel_name _ _ _
    · rfl
  case h_6 =>
    exact hi.frame rfl (updKg_names _ _ _ fun k => by split <;> rfl)
  case h_7 =>
    exact of_ite (fun _ => trivial) fun _ => hi.frame rfl rfl
  case h_8 =>
    exact hi.frame rfl rfl
  case h_9 =>
    exact of_ite (fun _ => hi.frame rfl (updKg_names _ _ _ fun k => rfl)) fun _ => hi.frame rfl rfl
  case h_10 =>
    exact hi.frame rfl rfl
  case h_11 n =>
    -- `.kg create n`
    show OnCont (Inv (if sim.existing.contains n then sim else ⟨some n, sim.existing ++ [n]⟩)) _
    rw [hi.2 n]
    refine of_ite (fun hex => ?_) fun hex => ?_
    · rw [if_pos hex]
      exact hi.frame rfl rfl
    · rw [if_neg hex]
      refine (inv_iff _ _).2 ⟨rfl, fun m => ?_⟩
      show m ∈ sim.existing ++ [n] ↔ m ∈ (s.w.kgs ++ [(⟨n, [], [], []⟩ : Kg)]).map (·.name)
      simp only [List.map_append, List.map_cons, List.map_nil, List.mem_append, hm m]
  case h_12 n =>
    -- `.kg use n`
    show OnCont (Inv (if sim.existing.contains n then { sim with kg := some n } else sim)) _
    rw [hi.2 n]
    refine of_ite (fun hex => ?_) fun hex => ?_
    · rw [if_pos hex]
      exact ⟨rfl, hi.2⟩
    · rw [if_neg hex]
      exact hi.frame rfl rfl
  case h_13 n =>
    -- `.kg drop n`: both sides drop `n` unless it is the current KG or `default`; a KG that is not
    -- there is dropped by the pre-pass alone, which changes nothing
    show OnCont (Inv (if sim.kg != some n && n != "default" then { sim with existing := sim.existing.filter (· != n) } else sim)) _
    rw [hi.1]
    refine of_ite (fun hcur => ?_) fun hcur => ?_
    · rw [eq_of_beq hcur]
      simp only [bne_self_eq_false, Bool.false_and, Bool.false_eq_true, if_false]
      exact hi.frame rfl rfl
    · have hne : (some s.kg != some n) = true :=
        bne_iff_ne.2 fun e => hcur (beq_iff_eq.2 (Option.some.inj e).symm)
      rw [hne, Bool.true_and]
      refine of_ite (fun hfail => ?_) fun hfail => ?_
      · show Inv _ _
        split
        · rename_i hd
          have hnot : n ∉ s.w.kgs.map (·.name) := by
            rw [← hasKg_iff]
            simpa [bne_iff_ne.1 hd] using hfail
          refine (inv_iff _ _).2 ⟨rfl, fun m => ?_⟩
          show m ∈ sim.existing.filter (· != n) ↔ m ∈ s.w.kgs.map (·.name)
          rw [List.mem_filter, hm m]
          exact and_iff_left_of_imp fun h => bne_iff_ne.2 fun e => hnot (e ▸ h)
        · exact hi.frame rfl rfl
      · have hd : (n != "default") = true := by
          simp only [Bool.or_eq_true, not_or] at hfail
          exact bne_iff_ne.2 fun e => hfail.1 (beq_iff_eq.2 e)
        rw [if_pos hd]
        refine (inv_iff _ _).2 ⟨rfl, fun m => ?_⟩
        show m ∈ sim.existing.filter (· != n) ↔ m ∈ (s.w.kgs.filter (·.name != n)).map (·.name)
        simp only [List.mem_filter, List.mem_map, hm m]
        constructor
        · rintro ⟨⟨k, hk, rfl⟩, hkn⟩
          exact ⟨k, ⟨hk, hkn⟩, rfl⟩
        · rintro ⟨k, ⟨hk, hkn⟩, rfl⟩
          exact ⟨⟨k, hk, rfl⟩, hkn⟩
  case h_14 =>
    exact of_ite (fun _ => hi.frame rfl (updKg_names _ _ _ fun k => rfl)) fun _ => hi.frame rfl rfl
  case h_15 =>
    exact of_ite (fun _ => hi.frame rfl rfl) fun _ => hi.frame rfl (updKg_names _ _ _ fun k => rfl)
  case h_16 hcreate huse hdrop _ _ =>
    -- the commands with a fixed message
    have hsim : simStep sim ⟨kind, eff⟩ = sim := by
      unfold simStep
      split
      · rename_i n a b; exact (huse n a b).elim
      · rename_i n a b; exact (hcreate n a b).elim
      · rename_i n a b; exact (hdrop n a b).elim
      · rfl
    rw [hsim]
    split
    · trivial
    · exact hi.frame rfl rfl
    · trivial

end ILV.Props.Auth
