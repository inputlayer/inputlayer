/-
  C18 (after the repair): the invariant "every valid materialisation equals the fresh evaluation, the
  dependency edges of every catalogued rule are registered, the snapshot is current", its
  consequence for query answers, the frame lemma, and the shapes all mutating steps share:
  an update of the manager followed by publication (`finv_mapInc`), specialised to a change of
  stored facts (`finv_facts`) and to an edit of one catalogue entry (`finv_set`, `finv_erase`).
-/
import ILV.Lemmas.IncrMgr
namespace ILV.C18

theorem mem_allRules (cat : List (Name × List Clause)) (c : Clause) :
    c ∈ allRules cat ↔ ∃ k cs, (k, cs) ∈ cat ∧ c ∈ cs := by
  simp only [allRules, List.mem_flatMap, Prod.exists]

/-- catalogue well-formedness (keys unique, every clause filed under its head). -/
structure CatOk (s : St) : Prop where
  heads : ∀ k cs, (k, cs) ∈ s.catalog → ∀ c ∈ cs, c.head.rel = k
  nodup : (akeys s.catalog).Nodup

theorem clausesOf_cat {s : St} (h : CatOk s) (n : Name) : clausesOf (allRules s.catalog) n = clausesNow s n := by
  obtain ⟨hh, hn⟩ := h
  unfold clausesNow
  generalize s.catalog = cat at hh hn
  induction cat with
  | nil => rfl
  | cons p l ih =>
    obtain ⟨k, cs⟩ := p
    have hn' := List.nodup_cons.mp hn
    have hcs := hh k cs List.mem_cons_self
    unfold clausesOf at ih ⊢
    rw [show allRules ((k, cs) :: l) = cs ++ allRules l from rfl, List.filter_append,
      ih (fun k' cs' hm => hh k' cs' (List.mem_cons_of_mem _ hm)) hn'.2]
    by_cases e : k = n
    · subst e
      rw [List.filter_eq_self.mpr fun c hc => decide_eq_true (hcs c hc), aget_none_of_not_key hn'.1]
      simp [aget]
    · rw [List.filter_eq_nil_iff.mpr fun c hc e' => e ((hcs c hc).symm.trans (of_decide_eq_true e'))]
      simp [aget, e]

theorem mem_clausesNow {s : St} (h : CatOk s) {c : Clause} (hc : c ∈ allRules s.catalog) :
    c ∈ clausesNow s c.head.rel := by
  rw [← clausesOf_cat h]
  exact List.mem_filter.mpr ⟨hc, decide_eq_true rfl⟩

theorem clausesNow_head {s : St} (h : CatOk s) {n : Name} {c : Clause} (hc : c ∈ clausesNow s n) : c.head.rel = n := by
  rw [← clausesOf_cat h] at hc
  exact of_decide_eq_true (List.mem_filter.mp hc).2

theorem catOk_aset {s s1 : St} (h : CatOk s) {x : Name} {cls : List Clause}
    (hc : s1.catalog = aset s.catalog x cls) (hx : ∀ c ∈ cls, c.head.rel = x) : CatOk s1 := by
  refine ⟨fun k cs hm c hcm => ?_, hc ▸ nodup_aset x cls h.nodup⟩
  rw [hc] at hm
  rcases mem_aset hm with ⟨rfl, rfl⟩ | e
  · exact hx c hcm
  · exact h.heads k cs e c hcm

theorem catOk_aerase {s s1 : St} (h : CatOk s) {x : Name} (hc : s1.catalog = aerase s.catalog x) : CatOk s1 :=
  ⟨fun k cs hm => h.heads k cs (mem_aerase (hc ▸ hm)).1, hc ▸ nodup_aerase x h.nodup⟩

/-- what the manager `i` must know about the state `s` (its catalogue and facts). -/
structure MgrOk (s : St) (i : Inc) : Prop where
  nodup : (akeys i.mats).Nodup
  edges : ∀ n c, c ∈ clausesNow s n → ∀ r ∈ bodyRels c, r ≠ n → n ∈ b2dOf i r
  mats : ∀ n m, aget i.mats n = some m → m.valid = true →
    clausesNow s n ≠ [] ∧ SetEq m.tuples (fresh s n)

structure FInv (s : St) : Prop where
  cat : CatOk s
  headsNoFacts : ∀ n, clausesNow s n ≠ [] → factsDb s n = []
  mgr : ∀ i, s.inc = some i → MgrOk s i
  snap : s.snap = mkSnap s

theorem FInv.noClauses {s : St} (h : FInv s) {r : Name} (hr : factsDb s r ≠ []) : clausesNow s r = [] :=
  Decidable.not_not.mp fun hc => hr (h.headsNoFacts r hc)

theorem mkSnap_of_none {s : St} (hi : s.inc = none) :
    mkSnap s = { inputs := s.facts, rules := allRules s.catalog } := by
  unfold mkSnap; rw [hi]

theorem mkSnap_of_some {s : St} {i : Inc} (hi : s.inc = some i) :
    mkSnap s = { inputs := mergeMats s.facts (validMats i),
                 rules := (allRules s.catalog).filter fun c => !(isValid i c.head.rel) } := by
  unfold mkSnap; rw [hi]

theorem fsnap_iff {s : St} (h : FInv s) (n : Name) : SetEq (snapDb s n) (fresh s n) := by
  unfold snapDb
  rw [h.snap]
  cases hi : s.inc with
  | none => rw [mkSnap_of_none hi]; exact fun _ => Iff.rfl
  | some i =>
    have hM := h.mgr i hi
    rw [mkSnap_of_some hi]
    refine evalProg_replace (allRules s.catalog) _ s.facts _ (fun x => isValid i x = true)
      (conv_always _ _) (conv_always _ _) ?_ ?_ ?_ ?_ n
    · intro c
      simp [List.mem_filter]
    · intro x hx
      obtain ⟨m, hm, hv⟩ := (isValid_iff i x).mp hx
      rw [mem_heads_clausesOf, clausesOf_cat h.cat]
      exact (hM.mats x m hm hv).1
    · intro x hx
      obtain ⟨m, hm, hv⟩ := (isValid_iff i x).mp hx
      have hI := hM.mats x m hm hv
      rw [inDb_mergeMats_key s.facts (validMats i) x m.tuples (nodup_validMats i hM.nodup) (mem_validMats i hm hv),
        show inDb s.facts x = [] from h.headsNoFacts x hI.1]
      exact hI.2
    · intro x hx
      unfold inDb
      rw [aget_mergeMats_not_key _ _ _ fun hk => hx (key_validMats i hM.nodup hk)]

theorem fresh_frame {s s' : St} (hcat : CatOk s) (hcat' : CatOk s') {i : Inc}
    (hedges : ∀ n c, c ∈ clausesNow s n → ∀ r ∈ bodyRels c, r ≠ n → n ∈ b2dOf i r)
    (C : Name → Prop) (hclo : ∀ y a, C y → a ∈ b2dOf i y → C a)
    (hfacts : ∀ x, ¬ C x → factsDb s' x = factsDb s x)
    (hcl : ∀ x, ¬ C x → clausesNow s' x = clausesNow s x)
    (n : Name) (hn : ¬ C n) : SetEq (fresh s n) (fresh s' n) := by
  unfold fresh
  refine evalProg_agree _ _ _ _ (fun x => ¬ C x) (conv_always _ _) (conv_always _ _) ?_ ?_ ?_ n hn
  · intro c hcm hu r hr hC
    by_cases e : r = c.head.rel
    · exact hu (e ▸ hC)
    · exact hu (hclo r _ hC (hedges c.head.rel c (mem_clausesNow hcat hcm) r hr e))
  · intro x hx
    rw [clausesOf_cat hcat, clausesOf_cat hcat', hcl x hx]
  · intro x hx _
    exact (hfacts x hx).symm

theorem mgr_update {s s' : St} (h : FInv s) {i i' : Inc} (hi : s.inc = some i) {X : Name → Prop}
    (hu : Upd i i' X) (hcat' : CatOk s')
    (hfacts : ∀ x, ¬ X x → factsDb s' x = factsDb s x)
    (hcl : ∀ x, ¬ X x → clausesNow s' x = clausesNow s x)
    (hXmat : ∀ n m, aget i'.mats n = some m → m.valid = true → ¬ X n)
    (hXedges : ∀ n c, X n → c ∈ clausesNow s' n → ∀ r ∈ bodyRels c, r ≠ n → n ∈ b2dOf i' r) :
    MgrOk s' i' := by
  have hM := h.mgr i hi
  obtain ⟨D, hclo, hvalid⟩ := hu.dirty
  refine ⟨hu.nodup hM.nodup, ?_, ?_⟩
  · intro n c hc r hr hrn
    by_cases hx : X n
    · exact hXedges n c hx hc r hr hrn
    · rw [hcl n hx] at hc
      exact hu.keep n r hx (hM.edges n c hc r hr hrn)
  · intro n m hm hv
    obtain ⟨hold, hnD⟩ := hvalid n m hm hv
    have hnX := hXmat n m hm hv
    obtain ⟨h1, h2⟩ := hM.mats n m hold hv
    refine ⟨by rw [hcl n hnX]; exact h1, fun t => (h2 t).trans ?_⟩
    exact fresh_frame h.cat hcat' hM.edges (fun x => X x ∨ D x) hclo
      (fun x hx => hfacts x fun e => hx (Or.inl e)) (fun x hx => hcl x fun e => hx (Or.inl e))
      n (fun e => e.elim hnX hnD) t

theorem finv_mapInc {s : St} (h : FInv s) (s1 : St) (f : Inc → Inc) (X : Name → Prop)
    (hinc : s1.inc = s.inc)
    (hu : ∀ i, s.inc = some i → Upd i (f i) X)
    (hcat' : CatOk s1) (hnf' : ∀ n, clausesNow s1 n ≠ [] → factsDb s1 n = [])
    (hfacts : ∀ x, ¬ X x → factsDb s1 x = factsDb s x)
    (hcl : ∀ x, ¬ X x → clausesNow s1 x = clausesNow s x)
    (hXmat : ∀ i n m, s.inc = some i → aget (f i).mats n = some m → m.valid = true → ¬ X n)
    (hXedges : ∀ i n c, s.inc = some i → X n → c ∈ clausesNow s1 n → ∀ r ∈ bodyRels c, r ≠ n → n ∈ b2dOf (f i) r) :
    FInv (publish (mapInc s1 f)) := by
  -- `CatOk` and `MgrOk` are indexed by the state but their fields read only its catalogue and facts:
  -- the same field proofs serve a state that differs elsewhere (here in `inc` and `snap`)
  refine ⟨⟨hcat'.heads, hcat'.nodup⟩, hnf', ?_, rfl⟩
  intro j hj
  have hj' : s.inc.map f = some j := hinc ▸ hj
  cases hi : s.inc with
  | none => rw [hi] at hj'; cases hj'
  | some i =>
    rw [hi] at hj'
    cases hj'
    have hM : MgrOk s1 (f i) := mgr_update h hi (hu i hi) hcat' hfacts hcl (hXmat i · · hi) (hXedges i · · hi)
    exact ⟨hM.nodup, hM.edges, hM.mats⟩

theorem finv_facts {s : St} (h : FInv s) (facts' : List (Name × List Tup)) (arity' : List (Name × Nat))
    (f : Inc → Inc) (X : Name → Prop)
    (hu : ∀ i, s.inc = some i → Upd i (f i) X)
    (hX : ∀ x, X x → clausesNow s x = [])
    (hfacts : ∀ x, ¬ X x → (aget facts' x).getD [] = factsDb s x) :
    FInv (publish (mapInc { s with facts := facts', arity := arity' } f)) := by
  refine finv_mapInc h _ f X rfl hu ⟨h.cat.heads, h.cat.nodup⟩ ?_ hfacts (fun _ _ => rfl) ?_ ?_
  · intro n hn
    exact (hfacts n fun hx => hn (hX n hx)).trans (h.headsNoFacts n hn)
  · intro i n m hi hm hv hx
    obtain ⟨D, _, hvalid⟩ := (hu i hi).dirty
    exact ((h.mgr i hi).mats n m (hvalid n m hm hv).1 hv).1 (hX n hx)
  · intro i n c _ hx hc
    have hc' : c ∈ clausesNow s n := hc
    rw [hX n hx] at hc'
    exact absurd hc' List.not_mem_nil

/-- the catalogue entry of `x` becomes `cls` (an absent entry counts as `[]`). -/
theorem finv_edit {s : St} (h : FInv s) (x : Name) (cat' : List (Name × List Clause)) (cls : List Clause)
    (hcat : CatOk { s with catalog := cat' })
    (hclx : (aget cat' x).getD [] = cls)
    (hother : ∀ n, n ≠ x → aget cat' n = aget s.catalog n)
    (hfx : cls ≠ [] → factsDb s x = []) :
    FInv (publish (mapInc { s with catalog := cat' } fun i => i.reindex x cls)) := by
  have hcl : ∀ n, n ≠ x → clausesNow { s with catalog := cat' } n = clausesNow s n :=
    fun n hn => congrArg (·.getD []) (hother n hn)
  refine finv_mapInc h _ _ (fun y => y = x) rfl (fun i _ => reindex_upd i x cls) hcat ?_ (fun _ _ => rfl) hcl ?_ ?_
  · intro n hn
    by_cases e : n = x
    · subst e
      exact hfx (hclx ▸ hn)
    · exact h.headsNoFacts n (hcl n e ▸ hn)
  · intro i n m _ hm hv
    exact reindex_mats_ne i x cls n m hm hv
  · intro i n c _ e hc r hr hrn
    subst e
    exact reindex_newEdges i n (hclx ▸ hc) hr hrn

theorem finv_set {s : St} (h : FInv s) (x : Name) (cls : List Clause)
    (hheads : ∀ c ∈ cls, c.head.rel = x) (hfx : cls ≠ [] → factsDb s x = []) :
    FInv (publish (mapInc { s with catalog := aset s.catalog x cls } fun i => i.reindex x cls)) :=
  finv_edit h x _ cls (catOk_aset h.cat rfl hheads) (by rw [aget_aset_eq]; rfl)
    (fun n hn => aget_aset_ne (Ne.symm hn)) hfx

theorem finv_erase {s : St} (h : FInv s) (x : Name) :
    FInv (publish (mapInc { s with catalog := aerase s.catalog x } fun i => i.reindex x [])) :=
  finv_edit h x _ [] (catOk_aerase h.cat rfl) (by rw [aget_aerase_eq]; rfl)
    (fun n hn => aget_aerase_ne (Ne.symm hn)) (fun e => absurd rfl e)

end ILV.C18
