/-
  Correctness of the consolidation loop relative to a lawful tuple order
  (the order law is exactly what C31 establishes).
-/
import ILV.Lemmas.Order
import ILV.Model.Consolidate
namespace ILV

theorem sumFor_append (t : Tuple) (a b : List Upd) : sumFor t (a ++ b) = sumFor t a + sumFor t b := by
  induction a with
  | nil => exact (Int.zero_add _).symm
  | cons x xs ih => simp only [List.cons_append, sumFor, ih, Int.add_assoc]

theorem sumFor_perm (t : Tuple) {a b : List Upd} (h : a.Perm b) : sumFor t a = sumFor t b := by
  induction h with
  | nil => rfl
  | cons x _ ih => simp only [sumFor, ih]
  | swap x y l => simp only [sumFor]; omega
  | trans _ _ ih1 ih2 => exact ih1.trans ih2

theorem insertLe_perm {α} (le : α → α → Bool) (x : α) (l : List α) : (insertLe le x l).Perm (x :: l) := by
  induction l with
  | nil => exact .refl _
  | cons y ys ih =>
    simp only [insertLe]
    split
    · exact .refl _
    · exact (ih.cons y).trans (.swap x y ys)

theorem stableSort_perm {α} (le : α → α → Bool) (l : List α) : (stableSort le l).Perm l := by
  induction l with
  | nil => exact .refl _
  | cons x xs ih => exact (insertLe_perm le x _).trans (ih.cons x)

theorem mem_stableSort {α} (le : α → α → Bool) (z : α) (l : List α) :
    z ∈ stableSort le l ↔ z ∈ l := (stableSort_perm le l).mem_iff

theorem sumFor_stableSort (le : Upd → Upd → Bool) (t : Tuple) (l : List Upd) :
    sumFor t (stableSort le l) = sumFor t l := sumFor_perm t (stableSort_perm le l)

theorem pairwise_insertLe {α} (le : α → α → Bool) (Q : α → Prop)
    (total : ∀ a b, Q a → Q b → le a b = false → le b a = true)
    (trans : ∀ a b c, Q a → Q b → Q c → le a b = true → le b c = true → le a c = true)
    (x : α) (l : List α) (hx : Q x) (hl : ∀ y ∈ l, Q y)
    (h : l.Pairwise (fun a b => le a b = true)) :
    (insertLe le x l).Pairwise (fun a b => le a b = true) := by
  induction l with
  | nil => simp [insertLe]
  | cons y ys ih =>
    have hy : Q y := hl y (by simp)
    have hys : ∀ z ∈ ys, Q z := fun z hz => hl z (by simp [hz])
    rw [List.pairwise_cons] at h
    simp only [insertLe]
    split
    · rename_i hle
      rw [List.pairwise_cons]
      refine ⟨?_, List.pairwise_cons.2 h⟩
      intro z hz
      rcases List.mem_cons.1 hz with e | hz'
      · subst e; exact hle
      · exact trans x y z hx hy (hys z hz') hle (h.1 z hz')
    · rename_i hnle
      have hyx : le y x = true := total x y hx hy (by simpa using hnle)
      rw [List.pairwise_cons]
      refine ⟨?_, ih hys h.2⟩
      intro z hz
      rcases List.mem_cons.1 ((insertLe_perm le x ys).mem_iff.1 hz) with e | hz'
      · subst e; exact hyx
      · exact h.1 z hz'

theorem pairwise_stableSort {α} (le : α → α → Bool) (Q : α → Prop)
    (total : ∀ a b, Q a → Q b → le a b = false → le b a = true)
    (trans : ∀ a b c, Q a → Q b → Q c → le a b = true → le b c = true → le a c = true)
    (l : List α) (hl : ∀ y ∈ l, Q y) :
    (stableSort le l).Pairwise (fun a b => le a b = true) := by
  induction l with
  | nil => simp [stableSort]
  | cons x xs ih =>
    have hxs : ∀ z ∈ xs, Q z := fun z hz => hl z (by simp [hz])
    simp only [stableSort, List.foldr] at ih ⊢
    exact pairwise_insertLe le Q total trans x _ (hl x (by simp))
      (fun y hy => hxs y ((mem_stableSort le y xs).1 hy)) (ih hxs)

section merge
variable {P : Tuple → Prop} (L : LawfulOn P Tuple.cmp)
include L

def WFU (P : Tuple → Prop) (l : List Upd) : Prop := ∀ u ∈ l, P u.data

omit L in
theorem leData_iff (a b : Upd) : leData a b = true ↔ Tuple.cmp a.data b.data ≠ .gt := bne_iff_ne

theorem leData_total (a b : Upd) (ha : P a.data) (hb : P b.data) (h : leData a b = false) : leData b a = true := by
  rw [leData_iff, L.swap a.data b.data ha hb, bne_eq_false_iff_eq.1 h]; decide

theorem leData_trans (a b c : Upd) (ha : P a.data) (hb : P b.data) (hc : P c.data)
    (h1 : leData a b = true) (h2 : leData b c = true) : leData a c = true :=
  (leData_iff a c).2 (L.trans _ _ _ ha hb hc ((leData_iff a b).1 h1) ((leData_iff b c).1 h2))

omit L in
theorem sameData_iff (a b : Upd) : sameData a b = true ↔ a.data = b.data := Tuple.eq_iff _ _

omit L in
theorem sumFor_emit (t : Tuple) (cur : Upd) :
    sumFor t (if cur.diff != 0 then [cur] else []) = sumFor t [cur] := by
  by_cases h : cur.diff = 0 <;> simp [h, sumFor]

omit L in
theorem mem_emit {cur u : Upd} (h : u ∈ if cur.diff != 0 then [cur] else []) : u = cur ∧ cur.diff ≠ 0 := by
  split at h
  · exact ⟨List.mem_singleton.1 h, bne_iff_ne.1 ‹_›⟩
  · cases h

theorem mergeRun_spec : ∀ (rest : List Upd) (cur : Upd), P cur.data → WFU P rest →
    (cur :: rest).Pairwise (fun a b => leData a b = true) →
    (∀ t, sumFor t (mergeRun sameData cur rest) = sumFor t (cur :: rest)) ∧
    (∀ u ∈ mergeRun sameData cur rest, u.diff ≠ 0 ∧ (u.data = cur.data ∨ ∃ v ∈ rest, u.data = v.data)) ∧
    (mergeRun sameData cur rest).Pairwise (fun a b => Tuple.cmp a.data b.data = .lt) := by
  intro rest
  induction rest with
  | nil =>
    intro cur _ _ _
    refine ⟨fun t => sumFor_emit t cur, fun u hu => ?_, ?_⟩
    · obtain ⟨rfl, hd⟩ := mem_emit hu
      exact ⟨hd, Or.inl rfl⟩
    · simp only [mergeRun]; split <;> simp
  | cons u us ih =>
    intro cur hc hr hs
    obtain ⟨hu, hus⟩ := List.forall_mem_cons.1 hr
    obtain ⟨hcur, hs'⟩ := List.pairwise_cons.1 hs
    rw [mergeRun]
    by_cases hsame : sameData cur u = true
    · rw [if_pos hsame]
      have hd : cur.data = u.data := (sameData_iff cur u).1 hsame
      obtain ⟨i1, i2, i3⟩ := ih { cur with diff := cur.diff + u.diff } hc hus
        (List.pairwise_cons.2 ⟨fun w hw => hcur w (List.mem_cons_of_mem _ hw), (List.pairwise_cons.1 hs').2⟩)
      refine ⟨fun t => ?_, fun w hw => ?_, i3⟩
      · rw [i1 t]
        simp only [sumFor, ← hd]
        split <;> omega
      · obtain ⟨a, b⟩ := i2 w hw
        exact ⟨a, b.imp_right fun ⟨v, hv, e⟩ => ⟨v, List.mem_cons_of_mem _ hv, e⟩⟩
    · rw [if_neg hsame]
      have hltu : Tuple.cmp cur.data u.data = .lt := by
        have hle := (leData_iff cur u).1 (hcur u (List.mem_cons_self ..))
        cases hcmp : Tuple.cmp cur.data u.data with
        | lt => rfl
        | gt => exact absurd hcmp hle
        | eq => exact absurd ((sameData_iff cur u).2 ((L.eq_iff _ _ hc hu).1 hcmp)) hsame
      have hlt_all : ∀ w ∈ u :: us, Tuple.cmp cur.data w.data = .lt := by
        intro w hw
        rcases List.mem_cons.1 hw with rfl | hw'
        · exact hltu
        · exact L.lt_of_lt_of_le hc hu (hus w hw') hltu
            ((leData_iff u w).1 ((List.pairwise_cons.1 hs').1 w hw'))
      obtain ⟨i1, i2, i3⟩ := ih u hu hus hs'
      have hout_lt : ∀ w ∈ mergeRun sameData u us, Tuple.cmp cur.data w.data = .lt := by
        intro w hw
        rcases (i2 w hw).2 with e | ⟨v, hv, e⟩
        · rw [e]; exact hltu
        · rw [e]; exact hlt_all v (List.mem_cons_of_mem _ hv)
      refine ⟨fun t => ?_, fun w hw => ?_, ?_⟩
      · rw [sumFor_append, sumFor_emit, i1 t]; simp only [sumFor, Int.add_zero]
      · rcases List.mem_append.1 hw with h | h
        · obtain ⟨rfl, hd⟩ := mem_emit h
          exact ⟨hd, Or.inl rfl⟩
        · obtain ⟨a, b⟩ := i2 w h
          refine ⟨a, Or.inr ?_⟩
          rcases b with b | ⟨v, hv, b⟩
          · exact ⟨u, List.mem_cons_self .., b⟩
          · exact ⟨v, List.mem_cons_of_mem _ hv, b⟩
      · refine List.pairwise_append.2 ⟨by split <;> simp, i3, fun a ha b hb => ?_⟩
        rw [(mem_emit ha).1]; exact hout_lt b hb

end merge

end ILV
