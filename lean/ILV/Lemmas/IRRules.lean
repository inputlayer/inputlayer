/-
  What the rewrite rules of the basic optimizer have in common: rows of a well-formed tree have the
  declared width (`rowsOk`); the relation `Ok db t t'` ("`t'` may replace `t`": well-formed, same
  width, same list of rows, hence same bag and same set) with one congruence lemma per node kind;
  and `Ok.bottomUp`, the induction over trees that every rule goes through.
-/
import ILV.Lemmas.IRBasic
namespace ILV.IR
open ILV

theorem wf_map {db : Db} {i : Node} {proj s} (h : wf db (.map i proj s) = true) : wf db i = true := by
  simp only [wf, Bool.and_eq_true] at h; exact h.1.1
theorem wf_filter {db : Db} {i : Node} {p} (h : wf db (.filter i p) = true) : wf db i = true := by
  simp only [wf, Bool.and_eq_true] at h; exact h.1
theorem wf_join {db : Db} {l r : Node} {lk rk s} (h : wf db (.join l r lk rk s) = true) : wf db l = true ∧ wf db r = true := by
  simp only [wf, Bool.and_eq_true] at h; exact ⟨h.1.1.1.1.1.1, h.1.1.1.1.1.2⟩
theorem wf_antijoin {db : Db} {l r : Node} {lk rk s} (h : wf db (.antijoin l r lk rk s) = true) : wf db l = true ∧ wf db r = true := by
  simp only [wf, Bool.and_eq_true] at h; exact ⟨h.1.1.1.1, h.1.1.1.2⟩
theorem wf_distinct {db : Db} {i : Node} (h : wf db (.distinct i) = true) : wf db i = true := h
theorem wf_union {db : Db} {is : NodeList} (h : wf db (.union is) = true) : wfL db is = true := by
  simp only [wf, Bool.and_eq_true] at h; exact h.1.2
theorem wf_aggregate {db : Db} {i : Node} {gb aggs s} (h : wf db (.aggregate i gb aggs s) = true) : wf db i = true := by
  simp only [wf, Bool.and_eq_true] at h; exact h.1.1.1
theorem wf_compute {db : Db} {i : Node} {es} (h : wf db (.compute i es) = true) : wf db i = true := h
theorem wf_flatMap {db : Db} {i : Node} {proj fp s} (h : wf db (.flatMap i proj fp s) = true) : wf db i = true := by
  simp only [wf, Bool.and_eq_true] at h; exact h.1.1
theorem wf_joinFlatMap {db : Db} {l r : Node} {lk rk proj fp s} (h : wf db (.joinFlatMap l r lk rk proj fp s) = true) :
    wf db l = true ∧ wf db r = true := by
  simp only [wf, Bool.and_eq_true] at h; exact ⟨h.1.1.1.1.1, h.1.1.1.1.2⟩
theorem wfL_cons {db : Db} {t : Node} {ts : NodeList} (h : wfL db (.cons t ts) = true) : wf db t = true ∧ wfL db ts = true := by
  simpa only [wfL, Bool.and_eq_true] using h

theorem mem_joinRows {L R : List Tuple} {lk rk : List Nat} {row : Tuple} (h : row ∈ joinRows L R lk rk) :
    ∃ l ∈ L, ∃ r ∈ R, joinRow lk rk l r = some row := by
  simpa only [joinRows, List.mem_flatMap, List.mem_filterMap] using h

theorem joinRow_length {lk rk : List Nat} {l r row : Tuple} (h : joinRow lk rk l r = some row) :
    row.length = joinWidth l.length r.length lk rk := by
  unfold joinRow at h
  split at h
  · next hc => cases h; rw [joinWidth, if_pos hc, List.length_append]
  · next hc =>
    split at h
    · cases h
      rw [joinWidth, if_neg hc, List.length_append, excluding, excludingAux_length]
    · cases h

theorem project_length_of_allLt {t : Tuple} {idx : List Nat} {w : Nat} (hl : t.length = w) (h : allLt idx w = true) :
    (project t idx).length = idx.length :=
  project_length (hl ▸ allLt_iff.1 h)

theorem flatMapRow_some {proj : List Nat} {fp : Option Pred} {t row : Tuple} (h : flatMapRow proj fp t = some row) :
    row = project t proj := by
  simp only [flatMapRow] at h
  split at h <;> cases h
  rfl

mutual
theorem rowsOk (db : Db) : ∀ t, wf db t = true → ∀ row ∈ eval db t, row.length = width t
  | .scan rel s, h, row, hr => by
    unfold wf at h
    simp only [List.all_eq_true, beq_iff_eq] at h
    exact h row hr
  | .map i proj s, h, row, hr => by
    unfold wf at h
    simp only [Bool.and_eq_true, beq_iff_eq] at h
    obtain ⟨t, ht, rfl⟩ := List.mem_map.1 hr
    exact (project_length_of_allLt (rowsOk db i h.1.1 t ht) h.1.2).trans h.2.symm
  | .filter i p, h, row, hr => rowsOk db i (wf_filter h) row (List.mem_filter.1 hr).1
  | .join l r lk rk s, h, row, hr => by
    obtain ⟨a, ha, b, hb, e⟩ := mem_joinRows hr
    rw [joinRow_length e, rowsOk db l (wf_join h).1 a ha, rowsOk db r (wf_join h).2 b hb]
    unfold wf at h
    simp only [Bool.and_eq_true, beq_iff_eq] at h
    exact h.1.1.2.symm
  | .distinct i, h, row, hr => rowsOk db i h row (mem_dedup.1 hr)
  | .union is, h, row, hr => by
    unfold wf at h
    simp only [Bool.and_eq_true] at h
    exact rowsOkL db is _ h.1.2 h.2 row hr
  | .aggregate i gb aggs s, h, row, hr => by
    unfold wf at h
    simp only [Bool.and_eq_true, beq_iff_eq] at h
    obtain ⟨k, hk, rfl⟩ := List.mem_map.1 hr
    obtain ⟨t, ht, rfl⟩ := List.mem_map.1 (mem_dedup.1 hk)
    rw [List.length_append, List.length_map, project_length_of_allLt (rowsOk db i h.1.1.1 t ht) h.1.1.2]
    exact h.1.2.symm
  | .antijoin l r lk rk s, h, row, hr => by
    unfold wf at h
    simp only [Bool.and_eq_true, beq_iff_eq] at h
    exact (rowsOk db l h.1.1.1.1 row (List.mem_filter.1 hr).1).trans h.2.symm
  | .compute i es, h, row, hr => by
    obtain ⟨t, ht, rfl⟩ := List.mem_map.1 hr
    rw [computeRow_length, rowsOk db i h t ht, width, width, schema, List.length_append, List.length_map]
  | .hnsw .., _, row, hr => nomatch hr
  | .flatMap i proj fp s, h, row, hr => by
    unfold wf at h
    simp only [Bool.and_eq_true, beq_iff_eq] at h
    obtain ⟨t, ht, e⟩ := List.mem_filterMap.1 hr
    rw [flatMapRow_some e]
    exact (project_length_of_allLt (rowsOk db i h.1.1 t ht) h.1.2).trans h.2.symm
  | .joinFlatMap l r lk rk proj fp s, h, row, hr => by
    unfold wf at h
    simp only [Bool.and_eq_true, beq_iff_eq] at h
    obtain ⟨a, ha, hr⟩ := List.mem_flatMap.1 hr
    obtain ⟨b, hb, e⟩ := List.mem_filterMap.1 hr
    unfold jfmRow at e
    split at e
    · rw [flatMapRow_some e]
      refine (project_length_of_allLt ?_ h.1.2).trans h.2.symm
      rw [List.length_append, rowsOk db l h.1.1.1.1.1 a ha, rowsOk db r h.1.1.1.1.2 b hb]
    · cases e
theorem rowsOkL (db : Db) : ∀ ts w, wfL db ts = true → sameWidth w ts = true → ∀ row ∈ evalList db ts, row.length = w
  | .nil, _, _, _, row, hr => nomatch hr
  | .cons t ts, w, h, hw, row, hr => by
    simp only [sameWidth, Bool.and_eq_true, beq_iff_eq] at hw
    rcases List.mem_append.1 hr with hr | hr
    · exact (rowsOk db t (wfL_cons h).1 row hr).trans hw.1
    · exact rowsOkL db ts w (wfL_cons h).2 hw.2 row hr
end

end ILV.IR

namespace ILV.IR
open ILV

structure Ok (db : Db) (t t' : Node) : Prop where
  w : wf db t' = true
  wd : width t' = width t
  ev : eval db t' = eval db t

structure OkL (db : Db) (ts ts' : NodeList) : Prop where
  w : wfL db ts' = true
  first : (schemaFirst ts').length = (schemaFirst ts).length
  same : ∀ w, sameWidth w ts = true → sameWidth w ts' = true
  empty : ts'.isEmpty = ts.isEmpty
  ev : evalList db ts' = evalList db ts

theorem Ok.refl {db : Db} {t : Node} (h : wf db t = true) : Ok db t t := ⟨h, rfl, rfl⟩

theorem Ok.trans {db : Db} {a b c : Node} (h1 : Ok db a b) (h2 : Ok db b c) : Ok db a c :=
  ⟨h2.w, h2.wd.trans h1.wd, h2.ev.trans h1.ev⟩

theorem OkL.nil {db : Db} : OkL db .nil .nil := ⟨rfl, rfl, fun _ h => h, rfl, rfl⟩

theorem OkL.cons {db : Db} {t t' : Node} {ts ts' : NodeList} (h : Ok db t t') (hs : OkL db ts ts') :
    OkL db (.cons t ts) (.cons t' ts') where
  w := by rw [wfL, h.w, hs.w]; rfl
  first := h.wd
  same := fun w hw => by
    simp only [sameWidth, Bool.and_eq_true, beq_iff_eq] at hw ⊢
    exact ⟨h.wd.trans hw.1, hs.same w hw.2⟩
  empty := rfl
  ev := by rw [evalList, evalList, h.ev, hs.ev]

/- Congruence, one lemma per node kind, all of one shape (so `Ok.distinct` and `Ok.compute` take the
   well-formedness of the node although they do not need it).  Well-formedness of a node mentions its
   children only through their well-formedness and their width: rewrite both in the goal and in the hypothesis. -/

theorem Ok.map {db : Db} {i i' : Node} {proj : List Nat} {s : List String}
    (h : wf db (.map i proj s) = true) (hi : Ok db i i') : Ok db (.map i proj s) (.map i' proj s) where
  w := by have hc := wf_map h; unfold wf at h ⊢; rw [hc] at h; rw [hi.w, hi.wd]; exact h
  wd := rfl
  ev := by unfold eval; rw [hi.ev]

theorem Ok.filter {db : Db} {i i' : Node} {p : Pred}
    (h : wf db (.filter i p) = true) (hi : Ok db i i') : Ok db (.filter i p) (.filter i' p) where
  w := by have hc := wf_filter h; unfold wf at h ⊢; rw [hc] at h; rw [hi.w]; exact h
  wd := hi.wd
  ev := by unfold eval; rw [hi.ev]

theorem wf_join_congr {db : Db} {l l' r r' : Node} {lk rk : List Nat} {s : List String}
    (h : wf db (.join l r lk rk s) = true) (hl : wf db l' = true) (hwl : width l' = width l)
    (hr : wf db r' = true) (hwr : width r' = width r) : wf db (.join l' r' lk rk s) = true := by
  have hc := wf_join h; unfold wf at h ⊢; rw [hc.1, hc.2] at h; rw [hl, hr, hwl, hwr]; exact h

theorem Ok.join {db : Db} {l l' r r' : Node} {lk rk : List Nat} {s : List String}
    (h : wf db (.join l r lk rk s) = true) (hl : Ok db l l') (hr : Ok db r r') :
    Ok db (.join l r lk rk s) (.join l' r' lk rk s) where
  w := wf_join_congr h hl.w hl.wd hr.w hr.wd
  wd := rfl
  ev := by unfold eval; rw [hl.ev, hr.ev]

theorem Ok.antijoin {db : Db} {l l' r r' : Node} {lk rk : List Nat} {s : List String}
    (h : wf db (.antijoin l r lk rk s) = true) (hl : Ok db l l') (hr : Ok db r r') :
    Ok db (.antijoin l r lk rk s) (.antijoin l' r' lk rk s) where
  w := by have hc := wf_antijoin h; unfold wf at h ⊢; rw [hc.1, hc.2] at h; rw [hl.w, hr.w, hl.wd, hr.wd]; exact h
  wd := rfl
  ev := by unfold eval; rw [hl.ev, hr.ev]

theorem Ok.distinct {db : Db} {i i' : Node}
    (_h : wf db (.distinct i) = true) (hi : Ok db i i') : Ok db (.distinct i) (.distinct i') where
  w := hi.w
  wd := hi.wd
  ev := by unfold eval; rw [hi.ev]

theorem Ok.union {db : Db} {is is' : NodeList}
    (h : wf db (.union is) = true) (hi : OkL db is is') : Ok db (.union is) (.union is') where
  w := by
    simp only [IR.wf, Bool.and_eq_true] at h ⊢
    exact ⟨⟨hi.empty ▸ h.1.1, hi.w⟩, hi.first ▸ hi.same _ h.2⟩
  wd := hi.first
  ev := hi.ev

theorem Ok.aggregate {db : Db} {i i' : Node} {gb : List Nat} {aggs : List (Agg × Nat)} {s : List String}
    (h : wf db (.aggregate i gb aggs s) = true) (hi : Ok db i i') :
    Ok db (.aggregate i gb aggs s) (.aggregate i' gb aggs s) where
  w := by have hc := wf_aggregate h; unfold wf at h ⊢; rw [hc] at h; rw [hi.w, hi.wd]; exact h
  wd := rfl
  ev := by unfold eval; rw [hi.ev]

theorem Ok.compute {db : Db} {i i' : Node} {es : List (String × Expr)}
    (_h : wf db (.compute i es) = true) (hi : Ok db i i') : Ok db (.compute i es) (.compute i' es) where
  w := hi.w
  wd := by
    have := hi.wd
    simp only [IR.width, schema, List.length_append] at this ⊢
    rw [this]
  ev := by unfold eval; rw [hi.ev]

theorem Ok.flatMap {db : Db} {i i' : Node} {proj : List Nat} {fp : Option Pred} {s : List String}
    (h : wf db (.flatMap i proj fp s) = true) (hi : Ok db i i') :
    Ok db (.flatMap i proj fp s) (.flatMap i' proj fp s) where
  w := by have hc := wf_flatMap h; unfold wf at h ⊢; rw [hc] at h; rw [hi.w, hi.wd]; exact h
  wd := rfl
  ev := by unfold eval; rw [hi.ev]

theorem Ok.joinFlatMap {db : Db} {l l' r r' : Node} {lk rk proj : List Nat} {fp : Option Pred} {s : List String}
    (h : wf db (.joinFlatMap l r lk rk proj fp s) = true) (hl : Ok db l l') (hr : Ok db r r') :
    Ok db (.joinFlatMap l r lk rk proj fp s) (.joinFlatMap l' r' lk rk proj fp s) where
  w := by have hc := wf_joinFlatMap h; unfold wf at h ⊢; rw [hc.1, hc.2] at h; rw [hl.w, hr.w, hl.wd, hr.wd]; exact h
  wd := rfl
  ev := by unfold eval; rw [hl.ev, hr.ev]

/-! Every pass of the optimizer rewrites the children of a node and then, possibly, the node itself.
`Ok.bottomUp` is the one induction over trees they share: such a pass may replace `t` as soon as its
last step may replace the tree whose children have already been rewritten. -/

def Node.mapKids (f : Node → Node) (fL : NodeList → NodeList) : Node → Node
  | .map i proj s => .map (f i) proj s
  | .filter i p => .filter (f i) p
  | .join l r lk rk s => .join (f l) (f r) lk rk s
  | .distinct i => .distinct (f i)
  | .union is => .union (fL is)
  | .aggregate i gb aggs s => .aggregate (f i) gb aggs s
  | .antijoin l r lk rk s => .antijoin (f l) (f r) lk rk s
  | .compute i es => .compute (f i) es
  | .flatMap i proj fp s => .flatMap (f i) proj fp s
  | .joinFlatMap l r lk rk proj fp s => .joinFlatMap (f l) (f r) lk rk proj fp s
  | t => t

mutual
theorem Ok.bottomUp {db : Db} {f : Node → Node} {fL : NodeList → NodeList}
    (nil : fL .nil = .nil) (cons : ∀ t ts, fL (.cons t ts) = .cons (f t) (fL ts))
    (root : ∀ t, wf db t = true → Ok db t (t.mapKids f fL) → Ok db t (f t)) :
    ∀ t, wf db t = true → Ok db t (f t)
  | .scan .., h => root _ h (Ok.refl h)
  | .hnsw .., h => root _ h (Ok.refl h)
  | .map i .., h => root _ h (Ok.map h (Ok.bottomUp nil cons root i (wf_map h)))
  | .filter i _, h => root _ h (Ok.filter h (Ok.bottomUp nil cons root i (wf_filter h)))
  | .join l r .., h =>
    root _ h (Ok.join h (Ok.bottomUp nil cons root l (wf_join h).1) (Ok.bottomUp nil cons root r (wf_join h).2))
  | .distinct i, h => root _ h (Ok.distinct h (Ok.bottomUp nil cons root i (wf_distinct h)))
  | .union is, h => root _ h (Ok.union h (OkL.bottomUp nil cons root is (wf_union h)))
  | .aggregate i .., h => root _ h (Ok.aggregate h (Ok.bottomUp nil cons root i (wf_aggregate h)))
  | .antijoin l r .., h =>
    root _ h (Ok.antijoin h (Ok.bottomUp nil cons root l (wf_antijoin h).1) (Ok.bottomUp nil cons root r (wf_antijoin h).2))
  | .compute i _, h => root _ h (Ok.compute h (Ok.bottomUp nil cons root i (wf_compute h)))
  | .flatMap i .., h => root _ h (Ok.flatMap h (Ok.bottomUp nil cons root i (wf_flatMap h)))
  | .joinFlatMap l r .., h =>
    root _ h (Ok.joinFlatMap h (Ok.bottomUp nil cons root l (wf_joinFlatMap h).1)
      (Ok.bottomUp nil cons root r (wf_joinFlatMap h).2))
theorem OkL.bottomUp {db : Db} {f : Node → Node} {fL : NodeList → NodeList}
    (nil : fL .nil = .nil) (cons : ∀ t ts, fL (.cons t ts) = .cons (f t) (fL ts))
    (root : ∀ t, wf db t = true → Ok db t (t.mapKids f fL) → Ok db t (f t)) :
    ∀ ts, wfL db ts = true → OkL db ts (fL ts)
  | .nil, _ => by rw [nil]; exact OkL.nil
  | .cons t ts, h => by
    rw [cons]
    exact OkL.cons (Ok.bottomUp nil cons root t (wfL_cons h).1) (OkL.bottomUp nil cons root ts (wfL_cons h).2)
end

theorem OkL.ofOk {db : Db} {f : Node → Node} {fL : NodeList → NodeList}
    (nil : fL .nil = .nil) (cons : ∀ t ts, fL (.cons t ts) = .cons (f t) (fL ts))
    (hf : ∀ t, wf db t = true → Ok db t (f t)) : ∀ ts, wfL db ts = true → OkL db ts (fL ts)
  | .nil, _ => by rw [nil]; exact OkL.nil
  | .cons t ts, h => by
    rw [cons]
    exact OkL.cons (hf t (wfL_cons h).1) (OkL.ofOk nil cons hf ts (wfL_cons h).2)

end ILV.IR
