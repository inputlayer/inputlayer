/-
  The engine model (ILV.Model.Engine): a run as a sequence of head executions, execution orders
  that respect the head dependencies, programs with the same set of rules, and the
  supported-model reading of a run whose order has no cycle at all.
-/
import ILV.Lemmas.Mono
namespace ILV.Engine
open ILV ILV.DL

/-- all switches off, one worker, no row limit. -/
def allOff : Cfg := {}

/-- the model's clause evaluation coincides with the Spec reading of the clause (false exactly for
    the one clause-level defect left in `evalRuleM`: an equality dropped by the builder's pass 2). -/
def ClauseFaithful (p : Program) : Prop :=
  ∀ r, r ∈ p → ∀ lk, evalRuleM true lk r = evalRuleLk lk r

/-- `order` lists heads such that each one scans, among the heads, only earlier ones (so no
    head scans itself and no head occurs twice). `seen`: heads already executed. -/
def depOrdered (p : Program) : List String → List String → Bool
  | [], _ => true
  | h :: rest, seen =>
    (scansOf p h).all (fun r => !(heads p).contains r || seen.contains r) &&
    !seen.contains h && depOrdered p rest (h :: seen)

/-- like `depOrdered`, but a head may scan itself. -/
def depOrderedS (p : Program) : List String → List String → Bool
  | [], _ => true
  | h :: rest, seen =>
    (scansOf p h).all (fun r => !(heads p).contains r || seen.contains r || r == h) &&
    !seen.contains h && depOrderedS p rest (h :: seen)

def execOrder (p : Program) : List String := (topoOrder p).map (fun i => (heads p).getD i "")

theorem depOrderedS_cons {p : Program} {h : String} {rest seen : List String} :
    depOrderedS p (h :: rest) seen = true ↔
      (∀ r, r ∈ scansOf p h → r ∉ heads p ∨ r ∈ seen ∨ r = h) ∧ h ∉ seen ∧ depOrderedS p rest (h :: seen) = true := by
  simp [depOrderedS, or_assoc, and_assoc]

theorem depOrdered_cons {p : Program} {h : String} {rest seen : List String} :
    depOrdered p (h :: rest) seen = true ↔
      (∀ r, r ∈ scansOf p h → r ∉ heads p ∨ r ∈ seen) ∧ h ∉ seen ∧ depOrdered p rest (h :: seen) = true := by
  simp [depOrdered, and_assoc]

theorem depOrderedS_of_depOrdered {p : Program} : ∀ {order seen : List String}, depOrdered p order seen = true →
    depOrderedS p order seen = true
  | [], _, _ => rfl
  | _ :: _, _, hd => by
    obtain ⟨hsc, hns, hrest⟩ := depOrdered_cons.1 hd
    exact depOrderedS_cons.2 ⟨fun r hr => (hsc r hr).imp_right Or.inl, hns, depOrderedS_of_depOrdered hrest⟩

theorem depOrdered_not_self {p : Program} : ∀ {order seen : List String}, depOrdered p order seen = true →
    ∀ g, g ∈ order → g ∈ heads p → g ∉ scansOf p g
  | h :: rest, seen, hd, g, hg, hgh, hc => by
    obtain ⟨hsc, hns, hrest⟩ := depOrdered_cons.1 hd
    rcases List.mem_cons.1 hg with rfl | hg
    · exact (hsc g hc).elim (fun h => h hgh) hns
    · exact depOrdered_not_self hrest g hg hgh hc

theorem depOrderedS_not_seen (p : Program) : ∀ (order seen : List String), depOrderedS p order seen = true →
    ∀ g, g ∈ order → g ∉ seen
  | h :: rest, seen, hd, g, hg => by
    obtain ⟨_, hns, hrest⟩ := depOrderedS_cons.1 hd
    rcases List.mem_cons.1 hg with rfl | hg
    · exact hns
    · exact fun hc => depOrderedS_not_seen p rest (h :: seen) hrest g hg (List.mem_cons_of_mem _ hc)

theorem scansS_not_later (p : Program) (h : String) (rest seen : List String)
    (hd : depOrderedS p (h :: rest) seen = true) (hheads : ∀ g, g ∈ h :: rest → g ∈ heads p)
    (r : String) (hr : r ∈ scansOf p h) (hne : r ≠ h) : r ∉ rest := by
  intro hmem
  rcases (depOrderedS_cons.1 hd).1 r hr with hnh | hseen | heq
  · exact hnh (hheads r (List.mem_cons_of_mem _ hmem))
  · exact depOrderedS_not_seen p (h :: rest) seen hd r (List.mem_cons_of_mem _ hmem) hseen
  · exact hne heq

theorem depOrderedS_induction {p : Program} {P : String → Prop} : ∀ (order seen : List String),
    depOrderedS p order seen = true → (∀ g, g ∈ seen → P g) →
    (∀ g, g ∈ order → (∀ r, r ∈ scansOf p g → r ≠ g → r ∈ heads p → P r) → P g) → ∀ g, g ∈ order → P g
  | h :: rest, seen, hd, hseen, hstep, g, hg => by
    obtain ⟨hsc, _, hrest⟩ := depOrderedS_cons.1 hd
    have hh : P h := hstep h (List.mem_cons_self ..) fun r hr hne hrh =>
      (hsc r hr).elim (fun hn => (hn hrh).elim) fun hs => hs.elim (hseen r) fun e => (hne e).elim
    rcases List.mem_cons.1 hg with rfl | hg
    · exact hh
    · exact depOrderedS_induction rest (h :: seen) hrest
        (fun x hx => (List.mem_cons.1 hx).elim (fun e => e ▸ hh) (hseen x))
        (fun x hx => hstep x (List.mem_cons_of_mem _ hx)) g hg

theorem lkOf_congr (edb acc acc' : DB) (r : String) (h : acc'.lookup r = acc.lookup r) :
    lkOf edb acc' r = lkOf edb acc r := by
  unfold lkOf; rw [h]

theorem lkOf_of_lookup (edb acc : DB) (g : String) (ts : List Tuple) (h : acc.lookup g = some ts) :
    lkOf edb acc g = ts := by
  unfold lkOf; rw [h]

theorem lkOf_of_lookup_none (edb acc : DB) (g : String) (h : acc.lookup g = none) :
    lkOf edb acc g = edb.get g := by
  unfold lkOf; rw [h]

theorem run_ok {cfg : Cfg} {hash : Tuple → Nat} {ord : String → List Tuple → List Tuple} {fuel : Nat}
    {p : Program} {edb : DB} {A : List Tuple} {acc : DB} (hrun : Engine.run cfg hash ord fuel p edb = .ok A acc) :
    p.isEmpty = false ∧ p.all Rule.isSafe = true ∧ p.all buildable = true ∧
      execLoop cfg hash ord fuel p edb (execOrder p) [] [] = .ok A acc := by
  rw [Engine.run] at hrun
  cases h1 : p.isEmpty
  · cases h2 : p.all Rule.isSafe
    · rw [h1, h2] at hrun; cases hrun
    · cases h3 : p.all buildable
      · rw [h1, h2, h3] at hrun; cases hrun
      · rw [h1, h2, h3] at hrun; exact ⟨rfl, rfl, rfl, hrun⟩
  · rw [h1] at hrun; cases hrun

theorem run_loop {cfg : Cfg} {hash : Tuple → Nat} {ord : String → List Tuple → List Tuple} {fuel : Nat}
    {p : Program} {edb : DB} {A : List Tuple} {acc : DB} (hrun : Engine.run cfg hash ord fuel p edb = .ok A acc) :
    execLoop cfg hash ord fuel p edb (execOrder p) [] [] = .ok A acc :=
  (run_ok hrun).2.2.2

section loop
variable {cfg : Cfg} {hash : Tuple → Nat} {ord : String → List Tuple → List Tuple} {fuel : Nat} {p : Program} {edb : DB}

theorem execLoop_cons_ok' {h : String} {hs : List String} {acc acc' : DB} {last A : List Tuple}
    (hrun : execLoop cfg hash ord fuel p edb (h :: hs) acc last = .ok A acc') :
    ∃ ts ts', evalHead cfg hash fuel p (lkOf edb acc) h = some ts ∧
      ts' = (if hs.isEmpty && limited cfg p h then (ord h ts).take cfg.limit else ts) ∧
      execLoop cfg hash ord fuel p edb hs ((h, ts') :: acc) ts' = .ok A acc' := by
  rw [execLoop] at hrun
  split at hrun
  · cases hrun
  · next ts hev => exact ⟨ts, _, hev, rfl, hrun⟩

theorem limited_eq_false (hlim : cfg.limit = 0) (h : String) : limited cfg p h = false := by
  simp [limited, hlim]

theorem execLoop_cons_ok (hlim : cfg.limit = 0) {h : String} {hs : List String} {acc acc' : DB} {last A : List Tuple}
    (hrun : execLoop cfg hash ord fuel p edb (h :: hs) acc last = .ok A acc') :
    ∃ ts, evalHead cfg hash fuel p (lkOf edb acc) h = some ts ∧
      execLoop cfg hash ord fuel p edb hs ((h, ts) :: acc) ts = .ok A acc' := by
  obtain ⟨ts, ts', hev, rfl, hrest⟩ := execLoop_cons_ok' hrun
  rw [limited_eq_false hlim, Bool.and_false, if_neg Bool.false_ne_true] at hrest
  exact ⟨ts, hev, hrest⟩

theorem execLoop_frame : ∀ {order : List String} {acc acc' : DB} {last A : List Tuple},
    execLoop cfg hash ord fuel p edb order acc last = .ok A acc' → ∀ r, r ∉ order → acc'.lookup r = acc.lookup r
  | [], _, _, _, _, hrun, _, _ => by cases hrun; rfl
  | h :: _, _, _, _, _, hrun, r, hr => by
    obtain ⟨_, ts', _, _, hrest⟩ := execLoop_cons_ok' hrun
    rw [execLoop_frame hrest r (fun hc => hr (List.mem_cons_of_mem _ hc)),
      lookup_cons_ne r h ts' _ (fun e => hr (e ▸ List.mem_cons_self ..))]

theorem execLoop_last : ∀ {order : List String} {acc acc' : DB} {last A : List Tuple},
    execLoop cfg hash ord fuel p edb order acc last = .ok A acc' →
    ∀ g, order.getLast? = some g → acc'.lookup g = some A
  | [h], _, _, _, _, hrun, g, hg => by
    obtain ⟨_, ts', _, _, hrest⟩ := execLoop_cons_ok' hrun
    cases hrest; cases hg
    exact lookup_cons_self ..
  | _ :: g' :: rest, _, _, _, _, hrun, g, hg => by
    obtain ⟨_, _, _, _, hrest⟩ := execLoop_cons_ok' hrun
    exact execLoop_last hrest g (List.getLast?_cons_cons ▸ hg)

/-- `accg` is the accumulator when `g` is executed. -/
theorem execLoop_each (hlim : cfg.limit = 0) : ∀ {order seen : List String} {acc acc' : DB} {last A : List Tuple},
    depOrderedS p order seen = true → (∀ g, g ∈ order → g ∈ heads p) →
    execLoop cfg hash ord fuel p edb order acc last = .ok A acc' →
    ∀ g, g ∈ order → ∃ accg ts, evalHead cfg hash fuel p (lkOf edb accg) g = some ts ∧
      acc'.lookup g = some ts ∧ accg.lookup g = acc.lookup g ∧
      ∀ r, r ∈ scansOf p g → r ≠ g → acc'.lookup r = accg.lookup r
  | h :: rest, seen, acc, acc', _, _, hd, hheads, hrun, g, hg => by
    obtain ⟨ts, hev, hrest⟩ := execLoop_cons_ok hlim hrun
    have hdrest := (depOrderedS_cons.1 hd).2.2
    have hnotrest : h ∉ rest := fun hc => depOrderedS_not_seen p rest _ hdrest h hc (List.mem_cons_self ..)
    rcases List.mem_cons.1 hg with rfl | hg
    · refine ⟨acc, ts, hev, ?_, rfl, fun r hr hne => ?_⟩
      · rw [execLoop_frame hrest g hnotrest, lookup_cons_self]
      · rw [execLoop_frame hrest r (scansS_not_later p g rest seen hd hheads r hr hne), lookup_cons_ne r g ts acc hne]
    · obtain ⟨accg, tg, h1, h2, h3, h4⟩ := execLoop_each hlim hdrest (fun x hx => hheads x (List.mem_cons_of_mem _ hx)) hrest g hg
      exact ⟨accg, tg, h1, h2, by rw [h3, lookup_cons_ne g h ts acc (fun e => hnotrest (e ▸ hg))], h4⟩

end loop

theorem lfpLoop_inv (lk : String → List Tuple) (h : String) (base : List Tuple) (recs : List Rule) (P : List Tuple → Prop)
    (hstep : ∀ x d, P x → evalRulesM false (override lk h x) recs = some d → P (unionT base d)) :
    ∀ (fuel : Nat) (x y : List Tuple), P x → lfpLoop lk h base recs fuel x = some y →
      P y ∧ ∃ d, evalRulesM false (override lk h y) recs = some d ∧ MemEq (unionT base d) y
  | fuel + 1, x, y, hp, hr => by
    rw [lfpLoop] at hr
    split at hr
    · cases hr
    · next d hev =>
      dsimp only at hr
      split at hr
      · next hss => cases hr; exact ⟨hp, d, hev, sameSet_iff.1 hss⟩
      · exact lfpLoop_inv lk h base recs P hstep fuel _ y (hstep x d hp hev) hr

/-- for either value of `b`: `evalRuleM` ignores its flag. -/
theorem evalRulesM_eq {p : Program} (hcf : ClauseFaithful p) (b : Bool) (lk : String → List Tuple) (cs : List Rule)
    (hsub : ∀ r, r ∈ cs → r ∈ p) : evalRulesM b lk cs = evalRules lk cs :=
  evalRulesWith_congr _ _ _ fun r hr => hcf r (hsub r hr) lk

theorem evalHead_allOff (hash : Tuple → Nat) (fuel : Nat) (p : Program) (lk : String → List Tuple) (h : String) :
    evalHead allOff hash fuel p lk h =
      if selfRec p h then lfpSelf fuel lk h (clausesOf p h) else evalRulesM true lk (clausesOf p h) := by
  simp [evalHead, allOff]

/-- The executed heads form a supported model of the final accumulated database. -/
theorem execLoop_spec (hash : Tuple → Nat) (ord : String → List Tuple → List Tuple) (fuel : Nat)
    (p : Program) (edb : DB) (hcf : ClauseFaithful p) (hagg : ∀ r, r ∈ p → r.hasAgg = false) :
    ∀ (order seen : List String) (acc : DB) (last A : List Tuple) (acc' : DB),
      depOrdered p order seen = true → (∀ g, g ∈ order → g ∈ heads p) →
      execLoop allOff hash ord fuel p edb order acc last = .ok A acc' →
      (∀ r, r ∉ order → acc'.lookup r = acc.lookup r) ∧
      (∀ g, g ∈ order → ∃ ts, acc'.lookup g = some ts ∧
          OptMemEq (evalRules (lkOf edb acc') (clausesOf p g)) (some ts)) ∧
      (∀ g, order.getLast? = some g → acc'.lookup g = some A) := by
  intro order seen acc last A acc' hd hheads hrun
  refine ⟨execLoop_frame hrun, fun g hg => ?_, execLoop_last hrun⟩
  obtain ⟨accg, ts, hev, hl, _, hsc⟩ := execLoop_each rfl (depOrderedS_of_depOrdered hd) hheads hrun g hg
  have hns := depOrdered_not_self hd g hg (hheads g hg)
  rw [evalHead_allOff, if_neg (by simpa [selfRec] using hns), evalRulesM_eq hcf _ _ _ fun r hr => (mem_clausesOf.1 hr).1] at hev
  refine ⟨ts, hl, ?_⟩
  rw [← hev]
  exact evalRules_memEq hagg fun r hr => by
    rw [lkOf_congr edb accg acc' r (hsc r hr fun e => hns (e ▸ hr))]; exact MemEq.refl _

def sameRules (p p' : Program) : Prop := ∀ r, r ∈ p ↔ r ∈ p'

def sameRulesB (p p' : Program) : Bool := p.all p'.contains && p'.all p.contains

theorem sameRules_of_B {p p' : Program} (h : sameRulesB p p' = true) : sameRules p p' := by
  simp only [sameRulesB, Bool.and_eq_true, List.all_eq_true, List.contains_iff_mem] at h
  exact fun r => ⟨h.1 r, h.2 r⟩

theorem mem_heads {p : Program} {g : String} : g ∈ heads p ↔ ∃ r, r ∈ p ∧ r.hrel = g := by
  unfold heads
  rw [mem_firstOcc]
  simp [List.mem_map]

theorem sameRules_heads {p p' : Program} (h : sameRules p p') (g : String) : g ∈ heads p ↔ g ∈ heads p' := by
  simp only [mem_heads, h _]

theorem sameRules_evalRules {p p' : Program} (h : sameRules p p') (F : String → List Tuple) (g : String) :
    OptMemEq (evalRules F (clausesOf p g)) (evalRules F (clausesOf p' g)) :=
  evalRulesWith_sameRules _ fun r => by simp only [mem_clausesOf, h r]

theorem clauseFaithful_sameRules {p p' : Program} (h : sameRules p p') (hcf : ClauseFaithful p) : ClauseFaithful p' :=
  fun r hr lk => hcf r ((h r).2 hr) lk

/-- `F` is a supported model on `hs`: each head's content is what its clauses derive from `F`. -/
def Supported (p : Program) (F : String → List Tuple) (hs : List String) : Prop :=
  ∀ g, g ∈ hs → ∃ ts, evalRules F (clausesOf p g) = some ts ∧ MemEq (F g) ts

theorem supported_sameRules {p p' : Program} (h : sameRules p p') (F : String → List Tuple) (hs hs' : List String)
    (hsub : ∀ g, g ∈ hs → g ∈ hs') (hS : Supported p' F hs') : Supported p F hs := by
  intro g hg
  obtain ⟨ts, he, hm⟩ := hS g (hsub g hg)
  have := sameRules_evalRules h F g
  rw [he] at this
  obtain ⟨ts2, he2, hm2⟩ := this.of_some
  exact ⟨ts2, he2, hm.trans hm2.symm⟩

/-- Decidable description of the fragment, computed from the program with the model's own
    functions: the execution order the code chooses (`topoOrder`) lists every head after the heads
    it scans (hence no recursion), only heads are executed, heads have no stored facts, no
    aggregates, and the last executed head is the head of the last rule. -/
def inFragment (p : Program) (edb : DB) : Bool :=
  depOrdered p (execOrder p) [] &&
  (execOrder p).all (heads p).contains &&
  (heads p).all (fun h => (edb.get h).isEmpty) &&
  p.all (fun r => !r.hasAgg) &&
  ((execOrder p).getLast? == some (queryRel p))

theorem inFragment_parts {p : Program} {edb : DB} (hfrag : inFragment p edb = true) :
    depOrdered p (execOrder p) [] = true ∧ (∀ g, g ∈ execOrder p → g ∈ heads p) ∧
    (∀ h, h ∈ heads p → edb.get h = []) ∧ (∀ r, r ∈ p → r.hasAgg = false) ∧
    (execOrder p).getLast? = some (queryRel p) := by
  simp only [inFragment, Bool.and_eq_true, List.all_eq_true, beq_iff_eq, Bool.not_eq_true',
    List.isEmpty_iff, List.contains_iff_mem] at hfrag
  exact ⟨hfrag.1.1.1.1, hfrag.1.1.1.2, hfrag.1.1.2, hfrag.1.2, hfrag.2⟩

theorem heads_sub_execOrder (p : Program) : ∀ g, g ∈ heads p → g ∈ execOrder p := by
  intro g hg
  obtain ⟨i, hi, rfl⟩ := List.getElem_of_mem hg
  refine List.mem_map.2 ⟨i, ?_, by simp [hi]⟩
  unfold topoOrder
  simp only
  split
  · exact List.mem_range.2 hi
  · by_cases hl : i = (heads p).length - 1
    · simp [hl]
    · refine List.mem_append_left _ (List.mem_filter.2 ⟨?_, by simpa using hl⟩)
      rw [List.mem_append, List.mem_filter, List.mem_range]
      by_cases hk : i ∈ kahn ((List.range (heads p).length).map (depIdx p (heads p))) (heads p).length (heads p).length []
      · exact Or.inl hk
      · exact Or.inr ⟨hi, by simpa using hk⟩

end ILV.Engine
