/-
  For C13: the persist model's disk seen through `itemsAt` (the item list of a file, which is all any
  reader looks at), and what each FS operation / an as-is crash does to it.
-/
import ILV.Lemmas.Persist
namespace ILV.Persist
open ILV.FS

def itemsAt (d : Disk) (p : Path) : Option (List (Item Rec)) := (get d p).map File.items

theorem itemsAt_write (d : Disk) (p q : Path) (rs : List Rec) :
    itemsAt (apply d (.write p rs)) q = if p = q then some (rs.map .whole) else itemsAt d q := by
  by_cases h : p = q <;> simp [itemsAt, get_write, h, File.items]

theorem itemsAt_append (d : Disk) (p q : Path) (rs : List Rec) :
    itemsAt (apply d (.append p rs)) q =
      if p = q then some ((itemsAt d p).getD [] ++ rs.map .whole) else itemsAt d q := by
  by_cases h : p = q
  · subst h; cases hg : get d p <;> simp [itemsAt, get_append, hg, File.items]
  · simp [itemsAt, get_append, h]

theorem itemsAt_fsync (d : Disk) (p q : Path) : itemsAt (apply d (.fsync p)) q = itemsAt d q := by
  by_cases h : p = q
  · subst h; cases hg : get d p <;> simp [itemsAt, get_fsync, hg, File.items]
  · simp [itemsAt, get_fsync, h]

theorem itemsAt_rename (d : Disk) (a b q : Path) :
    itemsAt (apply d (.rename a b)) q =
      match itemsAt d a with
      | some x => if b = q then some x else if q = a then none else itemsAt d q
      | none => itemsAt d q := by
  cases h : get d a with
  | none => simp [itemsAt, get_rename, h]
  | some f => by_cases h1 : b = q <;> by_cases h2 : q = a <;> simp [itemsAt, get_rename, h, h1, h2]

theorem itemsAt_unlink (d : Disk) (p q : Path) :
    itemsAt (apply d (.unlink p)) q = if q = p then none else itemsAt d q := by
  by_cases h : q = p <;> simp [itemsAt, get_unlink, h]

theorem itemsAt_nop (d : Disk) (l : Nat) (q : Path) : itemsAt (apply d (.nop l)) q = itemsAt d q := rfl

theorem itemsAt_crash_noCut (d : Disk) (q : Path) : itemsAt (crash d noCut) q = itemsAt d q := by
  cases h : get d q <;> simp [itemsAt, get_crash, h, noCut, crashFile, File.items]

theorem itemsAt_saved (d : Disk) (tmp dst : Path) (rs : List Rec) :
    itemsAt (apply (apply (apply d (.write tmp rs)) (.fsync tmp)) (.rename tmp dst)) dst = some (rs.map .whole) := by
  rw [itemsAt_rename, itemsAt_fsync, itemsAt_write, if_pos rfl]
  exact if_pos rfl

theorem itemsAt_save_other (d : Disk) (tmp dst : Path) (rs : List Rec) (q : Path) (h1 : q ≠ tmp) (h2 : q ≠ dst) :
    itemsAt (apply (apply (apply d (.write tmp rs)) (.fsync tmp)) (.rename tmp dst)) q = itemsAt d q := by
  rw [itemsAt_rename, itemsAt_fsync, itemsAt_write, if_pos rfl]
  exact (if_neg (Ne.symm h2)).trans ((if_neg h1).trans (by rw [itemsAt_fsync, itemsAt_write, if_neg (Ne.symm h1)]))

theorem readDoc_eq (d : Disk) (p : Path) :
    readDoc d p = match itemsAt d p with
      | some [.whole r] => some r
      | _ => none := by
  simp only [readDoc, itemsAt]
  cases get d p with
  | none => rfl
  | some f => simp only [Option.map_some]; split <;> simp_all

theorem readAll_eq (d : Disk) :
    readAll d = match itemsAt d .wal with
      | none => some []
      | some is => walParse false is := by
  simp only [readAll, itemsAt]
  cases get d .wal <;> rfl

theorem isSome_get (d : Disk) (p : Path) : (get d p).isSome = (itemsAt d p).isSome := by
  simp [itemsAt]

theorem readBatch_congr {d d' : Disk} (id : Nat) (h : itemsAt d (.batch id) = itemsAt d' (.batch id)) :
    readBatch d id = readBatch d' id := by
  simp only [readBatch, readDoc_eq, h]

theorem readBatches_congr {d d' : Disk} (bs : List BatchRef)
    (h : ∀ b ∈ bs, itemsAt d (.batch b.id) = itemsAt d' (.batch b.id)) :
    readBatches d bs = readBatches d' bs := by
  induction bs with
  | nil => rfl
  | cons b rest ih =>
    simp only [readBatches]
    rw [readBatch_congr b.id (h b (by simp)), ih (fun x hx => h x (by simp [hx]))]

theorem mem_metaPaths (d : Disk) (f : Name) : f ∈ metaPaths d ↔ (itemsAt d (.smeta f)).isSome := by
  rw [← isSome_get, ← mem_paths]
  simp only [metaPaths, paths, List.mem_filterMap, List.mem_map]
  constructor
  · rintro ⟨⟨k, file⟩, he, hf⟩
    cases k <;> simp at hf
    exact ⟨_, he, by rw [hf]⟩
  · rintro ⟨e, he, hk⟩
    exact ⟨e, he, by simp [hk]⟩

end ILV.Persist
