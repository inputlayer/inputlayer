/-
  Comparison filters of the builder's plan vs the Spec's comparison literals, on integer data; the
  rows of the filtered join tree correspond to `DL.bodyEnvs`.
-/
import ILV.Lemmas.IRBuildVal
import ILV.Lemmas.Faithful
namespace ILV.IRBuild
open ILV ILV.IR

def IntRow (row : Tuple) : Prop := ∀ v ∈ row, ∃ n, v = Value.i64 n

/-- every stored value is an `Int64` (decidable form) -/
def intDb (db : Db) : Bool := db.all (fun rt => rt.2.all (fun t => t.all (fun v => match v with | .i64 _ => true | _ => false)))

theorem intDb_get {db : Db} (h : intDb db = true) (rel : String) : ∀ tup ∈ db.get rel, IntRow tup := by
  induction db with
  | nil => intro tup ht; cases ht
  | cons e db ih =>
    unfold intDb at h
    rw [List.all_cons, Bool.and_eq_true] at h
    unfold Db.get
    rw [List.lookup]
    split
    · intro tup ht v hv
      have hv := List.all_eq_true.1 (List.all_eq_true.1 h.1 tup ht) v hv
      cases v <;> first | exact ⟨_, rfl⟩ | cases hv
    · exact ih h.2

theorem joinRow_mem {lk rk : List Nat} {a b x : Tuple} (h : joinRow lk rk a b = some x) : ∀ v ∈ x, v ∈ a ∨ v ∈ b := by
  unfold joinRow at h
  split at h
  · simp only [Option.some.injEq] at h; subst h
    intro v hv; simpa using hv
  · split at h
    · simp only [Option.some.injEq] at h; subst h
      intro v hv
      rcases List.mem_append.1 hv with hv | hv
      · exact Or.inl hv
      · right
        unfold excluding at hv; rw [excludingAux_eq_exclG] at hv
        exact mem_of_mem_exclG _ 0 b v hv
    · simp at h

theorem intRows_setPlan {db : Db} (hdb : intDb db = true) : ∀ t, isSetPlan t = true → ∀ row ∈ eval db t, IntRow row :=
  setPlan_induction (fun rel _ row hr => intDb_get hdb rel row hr)
    (fun _ _ ih row hr => ih row (List.mem_filter.1 hr).1)
    (fun _ _ _ _ _ ihl ihr row hr v hv => by
      obtain ⟨a, ha, b, hb, e⟩ := mem_joinRows hr
      exact (joinRow_mem e v hv).elim (ihl a ha v) (ihr b hb v))

theorem F2.and_mem {α β} {R : α → β → Prop} {P : α → Prop} {L : List α} {E : List β}
    (h : F2 R L E) (hp : ∀ l ∈ L, P l) : F2 (fun l e => R l e ∧ P l) L E := by
  induction h with
  | nil => exact F2.nil
  | cons hr _ ih => exact F2.cons ⟨hr, hp _ (by simp)⟩ (ih (fun l hl => hp l (by simp [hl])))

theorem F2.mono {α β} {R R' : α → β → Prop} {L : List α} {E : List β} (h : F2 R L E) (hr : ∀ l e, R l e → R' l e) : F2 R' L E := by
  induction h with
  | nil => exact F2.nil
  | cons h1 _ ih => exact F2.cons (hr _ _ h1) ih

theorem eval_wrapFilters (db : Db) : ∀ (ps : List Pred) (t : Node),
    eval db (wrapFilters t ps) = (eval db t).filter (fun row => ps.all (fun p => p.eval row))
  | [], t => by simp [wrapFilters]
  | p :: ps, t => by
    simp only [wrapFilters, eval_wrapFilters db ps (.filter t p), eval, List.filter_filter, List.all_cons]
    congr 1; funext row; rw [Bool.and_comm]

theorem schema_wrapFilters : ∀ (ps : List Pred) (t : Node), schema (wrapFilters t ps) = schema t
  | [], _ => rfl
  | p :: ps, t => by simp [wrapFilters, schema_wrapFilters ps (.filter t p), schema]

theorem isSetPlan_wrapFilters : ∀ (ps : List Pred) (t : Node), isSetPlan t = true → isSetPlan (wrapFilters t ps) = true
  | [], _, h => h
  | p :: ps, t, h => isSetPlan_wrapFilters ps (.filter t p) (by simpa [isSetPlan] using h)

theorem i64_beq (m n : Int) : (Value.i64 m == Value.i64 n) = (m == n) := by
  rw [Bool.eq_iff_iff]; simp

theorem cmpHolds_int (op : DL.CmpOp) (m n : Int) : DL.cmpHolds op (.i64 m) (.i64 n) = cmpInt (cmpOf op) m n := by
  cases op with
  | eq => exact i64_beq m n
  | ne => exact congrArg (!·) (i64_beq m n)
  | lt =>
    show (compare m n == .lt) = decide (m < n)
    rw [Bool.eq_iff_iff, beq_iff_eq, decide_eq_true_iff, Int.compare_eq_lt]
  | le =>
    show (compare m n != .gt) = decide (m ≤ n)
    rw [Bool.eq_iff_iff, bne_iff_ne, decide_eq_true_iff, Ne, Int.compare_eq_gt, Int.not_lt]
  | gt =>
    show (compare m n == .gt) = decide (n < m)
    rw [Bool.eq_iff_iff, beq_iff_eq, decide_eq_true_iff, Int.compare_eq_gt]
  | ge =>
    show (compare m n != .lt) = decide (n ≤ m)
    rw [Bool.eq_iff_iff, bne_iff_ne, decide_eq_true_iff, Ne, Int.compare_eq_lt, Int.not_lt]

theorem cmpInt_swap (op : DL.CmpOp) (m n : Int) : cmpInt (cmpOf op) n m = cmpInt (cmpSwap op) m n := by
  cases op with
  | eq => exact Bool.beq_comm
  | ne => exact congrArg (!·) Bool.beq_comm
  | lt | le | gt | ge => rfl

theorem Inv.intCol {V sch : List String} {row : Tuple} {env : DL.Env} (hinv : Inv V sch row env) (hint : IntRow row)
    {x : String} {i : Nat} (hi : firstIdx x sch 0 = some i) (hx : x ∈ V) :
    ∃ m, row[i]? = some (.i64 m) ∧ env.lookup x = some (.i64 m) := by
  obtain ⟨v, hr, he⟩ := hinv.col (firstIdx_zero_some hi) hx
  obtain ⟨m, rfl⟩ := hint v (List.mem_of_getElem? hr)
  exact ⟨m, hr, he⟩

theorem eval_cc_int {row : Tuple} {i : Nat} {m : Int} (h : row[i]? = some (.i64 m)) (op : CmpOp) (n : Int) :
    (Pred.cc op i n).eval row = cmpInt op m n := by
  simp only [Pred.eval, Pred.evalG, h, asI64]

theorem eval_kk_int {row : Tuple} {i j : Nat} {m n : Int} (hi : row[i]? = some (.i64 m)) (hj : row[j]? = some (.i64 n))
    (op : CmpOp) : (Pred.kk op i j).eval row = cmpInt op m n := by
  cases op with
  | eq | ne => simp [Pred.eval, Pred.evalG, hi, hj, cmpInt, i64_beq, bne]
  | lt | le | gt | ge => simp only [Pred.eval, Pred.evalG, hi, hj, asI64]

theorem holds_int {env : DL.Env} {l r : DL.Expr} {a b : Int} (hl : l.evalVal env = some (.i64 a))
    (hr : r.evalVal env = some (.i64 b)) (op : DL.CmpOp) : DL.Cmp.holds env (op, l, r) = cmpInt (cmpOf op) a b := by
  simp only [DL.Cmp.holds, hl, hr, cmpHolds_int]

theorem cmpPred_agree {V sch : List String} {row : Tuple} {env : DL.Env} (hinv : Inv V sch row env) (hint : IntRow row)
    (c : DL.CmpOp × DL.Expr × DL.Expr) (p : Pred) (hp : cmpPred sch c = some p) (hV : ∀ x ∈ DL.Cmp.vars c, x ∈ V) :
    p.eval row = DL.Cmp.holds env c ∧ (∀ x ∈ DL.Cmp.vars c, (env.lookup x).isSome = true) := by
  unfold cmpPred at hp
  split at hp
  · next op x y =>
    split at hp
    · next i j hi hj =>
      cases hp
      obtain ⟨m, r1, e1⟩ := hinv.intCol hint hi (hV x List.mem_cons_self)
      obtain ⟨n, r2, e2⟩ := hinv.intCol hint hj (hV y (List.mem_cons_of_mem _ List.mem_cons_self))
      refine ⟨(eval_kk_int r1 r2 _).trans (holds_int (l := .var x) (r := .var y) e1 e2 op).symm, fun z hz => ?_⟩
      rcases List.mem_cons.1 hz with rfl | hz
      · rw [e1]; rfl
      · cases List.mem_singleton.1 hz; rw [e2]; rfl
    · cases hp
  · next op x n =>
    obtain ⟨i, hi, rfl⟩ := Option.map_eq_some_iff.1 hp
    obtain ⟨m, r1, e1⟩ := hinv.intCol hint hi (hV x List.mem_cons_self)
    refine ⟨(eval_cc_int r1 _ n).trans (holds_int (l := .var x) (r := .const n) e1 rfl op).symm, fun z hz => ?_⟩
    cases List.mem_singleton.1 hz; rw [e1]; rfl
  · next op n x =>
    obtain ⟨i, hi, rfl⟩ := Option.map_eq_some_iff.1 hp
    obtain ⟨m, r1, e1⟩ := hinv.intCol hint hi (hV x List.mem_cons_self)
    refine ⟨(eval_cc_int r1 _ n).trans ((cmpInt_swap op m n).symm.trans (holds_int (l := .const n) (r := .var x) rfl e1 op).symm), fun z hz => ?_⟩
    cases List.mem_singleton.1 hz; rw [e1]; rfl
  · cases hp

theorem specCmps_of_bound (cs : List DL.Cmp) (envs : List DL.Env)
    (h : ∀ env ∈ envs, ∀ c ∈ cs, ∀ x ∈ DL.Cmp.vars c, (env.lookup x).isSome = true) :
    DL.specCmps cs envs = envs.filter (fun env => cs.all (DL.Cmp.holds env)) := by
  unfold DL.specCmps
  have h1 : envs.map (DL.iter (DL.bindRound cs) cs.length) = envs := by
    conv => rhs; rw [← List.map_id envs]
    apply List.map_congr_left
    intro env he
    exact Engine.iter_id _ env (Engine.bindRound_id cs env fun c hc => List.all_eq_true.2 (h env he c hc)) _
  rw [h1]
  congr 1
  apply List.filter_eq_self.2
  intro env he
  simp only [List.all_eq_true, DL.bound]
  exact fun c hc x hx => h env he c hc x hx

/-- the plan `buildRule` puts below the head operator -/
def bodyPlan (r : DL.Rule) : Option Node :=
  if r.body.any isNegLit then none else
  match posAtoms 0 r.body with
  | [] => none
  | (bi, a) :: rest =>
    match buildScan bi a with
    | none => none
    | some s0 =>
      match buildJoins s0 rest with
      | none => none
      | some j =>
        match optMapM (cmpPred (schema j)) r.cmps with
        | none => none
        | some ps => some (wrapFilters j ps)

theorem buildRule_eq (r : DL.Rule) : buildRule r = (bodyPlan r).bind (fun b => buildHead b r.hargs) := by
  unfold buildRule bodyPlan
  by_cases h : r.body.any isNegLit = true
  · simp [h]
  · simp only [h, Bool.false_eq_true, if_false]
    cases posAtoms 0 r.body with
    | nil => rfl
    | cons p rest =>
      obtain ⟨bi, a⟩ := p
      simp only
      cases buildScan bi a with
      | none => rfl
      | some s0 =>
        simp only
        cases buildJoins s0 rest with
        | none => rfl
        | some j =>
          simp only
          cases optMapM (cmpPred (schema j)) r.cmps with
          | none => rfl
          | some ps => rfl

/- `DL.Rule.posAtoms` is a function of the rule's body only; it is stated here for the rule with that body
   and empty head, and unfolds to the same `filterMap` for any rule. -/
theorem posAtoms_map_snd : ∀ (i : Nat) (body : List DL.Lit),
    (posAtoms i body).map (·.2) = DL.Rule.posAtoms { hrel := "", hargs := [], body := body }
  | _, [] => rfl
  | i, .pos a :: ls => congrArg (a :: ·) (posAtoms_map_snd (i + 1) ls)
  | i, .neg _ :: ls => posAtoms_map_snd (i + 1) ls
  | i, .cmp .. :: ls => posAtoms_map_snd (i + 1) ls

theorem cmps_agree {V sch : List String} {row : Tuple} {env : DL.Env} (hi : Inv V sch row env) (hir : IntRow row)
    {cs : List DL.Cmp} {ps : List Pred} (h : F2 (fun c p => cmpPred sch c = some p) cs ps)
    (hcV : ∀ c ∈ cs, ∀ x ∈ DL.Cmp.vars c, x ∈ V) :
    (ps.all (fun p => p.eval row) = cs.all (DL.Cmp.holds env)) ∧
    (∀ c ∈ cs, ∀ x ∈ DL.Cmp.vars c, (env.lookup x).isSome = true) := by
  induction h with
  | nil => exact ⟨rfl, fun _ hc => nomatch hc⟩
  | cons hcp _ ih =>
    have h1 := cmpPred_agree hi hir _ _ hcp (hcV _ List.mem_cons_self)
    have h2 := ih (fun c' hc' => hcV c' (List.mem_cons_of_mem _ hc'))
    refine ⟨by rw [List.all_cons, List.all_cons, h1.1, h2.1], fun c' hc' => ?_⟩
    rcases List.mem_cons.1 hc' with rfl | hc'
    · exact h1.2
    · exact h2.2 c' hc'

theorem optMapM_spec {α β} (f : α → Option β) : ∀ (l : List α) (r : List β), optMapM f l = some r →
    F2 (fun a b => f a = some b) l r
  | [], r, h => by simp only [optMapM, Option.some.injEq] at h; subst h; exact F2.nil
  | a :: l, r, h => by
    simp only [optMapM] at h
    cases hf : f a with
    | none => simp [hf] at h
    | some b =>
      cases hl : optMapM f l with
      | none => simp [hf, hl] at h
      | some bs =>
        simp only [hf, hl, Option.some.injEq] at h; subst h
        exact F2.cons hf (optMapM_spec f l bs hl)

theorem isSetPlan_buildJoins : ∀ (rest : List (Nat × DL.Atom)) (cur t : Node),
    isSetPlan cur = true → (∀ p ∈ rest, plainArgs p.2.args [] = true) → buildJoins cur rest = some t → isSetPlan t = true
  | [], cur, t, h, _, ht => by simp only [buildJoins, Option.some.injEq] at ht; subst ht; exact h
  | (bi, a) :: rest, cur, t, h, hp, ht => by
    simp only [buildJoins, buildScan_plain bi a (hp (bi, a) (by simp))] at ht
    have hc : isSetPlan (buildJoin cur (.scan a.rel (scanNames a.rel bi 0 a.args))) = true :=
      show (isSetPlan cur && true) = true by rw [h]; rfl
    exact isSetPlan_buildJoins rest _ t hc
      (fun p hp' => hp p (List.mem_cons_of_mem _ hp')) ht

theorem atomsOk_plain {db : Db} {V : List String} : ∀ (sch : List String) (l : List (Nat × DL.Atom)),
    atomsOk db V sch l = true → ∀ p ∈ l, plainArgs p.2.args [] = true
  | _, [], _, p, hp => by simp at hp
  | sch, (bi, a) :: rest, h, p, hp => by
    simp only [atomsOk, Bool.and_eq_true] at h
    rcases List.mem_cons.1 hp with rfl | hp
    · exact h.1.1.1.1
    · exact atomsOk_plain _ rest h.2 p hp

/-- side conditions of the valuation theorem (decidable): no negation; plain positive atoms over
    relations of the right arity with fresh generated column names; comparisons between bound
    variables and integer constants; integer data. `V` = the variables of the positive atoms. -/
def ruleOk (db : Db) (r : DL.Rule) : Bool :=
  !r.body.any isNegLit && atomsOk db r.posVars [] (posAtoms 0 r.body) && intDb db
    && r.cmps.all (fun c => (DL.Cmp.vars c).all r.posVars.contains)

theorem negAtoms_nil {r : DL.Rule} (h : r.body.any isNegLit = false) : r.negAtoms = [] := by
  unfold DL.Rule.negAtoms
  rw [List.filterMap_eq_nil_iff]
  intro l hl
  cases l with
  | neg _ => exact absurd (List.any_eq_false.1 h _ hl) (by simp [isNegLit])
  | pos _ => rfl
  | cmp _ _ _ => rfl

theorem body_rows_envs (db : Db) (r : DL.Rule) (B : Node) (hok : ruleOk db r = true) (hB : bodyPlan r = some B) :
    F2 (fun row env => Inv r.posVars (schema B) row env ∧ IntRow row) (eval db B) (DL.bodyEnvs db.get r) := by
  simp only [ruleOk, Bool.and_eq_true, Bool.not_eq_true'] at hok
  obtain ⟨⟨⟨hneg, hatoms⟩, hint⟩, hcmps⟩ := hok
  unfold bodyPlan at hB
  simp only [hneg, Bool.false_eq_true, if_false] at hB
  cases hpa : posAtoms 0 r.body with
  | nil => simp [hpa] at hB
  | cons p rest =>
    obtain ⟨bi, a⟩ := p
    rw [hpa] at hatoms
    have hplain := atomsOk_plain _ _ hatoms
    obtain ⟨hfirst, hrest⟩ := scan_rows_envs db r.posVars hatoms
    simp only [hpa, buildScan_plain bi a (hplain (bi, a) List.mem_cons_self)] at hB
    cases hj : buildJoins (.scan a.rel (scanNames a.rel bi 0 a.args)) rest with
    | none => simp [hj] at hB
    | some J =>
      simp only [hj] at hB
      cases hps : optMapM (cmpPred (schema J)) r.cmps with
      | none => simp [hps] at hB
      | some ps =>
        simp only [hps, Option.some.injEq] at hB; subst hB
        have hall := joins_rows_envs db r.posVars rest (.scan a.rel (scanNames a.rel bi 0 a.args)) _ hrest hfirst J hj
        have hE : DL.evalPos db.get r.posAtoms [[]] =
            DL.evalPos db.get (rest.map (·.2)) ((db.get a.rel).filterMap (fun t => DL.matchArgs a.args t [])) := by
          have hpos : r.posAtoms = a :: rest.map (·.2) := by
            have h0 : r.posAtoms = DL.Rule.posAtoms { hrel := "", hargs := [], body := r.body } := rfl
            rw [h0, ← posAtoms_map_snd 0 r.body, hpa]; rfl
          rw [hpos]; simp [DL.evalPos]
        have hall2 := F2.and_mem hall (intRows_setPlan hint J
          (isSetPlan_buildJoins rest _ J rfl (fun p hp => hplain p (List.mem_cons_of_mem _ hp)) hj))
        have hagree : ∀ row env, (Inv r.posVars (schema J) row env ∧ IntRow row) →
            (ps.all (fun p => p.eval row) = r.cmps.all (DL.Cmp.holds env)) ∧
            (∀ c ∈ r.cmps, ∀ x ∈ DL.Cmp.vars c, (env.lookup x).isSome = true) :=
          fun row env hr => cmps_agree hr.1 hr.2 (optMapM_spec _ _ _ hps)
            (fun c hc x hx => by simpa using List.all_eq_true.1 (List.all_eq_true.1 hcmps c hc) x hx)
        have hbound : ∀ env ∈ DL.evalPos db.get r.posAtoms [[]], ∀ c ∈ r.cmps, ∀ x ∈ DL.Cmp.vars c,
            (env.lookup x).isSome = true := fun env he => by
          obtain ⟨row, _, hr⟩ := F2.exists_left hall2 env (hE ▸ he)
          exact (hagree row env hr).2
        unfold DL.bodyEnvs
        rw [negAtoms_nil hneg, specCmps_of_bound r.cmps _ hbound, hE]
        simp only [DL.evalNegs, List.all_nil, filter_const_true, eval_wrapFilters, schema_wrapFilters]
        exact forall2_filter _ _ hall2 (fun row env hr => (hagree row env hr).1)

end ILV.IRBuild
