/-
  Association lists of the storage model (`aget` / `aset` of ILV.Model.Store): lookup after an update,
  key sets, and lookup through `map` / `filter` / `filterMap` when keys are pairwise different.
-/
import ILV.Model.Store
namespace ILV.Store

def keys {β} (m : List (String × β)) : List String := m.map (·.1)

theorem aget_aset {β} (m : List (String × β)) (k k' : String) (v : β) :
    aget (aset m k v) k' = if k' = k then some v else aget m k' := by
  induction m with
  | nil =>
    by_cases h : k' = k
    · simp only [aset, aget, h, if_true]
    · simp only [aset, aget, h, if_false, if_neg (Ne.symm h)]
  | cons p m ih =>
    obtain ⟨a, b⟩ := p
    by_cases hk : a = k
    · subst hk
      by_cases h : k' = a
      · simp only [aset, aget, h, if_true]
      · simp only [aset, aget, h, if_false, if_true, if_neg (Ne.symm h)]
    · by_cases h : a = k'
      · simp only [aset, aget, hk, h, if_false, if_true, if_neg (fun e => hk (h.trans e))]
      · simp only [aset, aget, hk, h, if_false, ih]

/-- lookup with a default, the form in which the model reads shards and relations. -/
theorem getD_aget_aset {β} {m : List (String × β)} {k k' : String} {v d : β} :
    (aget (aset m k v) k').getD d = if k' = k then v else (aget m k').getD d := by
  rw [aget_aset]; split <;> rfl

theorem isSome_aget_aset {β} {m : List (String × β)} {k k' : String} (v : β) (h : (aget m k').isSome ∨ k' = k) :
    (aget (aset m k v) k').isSome := by
  rw [aget_aset]
  split
  · rfl
  · next hk => exact h.resolve_right hk

theorem keys_aset {β} (m : List (String × β)) (k : String) (v : β) :
    keys (aset m k v) = if k ∈ keys m then keys m else keys m ++ [k] := by
  induction m with
  | nil => rfl
  | cons p m ih =>
    obtain ⟨a, b⟩ := p
    by_cases hk : a = k
    · simp only [aset, keys, hk, if_true, List.map_cons, List.mem_cons, true_or]
    · have hm : (k ∈ keys ((a, b) :: m)) ↔ k ∈ keys m := by
        simp only [keys, List.map_cons, List.mem_cons, Ne.symm hk, false_or]
      simp only [aset, hk, if_false, hm]
      show a :: keys (aset m k v) = _
      rw [ih]
      by_cases hm : k ∈ keys m
      · rw [if_pos hm, if_pos hm]; rfl
      · rw [if_neg hm, if_neg hm]; rfl

theorem keys_nodup_aset {β} {m : List (String × β)} {k : String} {v : β} (h : (keys m).Nodup) :
    (keys (aset m k v)).Nodup := by
  rw [keys_aset]
  split
  · exact h
  · next hk =>
    refine List.nodup_append.2 ⟨h, List.nodup_cons.2 ⟨List.not_mem_nil, List.nodup_nil⟩, fun a ha b hb e => hk ?_⟩
    rw [← List.mem_singleton.1 hb, ← e]; exact ha

theorem aget_none_of_not_mem {β} {m : List (String × β)} {k : String} (h : k ∉ keys m) : aget m k = none := by
  induction m with
  | nil => rfl
  | cons p m ih =>
    simp only [keys, List.map_cons, List.mem_cons, not_or] at h
    simp only [aget, if_neg (fun e => h.1 (Eq.symm e))]
    exact ih h.2

theorem aget_isSome_of_mem_keys {β} {m : List (String × β)} {k : String} (h : k ∈ keys m) : (aget m k).isSome := by
  induction m with
  | nil => cases h
  | cons p m ih =>
    simp only [aget]
    split
    · rfl
    · next hp =>
      simp only [keys, List.map_cons, List.mem_cons] at h
      exact ih (h.resolve_left (fun e => hp e.symm))

theorem aget_some_mem {β} (m : List (String × β)) (k : String) (v : β) (h : aget m k = some v) : (k, v) ∈ m := by
  induction m with
  | nil => cases h
  | cons p m ih =>
    simp only [aget] at h
    split at h
    · next hk => cases h; exact hk ▸ List.mem_cons_self
    · exact List.mem_cons_of_mem _ (ih h)

theorem keys_map {β γ} (m : List (String × β)) (f : β → γ) : keys (m.map (fun p => (p.1, f p.2))) = keys m := by
  simp only [keys, List.map_map, Function.comp_def]

theorem aget_map {β γ} (m : List (String × β)) (f : β → γ) (k : String) :
    aget (m.map (fun p => (p.1, f p.2))) k = (aget m k).map f := by
  induction m with
  | nil => rfl
  | cons p m ih => simp only [List.map_cons, aget, ih]; split <;> rfl

theorem aget_filterMap {β γ} (m : List (String × β)) (f : β → Option γ) (k : String) (h : (keys m).Nodup) :
    aget (m.filterMap (fun p => (f p.2).map (fun a => (p.1, a)))) k = (aget m k).bind f := by
  induction m with
  | nil => rfl
  | cons p m ih =>
    simp only [keys, List.map_cons, List.nodup_cons] at h
    by_cases hk : p.1 = k
    · have hn : aget m p.1 = none := aget_none_of_not_mem h.1
      subst hk
      cases hf : f p.2 <;> simp [List.filterMap_cons, hf, aget, ih h.2, hn]
    · cases hf : f p.2 <;> simp [List.filterMap_cons, hf, aget, hk, ih h.2]

theorem aget_filter {β} (m : List (String × β)) (q : β → Bool) (k : String) (h : (keys m).Nodup) :
    aget (m.filter (fun p => q p.2)) k = (aget m k).filter q := by
  induction m with
  | nil => rfl
  | cons p m ih =>
    simp only [keys, List.map_cons, List.nodup_cons] at h
    by_cases hk : p.1 = k
    · have hn : aget m p.1 = none := aget_none_of_not_mem h.1
      subst hk
      cases hq : q p.2 <;> simp [List.filter_cons, hq, aget, ih h.2, hn, Option.filter]
    · cases hq : q p.2 <;> simp [List.filter_cons, hq, aget, hk, ih h.2]

end ILV.Store
