/-
  Arithmetic of C09.  The parser splits a token list at the right-most top-level operator of the level
  it reads at (`+ -`, then `* / %`, then a primary); the printer parenthesises an operand exactly when
  it would not survive being read at the level of its position.  `printAt lvl e` names "`e` as printed
  for a position read at `lvl`", and the round trip is one statement for all levels
  (`parse_printAt`).  The scans pass over printed sub-expressions as closed units: `Inert` for the
  operator scan `findSplit`, `MInert` for the parenthesis matcher `matchedAux`.
-/
import ILV.Model.RuleText
namespace ILV.RText

/-- the level whose split takes the operator -/
def AOp.lvl (op : AOp) : Lvl := if op.isAdd then .add else .mul

abbrev Lvl.next : Lvl → Lvl
  | .add => .mul
  | _ => .prim

abbrev Lvl.want : Lvl → AOp → Bool
  | .add => AOp.isAdd
  | _ => fun o => !o.isAdd

theorem AOp.lvl_of_isAdd {op : AOp} (h : op.isAdd = true) : op.lvl = .add := if_pos h

theorem AOp.lvl_of_not_isAdd {op : AOp} (h : op.isAdd = false) : op.lvl = .mul :=
  if_neg (by rw [h]; exact Bool.false_ne_true)

theorem AOp.lvl_ne_prim (op : AOp) : op.lvl ≠ .prim := by cases op <;> decide

theorem AOp.want_lvl (op : AOp) : op.lvl.want op = true := by cases op <;> rfl

theorem parseA_split (f : Nat) (ts : List Tok) : ∀ {lvl : Lvl}, lvl ≠ .prim → parseA (f + 1) lvl ts =
    (match findSplit lvl.want ts.reverse 0 [] with
     | some (l, o, r) =>
       match parseA f lvl l, parseA f lvl.next r with
       | some a, some b => some (.bin o a b)
       | _, _ => none
     | none => parseA f lvl.next ts)
  | .add, _ => rfl
  | .mul, _ => rfl
  | .prim, h => absurd rfl h

theorem parseA_prim (f : Nat) (ts : List Tok) : parseA (f + 1) .prim ts =
    (match unparen ts with
     | some inner => parseA f .add inner
     | none =>
       match ts with
       | [.int n] => some (.const n)
       | [.fint _ n] => some (.const n)
       | [.flt x] => if x.finite then some (.flt x) else none
       | [.ident s] => some (.var s)
       | _ => none) := rfl

theorem parseA_mono : ∀ (f : Nat) (lvl : Lvl) (ts : List Tok) (e : AExpr),
    parseA f lvl ts = some e → parseA (f + 1) lvl ts = some e := by
  intro f
  induction f with
  | zero => intro lvl ts e h; cases h
  | succ f ih =>
    intro lvl ts e h
    by_cases hp : lvl = .prim
    · subst hp
      rw [parseA_prim] at h ⊢
      cases hu : unparen ts with
      | some inner => rw [hu] at h; exact ih _ _ _ h
      | none => rw [hu] at h; exact h
    · rw [parseA_split _ _ hp] at h ⊢
      cases hs : findSplit lvl.want ts.reverse 0 [] with
      | none => rw [hs] at h; exact ih _ _ _ h
      | some x =>
        obtain ⟨l, o, r⟩ := x
        simp only [hs] at h ⊢
        cases hl : parseA f lvl l with
        | none => rw [hl] at h; cases h
        | some a =>
          cases hr : parseA f lvl.next r with
          | none => rw [hl, hr] at h; cases h
          | some b => rw [hl, hr] at h; rw [ih _ _ _ hl, ih _ _ _ hr]; exact h

theorem parseA_mono_le {f g : Nat} (hfg : f ≤ g) {lvl : Lvl} {ts : List Tok} {e : AExpr}
    (h : parseA f lvl ts = some e) : parseA g lvl ts = some e := by
  induction hfg with
  | refl => exact h
  | step _ ih => exact parseA_mono _ _ _ _ ih

/-- tokens that terms are made of besides brackets and commas -/
def Tok.wordTok : Tok → Bool
  | .ident _ | .int _ | .flt _ | .fint _ _ | .str _ | .op _ | .bang => true
  | _ => false

theorem floatTok_rec {P : Tok → Prop} (f : FloatLit) (hi : ∀ n, P (.fint f n)) (hf : P (.flt f)) :
    P (floatTok f) := by
  unfold floatTok; split
  · exact hi _
  · exact hf

theorem floatTok_word (f : FloatLit) : (floatTok f).wordTok = true :=
  floatTok_rec (P := fun t => t.wordTok = true) f (fun _ => rfl) rfl

theorem floatTok_stable {f : FloatLit} (h : f.stable = true) : floatTok f = .flt f := by
  unfold FloatLit.stable at h
  unfold floatTok
  split
  · rename_i hp; rw [hp] at h; cases h
  · rfl

theorem wrapIf_induction {P : List Tok → Prop} (par : ∀ a, P a → P (paren a)) {ts : List Tok} (h : P ts) :
    ∀ b, P (wrapIf b ts)
  | true => par _ h
  | false => h

/-- printed arithmetic is generated from word tokens by `++` and `paren`: whatever such lists have in
    common (being passed over by a scan, not containing some token) is proved through this. -/
theorem printArith_induction {P : List Tok → Prop} (tok : ∀ t, t.wordTok = true → P [t])
    (app : ∀ a b, P a → P b → P (a ++ b)) (par : ∀ a, P a → P (paren a)) (e : AExpr) : P (printArith e) := by
  induction e with
  | var s => exact tok _ rfl
  | const n => exact tok _ rfl
  | flt f => exact tok _ (floatTok_word f)
  | bin op l r ihl ihr =>
    exact app _ _ (wrapIf_induction par ihl _) (app [Tok.op op] _ (tok _ rfl) (wrapIf_induction par ihr _))

theorem sciTail_false_of_not_digit (s : String) (h : startsWithDigit s = false) : sciTail s = false := by
  unfold sciTail
  unfold startsWithDigit at h
  cases hl : s.toList with
  | nil => rfl
  | cons c cs =>
    have h : (c.isDigit || c == '.') = false := by rwa [hl] at h
    rw [List.reverse_cons]
    cases cs.reverse with
    | nil => rfl
    | cons x xs =>
      cases hx : xs ++ [c] with
      | nil => simp at hx
      | cons c2 rest =>
        have : (c2 :: rest).all (fun c => c.isDigit || c == '.') = false := by
          rw [← hx, List.all_append, List.all_cons, h, Bool.false_and, Bool.and_false]
        simp [hx, this]

/-- the last token of an operand: it ends an operand, and it is no `1e` if the leaves are well-formed. -/
def EndsWell (ok : Bool) (t : Tok) : Prop := t.endsOperand = true ∧ (ok = true → t.sciBefore = false)

theorem wrapIf_snoc {ok : Bool} {ts : List Tok} (h : ∃ us t, ts = us ++ [t] ∧ EndsWell ok t) :
    ∀ b, ∃ us t, wrapIf b ts = us ++ [t] ∧ EndsWell ok t
  | true => ⟨Tok.lp :: ts, Tok.rp, rfl, rfl, fun _ => rfl⟩
  | false => h

theorem printArith_snoc (e : AExpr) : ∃ us t, printArith e = us ++ [t] ∧ EndsWell e.leavesOk t := by
  induction e with
  | var s =>
    exact ⟨[], _, rfl, rfl, fun h => sciTail_false_of_not_digit s (by simpa [AExpr.leavesOk] using h)⟩
  | const n => exact ⟨[], _, rfl, rfl, fun _ => rfl⟩
  | flt f =>
    exact ⟨[], _, rfl, floatTok_rec (P := EndsWell _) f (fun _ => ⟨rfl, fun _ => rfl⟩) ⟨rfl, fun _ => rfl⟩⟩
  | bin op l r _ ihr =>
    obtain ⟨us, t, h, ht⟩ := wrapIf_snoc ihr (needParenR op r)
    refine ⟨wrapIf (needParenL op l) (printArith l) ++ Tok.op op :: us, t, by rw [printArith, h]; simp, ht.1, ?_⟩
    intro hok
    rw [AExpr.leavesOk, Bool.and_eq_true] at hok
    exact ht.2 hok.2

theorem printArith_ne_nil (e : AExpr) : printArith e ≠ [] := by
  obtain ⟨us, t, h, _⟩ := printArith_snoc e
  rw [h]; simp

/-- `ts` is passed over by the scan at depth `d` for the wanted operators `want`. -/
def Inert (want : AOp → Bool) (ts : List Tok) (d : Nat) : Prop :=
  ∀ rest right, findSplit want (ts.reverse ++ rest) d right = findSplit want rest d (ts ++ right)

theorem Inert.append {want : AOp → Bool} {a b : List Tok} {d : Nat}
    (ha : Inert want a d) (hb : Inert want b d) : Inert want (a ++ b) d := by
  intro rest right
  rw [List.reverse_append, List.append_assoc, hb, ha, List.append_assoc]

theorem Inert.wrap {want : AOp → Bool} {a : List Tok} {d : Nat}
    (ha : Inert want a (d + 1)) : Inert want (paren a) d := by
  intro rest right
  have h1 : (paren a).reverse ++ rest = Tok.rp :: (a.reverse ++ Tok.lp :: rest) := by
    simp [paren]
  rw [h1, findSplit, ha, findSplit]
  simp [paren]

/-- a token that is neither a parenthesis nor an operator -/
def Tok.plain : Tok → Bool
  | .lp | .rp | .op _ => false
  | _ => true

theorem Inert.single {want : AOp → Bool} {t : Tok} {d : Nat} (ht : t.plain = true) : Inert want [t] d := by
  intro rest right
  cases t <;> first | rfl | cases ht

theorem Inert.op_unwanted {want : AOp → Bool} {o : AOp} {d : Nat} (h : want o = false) :
    Inert want [Tok.op o] d := by
  intro rest right
  simp [findSplit, h]

theorem Inert.word_deep {want : AOp → Bool} {t : Tok} {d : Nat} (h : t.wordTok = true) :
    Inert want [t] (d + 1) := by
  intro rest right
  cases t <;> first | rfl | cases h

theorem inert_deep (want : AOp → Bool) (e : AExpr) (d : Nat) : Inert want (printArith e) (d + 1) :=
  printArith_induction (P := fun ts => ∀ d, Inert want ts (d + 1)) (fun _ h _ => Inert.word_deep h)
    (fun _ _ ha hb d => (ha d).append (hb d)) (fun _ ha d => (ha (d + 1)).wrap) e d

theorem inert_paren (want : AOp → Bool) (e : AExpr) : Inert want (paren (printArith e)) 0 :=
  (inert_deep want e 0).wrap

theorem parseA_next (lvl : Lvl) {ts : List Tok} (hp : lvl ≠ .prim) (h : Inert lvl.want ts 0) (f : Nat) :
    parseA (f + 1) lvl ts = parseA f lvl.next ts := by
  have hnone := h [] []
  rw [List.append_nil, findSplit] at hnone
  rw [parseA_split _ _ hp, hnone]

theorem acceptOp_cons (o : AOp) (t r : Tok) (ts rs : List Tok) :
    acceptOp o (t :: ts) (r :: rs) = opSeen o (some t) := by
  cases o <;> rfl

theorem opSeen_of {o : AOp} {t : Tok} (he : t.endsOperand = true) (hs : o.isAdd = true → t.sciBefore = false) :
    opSeen o (some t) = true := by
  cases o with
  | add => simp only [opSeen, hs rfl]; rfl
  | sub => simp only [opSeen, hs rfl, he]; rfl
  | _ => rfl

theorem findSplit_at {want : AOp → Bool} {o : AOp} {us R : List Tok} {t : Tok} (hw : want o = true)
    (hR : Inert want R 0) (hne : R ≠ []) (hseen : opSeen o (some t) = true) :
    findSplit want ((us ++ [t]) ++ Tok.op o :: R).reverse 0 [] = some (us ++ [t], o, R) := by
  obtain ⟨r, rs, rfl⟩ := List.exists_cons_of_ne_nil hne
  have h1 : ((us ++ [t]) ++ Tok.op o :: r :: rs).reverse = (r :: rs).reverse ++ Tok.op o :: t :: us.reverse := by
    rw [List.reverse_append, List.reverse_cons (a := Tok.op o), List.reverse_append, List.append_assoc]; rfl
  rw [h1, hR, List.append_nil, findSplit, acceptOp_cons, hw, hseen]
  simp only [beq_self_eq_true, Bool.and_self, if_true, List.reverse_cons, List.reverse_reverse]

/-- `ts` is passed over by the left-to-right matcher at depth `d` (when something follows). -/
def MInert (ts : List Tok) (d : Nat) : Prop :=
  ∀ rest, rest ≠ [] → matchedAux (ts ++ rest) d = matchedAux rest d

theorem MInert.append {a b : List Tok} {d : Nat} (ha : MInert a d) (hb : MInert b d) : MInert (a ++ b) d := by
  intro rest hr
  rw [List.append_assoc, ha _ (by simp [hr]), hb _ hr]

theorem matchedAux_cons2 (t u : Tok) (us : List Tok) (d : Nat) :
    matchedAux (t :: u :: us) d =
      (match t with
       | .lp => matchedAux (u :: us) (d + 1)
       | .rp => if d ≤ 1 then false else matchedAux (u :: us) (d - 1)
       | _ => matchedAux (u :: us) d) := by
  cases t <;> rfl

theorem MInert.single {t : Tok} {d : Nat} (h1 : t ≠ .lp) (h2 : t ≠ .rp) : MInert [t] d := by
  intro rest hr
  obtain ⟨x, xs, rfl⟩ := List.exists_cons_of_ne_nil hr
  cases t <;> first | rfl | exact absurd rfl h1 | exact absurd rfl h2

theorem MInert.wrap {a : List Tok} {d : Nat} (ha : MInert a (d + 2)) : MInert (paren a) (d + 1) := by
  intro rest hr
  obtain ⟨x, xs, rfl⟩ := List.exists_cons_of_ne_nil hr
  have h1 : paren a ++ x :: xs = Tok.lp :: (a ++ Tok.rp :: x :: xs) := by simp [paren]
  obtain ⟨u, us, hu⟩ : ∃ u us, a ++ Tok.rp :: x :: xs = u :: us := by cases a <;> simp
  rw [h1, hu, matchedAux_cons2, ← hu, ha _ (by simp), matchedAux_cons2]
  rfl

theorem minert_arith (e : AExpr) (d : Nat) : MInert (printArith e) (d + 1) :=
  printArith_induction (P := fun ts => ∀ d, MInert ts (d + 1))
    (fun t h _ => MInert.single (by intro h'; subst h'; cases h) (by intro h'; subst h'; cases h))
    (fun _ _ ha hb d => (ha d).append (hb d)) (fun _ ha d => (ha (d + 1)).wrap) e d

theorem unparen_paren (e : AExpr) : unparen (paren (printArith e)) = some (printArith e) := by
  have h : matchedAux (printArith e ++ [Tok.rp]) 1 = true := minert_arith e 0 [Tok.rp] (by simp)
  simp [unparen, paren, h]

theorem unparen_leaf {t : Tok} (h : t ≠ .lp) : unparen [t] = none := by
  cases t <;> first | rfl | exact absurd rfl h

theorem parseA_prim_paren (e : AExpr) (f : Nat) :
    parseA (f + 1) .prim (paren (printArith e)) = parseA f .add (printArith e) := by
  rw [parseA_prim, unparen_paren]

/-- `e` can stand without parentheses where the parser reads at `lvl`. -/
def Lvl.fits : Lvl → AExpr → Bool
  | .add, _ => true
  | .mul, e => !e.isAddBin
  | .prim, e => !e.isBin

/-- `e` as the printer writes it in a position that the parser reads at `lvl`. -/
def printAt (lvl : Lvl) (e : AExpr) : List Tok := wrapIf (!lvl.fits e) (printArith e)

theorem fits_of_leaf {e : AExpr} (h : e.isBin = false) (lvl : Lvl) : lvl.fits e = true := by
  cases e with
  | bin _ _ _ => cases h
  | _ => cases lvl <;> rfl

theorem AOp.prec_eq (op : AOp) : op.prec = if op.isAdd then 0 else 1 := by cases op <;> rfl

theorem needParenL_eq (op : AOp) (l : AExpr) : needParenL op l = !op.lvl.fits l := by
  cases l with
  | bin lo a b =>
    show decide (lo.prec < op.prec) = !op.lvl.fits (.bin lo a b)
    rw [lo.prec_eq, op.prec_eq, AOp.lvl]
    cases hl : lo.isAdd <;> cases op.isAdd <;> simp [Lvl.fits, AExpr.isAddBin, hl]
  | _ => rw [fits_of_leaf rfl]; rfl

theorem needParenR_eq (op : AOp) (r : AExpr) : needParenR op r = !op.lvl.next.fits r := by
  cases r with
  | bin ro a b =>
    show decide (ro.prec ≤ op.prec) = !op.lvl.next.fits (.bin ro a b)
    rw [ro.prec_eq, op.prec_eq, AOp.lvl]
    cases hr : ro.isAdd <;> cases op.isAdd <;> simp [Lvl.fits, AExpr.isAddBin, AExpr.isBin, hr]
  | _ => rw [fits_of_leaf rfl]; rfl

/-- ast/mod.rs:1367/1380 read with the parser's eyes: the left operand is printed for the operator's own
    level, the right operand for the next. -/
theorem printArith_bin (op : AOp) (l r : AExpr) :
    printArith (.bin op l r) = printAt op.lvl l ++ Tok.op op :: printAt op.lvl.next r := by
  rw [printArith, needParenL_eq, needParenR_eq]; rfl

theorem printAt_of_fits {lvl : Lvl} {e : AExpr} (h : lvl.fits e = true) : printAt lvl e = printArith e := by
  rw [printAt, h]; rfl

theorem printAt_of_not_fits {lvl : Lvl} {e : AExpr} (h : lvl.fits e = false) :
    printAt lvl e = paren (printArith e) := by
  rw [printAt, h]; rfl

theorem printAt_snoc (lvl : Lvl) (e : AExpr) : ∃ us t, printAt lvl e = us ++ [t] ∧ EndsWell e.leavesOk t :=
  wrapIf_snoc (printArith_snoc e) _

theorem printAt_ne_nil (lvl : Lvl) (e : AExpr) : printAt lvl e ≠ [] := by
  obtain ⟨us, t, h, _⟩ := printAt_snoc lvl e
  rw [h]; simp

theorem length_le_printAt (lvl : Lvl) (e : AExpr) : (printArith e).length ≤ (printAt lvl e).length := by
  cases h : lvl.fits e
  · rw [printAt_of_not_fits h, paren, List.length_cons, List.length_append]; omega
  · rw [printAt_of_fits h]; exact Nat.le_refl _

theorem inert_prim (want : AOp → Bool) (e : AExpr) : Inert want (printAt .prim e) 0 := by
  cases e with
  | bin op l r => exact inert_paren want _
  | var s => exact Inert.single rfl
  | const n => exact Inert.single rfl
  | flt f => exact Inert.single (floatTok_rec (P := fun t => t.plain = true) f (fun _ => rfl) rfl)

theorem inert_mul (e : AExpr) : Inert AOp.isAdd (printAt .mul e) 0 := by
  induction e with
  | bin op l r ihl _ =>
    cases hop : op.isAdd
    · have := printArith_bin op l r
      rw [AOp.lvl_of_not_isAdd hop] at this
      rw [printAt_of_fits (by simp [Lvl.fits, AExpr.isAddBin, hop]), this]
      exact ihl.append (.append (a := [Tok.op op]) (.op_unwanted hop) (inert_prim _ r))
    · rw [printAt_of_not_fits (by simp [Lvl.fits, AExpr.isAddBin, hop])]
      exact inert_paren _ _
  | var s => exact inert_prim _ (.var s)
  | const n => exact inert_prim _ (.const n)
  | flt f => exact inert_prim _ (.flt f)

theorem inert_right (op : AOp) (r : AExpr) : Inert op.lvl.want (printAt op.lvl.next r) 0 := by
  cases op
  · exact inert_mul r
  · exact inert_mul r
  all_goals exact inert_prim _ r

def AExpr.litStable : AExpr → Bool
  | .flt f => f.stable
  | .bin _ l r => l.litStable && r.litStable
  | _ => true

theorem lastTokSci_snoc (us : List Tok) (t : Tok) : lastTokSci (us ++ [t]) = t.sciBefore := by
  simp [lastTokSci]

theorem sciHidden_bin (op : AOp) (l r : AExpr) : (AExpr.bin op l r).sciHidden =
    (l.sciHidden || r.sciHidden || (op.isAdd && lastTokSci (printAt op.lvl l))) := by
  rw [AExpr.sciHidden, needParenL_eq]; rfl

theorem opSeen_root {op : AOp} {l r : AExpr} (hs : (AExpr.bin op l r).sciHidden = false) :
    ∃ us t, printAt op.lvl l = us ++ [t] ∧ opSeen op (some t) = true := by
  obtain ⟨us, t, hL, ht⟩ := printAt_snoc op.lvl l
  rw [sciHidden_bin, Bool.or_eq_false_iff, hL, lastTokSci_snoc] at hs
  exact ⟨us, t, hL, opSeen_of ht.1 fun ha => by simpa [ha] using hs.2⟩

theorem parse_leaf {e : AExpr} (hb : e.isBin = false) (hl : e.litStable = true) (hfin : e.allFloats.all FloatLit.finite = true) :
    ∀ (lvl : Lvl) (f : Nat), 3 ≤ f → parseA f lvl (printAt lvl e) = some e := by
  have prim : ∀ f, parseA (f + 1) .prim (printArith e) = some e := by
    intro f
    cases e with
    | bin _ _ _ => cases hb
    | var s => rfl
    | const n => rfl
    | flt x =>
      have hx : x.finite = true := (Bool.and_eq_true_iff.mp hfin).1
      rw [printArith, floatTok_stable hl, parseA_prim]
      simp only [unparen, hx, if_true]
  have hi : ∀ want, Inert want (printArith e) 0 := fun want => by
    have := inert_prim want e
    rwa [printAt_of_fits (fits_of_leaf hb _)] at this
  intro lvl f hf
  obtain ⟨g, rfl⟩ : ∃ g, f = g + 3 := ⟨f - 3, (Nat.sub_add_cancel hf).symm⟩
  rw [printAt_of_fits (fits_of_leaf hb _)]
  cases lvl with
  | add => rw [parseA_next .add (by decide) (hi _), parseA_next .mul (by decide) (hi _)]; exact prim g
  | mul => rw [parseA_next .mul (by decide) (hi _)]; exact prim (g + 1)
  | prim => exact prim (g + 2)

theorem parse_printAt (e : AExpr) :
    e.litStable = true → e.sciHidden = false → e.allFloats.all FloatLit.finite = true →
    ∀ (lvl : Lvl) (f : Nat), 3 * (printArith e).length ≤ f → parseA f lvl (printAt lvl e) = some e := by
  induction e with
  | bin op l r ihl ihr =>
    intro hl hs hf lvl f hlen
    simp only [AExpr.litStable, Bool.and_eq_true] at hl
    rw [AExpr.allFloats, List.all_append, Bool.and_eq_true] at hf
    obtain ⟨us, t, hL, hseen⟩ := opSeen_root hs
    rw [sciHidden_bin, Bool.or_eq_false_iff, Bool.or_eq_false_iff] at hs
    have ihl := ihl hl.1 hs.1.1 hf.1
    have ihr := ihr hl.2 hs.1.2 hf.2
    have hP := printArith_bin op l r
    have hlr : 3 * (printArith l).length + 3 ≤ f ∧ 3 * (printArith r).length + 3 ≤ f := by
      have h1 := length_le_printAt op.lvl l
      have h2 := length_le_printAt op.lvl.next r
      have h3 := List.length_pos_iff.mpr (printArith_ne_nil l)
      have h4 := List.length_pos_iff.mpr (printArith_ne_nil r)
      rw [hP, List.length_append, List.length_cons] at hlen
      omega
    obtain ⟨g, rfl⟩ : ∃ g, f = g + 3 :=
      ⟨f - 3, (Nat.sub_add_cancel (Nat.le_trans (Nat.le_add_left 3 _) hlr.1)).symm⟩
    have hgl := Nat.le_of_add_le_add_right hlr.1
    have hgr := Nat.le_of_add_le_add_right hlr.2
    -- the level that owns `op` splits at it and reads the operands at their levels
    have own : ∀ k, g ≤ k → parseA (k + 1) op.lvl (printArith (.bin op l r)) = some (.bin op l r) := by
      intro k hk
      rw [parseA_split _ _ op.lvl_ne_prim, hP, hL,
        findSplit_at op.want_lvl (inert_right op r) (printAt_ne_nil _ r) hseen]
      simp only [← hL, ihl _ k (Nat.le_trans hgl hk), ihr _ k (Nat.le_trans hgr hk)]
    have hfit : Lvl.fits .mul (.bin op l r) = !op.isAdd := rfl
    cases hop : op.isAdd
    · -- `* / %` at the root: `.add` finds nothing to split at, `.mul` owns the operator
      rw [hop] at hfit
      rw [AOp.lvl_of_not_isAdd hop] at own
      have hin : Inert AOp.isAdd (printArith (.bin op l r)) 0 := by
        have := inert_mul (.bin op l r)
        rwa [printAt_of_fits hfit] at this
      cases lvl with
      | add => rw [printAt_of_fits rfl, parseA_next .add (by decide) hin]; exact own (g + 1) (Nat.le_add_right g 1)
      | mul => rw [printAt_of_fits hfit]; exact own (g + 2) (Nat.le_add_right g 2)
      | prim =>
        rw [printAt_of_not_fits rfl, parseA_prim_paren, parseA_next .add (by decide) hin]
        exact own g (Nat.le_refl g)
    · -- `+ -` at the root: in parentheses for every level but `.add`
      rw [hop] at hfit
      rw [AOp.lvl_of_isAdd hop] at own
      cases lvl with
      | add => exact own (g + 2) (Nat.le_add_right g 2)
      | mul =>
        rw [printAt_of_not_fits hfit, parseA_next .mul (by decide) (inert_paren _ _), parseA_prim_paren]
        exact own g (Nat.le_refl g)
      | prim => rw [printAt_of_not_fits rfl, parseA_prim_paren]; exact own (g + 1) (Nat.le_add_right g 1)
  | _ =>
    intro hl _ hf lvl f hlen
    exact parse_leaf rfl hl hf lvl f (by simpa [printArith] using hlen)

theorem parseArith_print (e : AExpr) (hl : e.litStable = true) (hs : e.sciHidden = false)
    (hf : e.allFloats.all FloatLit.finite = true) : parseArith (printArith e) = some e :=
  parse_printAt e hl hs hf .add _ (Nat.le_add_right _ 3)

theorem stable_of_hasPoint (f : FloatLit) (h : f.hasPoint = true) : f.stable = true := by
  unfold FloatLit.hasPoint at h
  obtain ⟨c, hc, hcp⟩ := List.any_eq_true.mp h
  simp only [Bool.and_eq_true, Bool.not_eq_true', bne_iff_ne, ne_eq] at hcp
  have hmem : c ∈ (stripSign f.text.toList).2 := by
    unfold stripSign
    split
    · rename_i r heq
      rw [heq] at hc
      exact (List.mem_cons.mp hc).resolve_left hcp.1.2
    · rename_i r heq
      rw [heq] at hc
      exact (List.mem_cons.mp hc).resolve_left hcp.2
    · exact hc
  have hall : (stripSign f.text.toList).2.all Char.isDigit = false := by
    cases h' : (stripSign f.text.toList).2.all Char.isDigit with
    | false => rfl
    | true => have := List.all_eq_true.mp h' c hmem; simp [hcp.1.1] at this
  unfold FloatLit.stable parseI64
  simp [hall]

theorem leavesOk_spec (e : AExpr) (h : e.leavesOk = true) :
    e.litStable = true ∧ e.sciHidden = false ∧ e.allFloats.all FloatLit.finite = true := by
  induction e with
  | flt f =>
    rw [AExpr.leavesOk, FloatLit.ok, Bool.and_eq_true] at h
    exact ⟨stable_of_hasPoint f h.2, rfl, Bool.and_eq_true_iff.mpr ⟨h.1, rfl⟩⟩
  | bin op l r ihl ihr =>
    rw [AExpr.leavesOk, Bool.and_eq_true] at h
    obtain ⟨l1, l2, l3⟩ := ihl h.1
    obtain ⟨r1, r2, r3⟩ := ihr h.2
    obtain ⟨us, t, hL, ht⟩ := printAt_snoc op.lvl l
    refine ⟨?_, ?_, ?_⟩
    · rw [AExpr.litStable, l1, r1]; rfl
    · rw [sciHidden_bin, l2, r2, hL, lastTokSci_snoc, ht.2 h.1, Bool.and_false]; rfl
    · rw [AExpr.allFloats, List.all_append, l3, r3]; rfl
  | _ => exact ⟨rfl, rfl, rfl⟩

theorem optMapM_map {α β} (f : β → Option α) (g : α → β) : ∀ (l : List α), (∀ x, x ∈ l → f (g x) = some x) →
    optMapM f (l.map g) = some l
  | [], _ => rfl
  | a :: as, h => by
    rw [List.map_cons, optMapM, h a (List.mem_cons_self ..),
      optMapM_map f g as fun x hx => h x (List.mem_cons_of_mem _ hx)]

theorem optMapM_id {α} (f : α → Option α) (l : List α) (h : ∀ x, x ∈ l → f x = some x) : optMapM f l = some l := by
  have := optMapM_map f id l h
  rwa [List.map_id] at this

theorem FloatLit.afterJson_id {f : FloatLit} (h : f.jsonExact = true) : f.afterJson = some f := by
  unfold FloatLit.jsonExact at h
  unfold FloatLit.afterJson
  cases hj : f.json with
  | none => rw [hj] at h; cases h
  | some p => rw [hj] at h; simp only [h, if_true]

theorem AExpr.afterJson_id (e : AExpr) (h : e.allFloats.all FloatLit.jsonExact = true) : e.afterJson = some e := by
  induction e with
  | var s => rfl
  | const n => rfl
  | flt f =>
    rw [AExpr.allFloats, List.all_cons, List.all_nil, Bool.and_true] at h
    rw [AExpr.afterJson, FloatLit.afterJson_id h]; rfl
  | bin op l r ihl ihr =>
    rw [AExpr.allFloats, List.all_append, Bool.and_eq_true] at h
    rw [AExpr.afterJson, ihl h.1, ihr h.2]

theorem Term0.afterJson_id (t : Term0) (h : t.floats.all FloatLit.jsonExact = true) : t.afterJson = some t := by
  cases t with
  | flt f =>
    rw [Term0.floats, List.all_cons, List.all_nil, Bool.and_true] at h
    rw [Term0.afterJson, FloatLit.afterJson_id h]; rfl
  | arith e => rw [Term0.afterJson, AExpr.afterJson_id e h]; rfl
  | _ => rfl

theorem Term.afterJson_id (t : Term) (h : t.floats.all FloatLit.jsonExact = true) : t.afterJson = some t := by
  cases t with
  | base t0 => rw [Term.afterJson, Term0.afterJson_id t0 h]; rfl
  | call fn args =>
    rw [Term.floats, List.all_flatMap, List.all_eq_true] at h
    rw [Term.afterJson, optMapM_id _ args fun x hx => Term0.afterJson_id x (h x hx)]; rfl

theorem Atom.afterJson_id (a : Atom) (h : a.floats.all FloatLit.jsonExact = true) : a.afterJson = some a := by
  rw [Atom.floats, List.all_flatMap, List.all_eq_true] at h
  rw [Atom.afterJson, optMapM_id _ a.args fun x hx => Term.afterJson_id x (h x hx)]; rfl

theorem BodyLit.afterJson_id (l : BodyLit) (h : l.floats.all FloatLit.jsonExact = true) : l.afterJson = some l := by
  cases l with
  | pos a => rw [BodyLit.afterJson, Atom.afterJson_id a h]; rfl
  | neg a => rw [BodyLit.afterJson, Atom.afterJson_id a h]; rfl
  | cmp l c r =>
    rw [BodyLit.floats, List.all_append, Bool.and_eq_true] at h
    rw [BodyLit.afterJson, Term.afterJson_id l h.1, Term.afterJson_id r h.2]

theorem Rule.afterJson_id (r : Rule) (h : r.jsonExact = true) : r.afterJson = some r := by
  rw [Rule.jsonExact, Rule.floats, List.all_append, Bool.and_eq_true, List.all_flatMap] at h
  rw [Rule.afterJson, Atom.afterJson_id r.head h.1,
    optMapM_id _ r.body fun x hx => BodyLit.afterJson_id x (List.all_eq_true.mp h.2 x hx)]

end ILV.RText
