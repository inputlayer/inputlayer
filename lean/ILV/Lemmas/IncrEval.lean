/-
  C18: the evaluator as a least fix-point — monotonicity, "closed under its own rules",
  "every closed table set contains the result", and the two consequences used by the invariant:
  evaluations agree on a dependency-closed set of relations on which programs and inputs agree, and
  replacing the rules of some heads by their extensions (the published snapshot) changes nothing.
-/
import ILV.Lemmas.IncrFuel
namespace ILV.C18

theorem mem_heads_clausesOf (prog : List Clause) (n : Name) : n ∈ heads prog ↔ clausesOf prog n ≠ [] := by
  rw [mem_heads]
  constructor
  · rintro ⟨c, hc, hn⟩ he
    have : c ∈ clausesOf prog n := List.mem_filter.mpr ⟨hc, by simp [hn]⟩
    rw [he] at this; simp at this
  · intro hne
    obtain ⟨c, hc⟩ := List.exists_mem_of_ne_nil _ hne
    have := List.mem_filter.mp hc
    exact ⟨c, this.1, by simpa using this.2⟩

theorem solveBody_mono (db1 db2 : Name → List Tup) (body : List Atom)
    (h : ∀ a ∈ body, ∀ t ∈ db1 a.rel, t ∈ db2 a.rel) (e1 e2 : List Env) (he : ∀ e ∈ e1, e ∈ e2) :
    ∀ e ∈ solveBody db1 body e1, e ∈ solveBody db2 body e2 := by
  induction body generalizing e1 e2 with
  | nil => simpa [solveBody] using he
  | cons a as ih =>
    simp only [solveBody]
    apply ih (fun b hb => h b (List.mem_cons_of_mem _ hb))
    intro e hm
    obtain ⟨env, henv, hm2⟩ := List.mem_flatMap.mp hm
    obtain ⟨t, ht, hmt⟩ := List.mem_filterMap.mp hm2
    exact List.mem_flatMap.mpr ⟨env, he env henv, List.mem_filterMap.mpr ⟨t, h a (by simp) t ht, hmt⟩⟩

theorem fire_mono (db1 db2 : Name → List Tup) (c : Clause)
    (h : ∀ r ∈ bodyRels c, ∀ t ∈ db1 r, t ∈ db2 r) : ∀ t ∈ fire db1 c, t ∈ fire db2 c := by
  intro t ht
  unfold fire at *
  obtain ⟨e, he, het⟩ := List.mem_filterMap.mp ht
  exact List.mem_filterMap.mpr
    ⟨e, solveBody_mono db1 db2 c.body (fun a ha => h a.rel (List.mem_map.mpr ⟨a, ha, rfl⟩)) _ _ (fun _ x => x) e he, het⟩

theorem consequences_mono (prog : List Clause) (db1 db2 : Name → List Tup) (n : Name)
    (h : ∀ c ∈ prog, c.head.rel = n → ∀ r ∈ bodyRels c, ∀ t ∈ db1 r, t ∈ db2 r) :
    ∀ t ∈ consequences prog db1 n, t ∈ consequences prog db2 n := by
  intro t ht
  obtain ⟨c, hc, hn, hf⟩ := (mem_consequences prog db1 n t).mp ht
  exact (mem_consequences prog db2 n t).mpr ⟨c, hc, hn, fire_mono db1 db2 c (h c hc hn) t hf⟩

theorem evalProg_closed (prog : List Clause) (inputs : List (Name × List Tup))
    (n : Name) (hn : n ∈ heads prog) :
    ∀ t ∈ consequences prog (evalProg prog inputs) n, t ∈ evalProg prog inputs n := by
  intro t ht
  obtain ⟨tbl, hg, he⟩ := evalProg_head prog inputs n hn
  have h1 := aget_tstep prog inputs (res prog inputs) n
  rw [res_fix, hg] at h1
  rw [he, Option.some.inj h1, mem_addNew]
  exact Or.inr ht

theorem evalProg_least (prog : List Clause) (inputs : List (Name × List Tup)) (U : Name → Prop)
    (db : Name → List Tup)
    (hU : ∀ c ∈ prog, U c.head.rel → ∀ r ∈ bodyRels c, U r)
    (hin : ∀ x, U x → x ∉ heads prog → ∀ t ∈ inDb inputs x, t ∈ db x)
    (hcl : ∀ h, U h → h ∈ heads prog → ∀ t ∈ consequences prog db h, t ∈ db h) :
    ∀ x, U x → ∀ t ∈ evalProg prog inputs x, t ∈ db x := by
  have key : ∀ (j : Nat) (d : List (Name × List Tup)), akeys d = heads prog →
      (∀ x, U x → ∀ t ∈ look inputs d x, t ∈ db x) →
      ∀ x, U x → ∀ t ∈ look inputs (tpow prog inputs j d) x, t ∈ db x := by
    intro j
    induction j with
    | zero => intro d _ h; exact h
    | succ j ih =>
      intro d hk hd
      apply ih (tstep prog inputs d) (by rw [akeys_tstep, hk])
      intro x hx t ht
      by_cases hh : x ∈ heads prog
      · obtain ⟨tbl, hg⟩ := key_aget (l := d) (n := x) (by rw [hk]; exact hh)
        have h1 : aget (tstep prog inputs d) x = some (addNew tbl (consequences prog (look inputs d) x)) := by
          rw [aget_tstep, hg]; rfl
        rw [look_head h1, mem_addNew] at ht
        rcases ht with ht | ht
        · exact hd x hx t (by rw [look_head hg]; exact ht)
        · exact hcl x hx hh t (consequences_mono prog (look inputs d) db x
            (fun c hc hcn r hr t' ht' => hd r (hU c hc (by rw [hcn]; exact hx) r hr) t' ht') t ht)
      · rw [look_nonhead inputs _ x (by rw [akeys_tstep, hk]; exact hh)] at ht
        exact hin x hx hh t ht
  intro x hx t ht
  obtain ⟨j, hr⟩ := res_is_pow prog inputs
  rw [evalProg_eq, hr] at ht
  refine key j (d0 prog) (akeys_d0 prog) ?_ x hx t ht
  intro y hy t' ht'
  by_cases hh : y ∈ heads prog
  · rw [look_head (aget_d0 prog hh)] at ht'
    exact absurd ht' (List.not_mem_nil)
  · rw [look_nonhead inputs _ y (by rw [akeys_d0]; exact hh)] at ht'
    exact hin y hy hh t' ht'

theorem heads_of_clausesOf {p1 p2 : List Clause} {n : Name} (h : clausesOf p1 n = clausesOf p2 n) :
    n ∈ heads p1 ↔ n ∈ heads p2 := by
  rw [mem_heads_clausesOf, mem_heads_clausesOf, h]

theorem evalProg_agree_sub (p1 p2 : List Clause) (i1 i2 : List (Name × List Tup)) (U : Name → Prop)
    (hU1 : ∀ c ∈ p1, U c.head.rel → ∀ r ∈ bodyRels c, U r)
    (hcl : ∀ h, U h → clausesOf p1 h = clausesOf p2 h)
    (hin : ∀ x, U x → x ∉ heads p1 → inDb i1 x = inDb i2 x) :
    ∀ x, U x → ∀ t ∈ evalProg p1 i1 x, t ∈ evalProg p2 i2 x := by
  refine evalProg_least p1 i1 U (evalProg p2 i2) hU1 ?_ ?_
  · intro y hy hny t' ht'
    rw [evalProg_nonhead p2 i2 y (fun h => hny ((heads_of_clausesOf (hcl y hy)).mpr h)), ← hin y hy hny]
    exact ht'
  · intro h hh hhead t' ht'
    unfold consequences at ht'
    rw [hcl h hh] at ht'
    exact evalProg_closed p2 i2 h ((heads_of_clausesOf (hcl h hh)).mp hhead) t' ht'

/-- cone locality on a dependency-closed set `U` of relations.
    (`hc1`, `hc2` always hold, see `conv_always`, and are not needed.) -/
theorem evalProg_agree (p1 p2 : List Clause) (i1 i2 : List (Name × List Tup)) (U : Name → Prop)
    (hc1 : conv p1 i1 = true) (hc2 : conv p2 i2 = true)
    (hU1 : ∀ c ∈ p1, U c.head.rel → ∀ r ∈ bodyRels c, U r)
    (hcl : ∀ h, U h → clausesOf p1 h = clausesOf p2 h)
    (hin : ∀ x, U x → x ∉ heads p1 → inDb i1 x = inDb i2 x) :
    ∀ x, U x → SetEq (evalProg p1 i1 x) (evalProg p2 i2 x) := by
  have hU2 : ∀ c ∈ p2, U c.head.rel → ∀ r ∈ bodyRels c, U r := by
    intro c hc hu r hr
    have : c ∈ clausesOf p2 c.head.rel := List.mem_filter.mpr ⟨hc, by simp⟩
    rw [← hcl _ hu] at this
    exact hU1 c (List.mem_filter.mp this).1 hu r hr
  intro x hx t
  exact ⟨evalProg_agree_sub p1 p2 i1 i2 U hU1 hcl hin x hx t,
    evalProg_agree_sub p2 p1 i2 i1 U hU2 (fun h hh => (hcl h hh).symm)
      (fun y hy hn => (hin y hy (fun h => hn ((heads_of_clausesOf (hcl y hy)).mp h))).symm) x hx t⟩

/-- EDB replacement: `p'` is `p` without the clauses of the heads in `M`, `i'` gives those heads what `p`
    derives for them. (`hc`, `hc'` always hold, see `conv_always`, and are not needed.) -/
theorem evalProg_replace (p p' : List Clause) (i i' : List (Name × List Tup)) (M : Name → Prop)
    (hc : conv p i = true) (hc' : conv p' i' = true)
    (hsub : ∀ c, c ∈ p' ↔ c ∈ p ∧ ¬ M c.head.rel)
    (hMhead : ∀ n, M n → n ∈ heads p)
    (hMin : ∀ n, M n → SetEq (inDb i' n) (evalProg p i n))
    (hother : ∀ n, ¬ M n → inDb i' n = inDb i n) :
    ∀ x, SetEq (evalProg p' i' x) (evalProg p i x) := by
  have hh' : ∀ x, x ∈ heads p' ↔ x ∈ heads p ∧ ¬ M x := by
    intro x
    rw [mem_heads, mem_heads]
    constructor
    · rintro ⟨c, hc1, hx⟩
      have := (hsub c).mp hc1
      exact ⟨⟨c, this.1, hx⟩, by rw [← hx]; exact this.2⟩
    · rintro ⟨⟨c, hc1, hx⟩, hm⟩
      exact ⟨c, (hsub c).mpr ⟨hc1, by rw [hx]; exact hm⟩, hx⟩
  -- first inclusion: the snapshot derives nothing new
  have hA : ∀ x, ∀ t ∈ evalProg p' i' x, t ∈ evalProg p i x := by
    intro x
    refine evalProg_least p' i' (fun _ => True) (evalProg p i) (fun _ _ _ _ _ => trivial) ?_ ?_ x trivial
    · intro y _ hny t ht
      by_cases hm : M y
      · exact ((hMin y hm) t).mp ht
      · have : y ∉ heads p := fun h => hny ((hh' y).mpr ⟨h, hm⟩)
        rw [evalProg_nonhead p i y this, ← hother y hm]; exact ht
    · intro h _ hhead t ht
      obtain ⟨c, hc1, hn, hf⟩ := (mem_consequences p' _ h t).mp ht
      exact evalProg_closed p i h ((hh' h).mp hhead).1 t
        ((mem_consequences p _ h t).mpr ⟨c, ((hsub c).mp hc1).1, hn, hf⟩)
  intro x t
  refine ⟨hA x t, ?_⟩
  refine evalProg_least p i (fun _ => True) (evalProg p' i') (fun _ _ _ _ _ => trivial) ?_ ?_ x trivial t
  · intro y _ hny t' ht'
    have hm : ¬ M y := fun hm => hny (hMhead y hm)
    have : y ∉ heads p' := fun h => hny ((hh' y).mp h).1
    rw [evalProg_nonhead p' i' y this, hother y hm]; exact ht'
  · intro h _ hhead t' ht'
    by_cases hm : M h
    · have hnh : h ∉ heads p' := fun hx => ((hh' h).mp hx).2 hm
      rw [evalProg_nonhead p' i' h hnh]
      apply ((hMin h hm) t').mpr
      apply evalProg_closed p i h hhead
      exact consequences_mono p (evalProg p' i') (evalProg p i) h (fun _ _ _ r _ t'' ht'' => hA r t'' ht'') t' ht'
    · apply evalProg_closed p' i' h ((hh' h).mpr ⟨hhead, hm⟩)
      obtain ⟨c, hc1, hn, hf⟩ := (mem_consequences p _ h t').mp ht'
      exact (mem_consequences p' _ h t').mpr ⟨c, (hsub c).mpr ⟨hc1, by rw [hn]; exact hm⟩, hn, hf⟩

end ILV.C18
