/-
  Helper lemmas for C27/C29 (repaired `execute_program`): every event on the trace passed the three
  gates against the KG it ran on (`Gated`), by induction over the logical lines; and what passing the
  gates implies for the Spec predicates `allowed` / `touchesInternal`.
-/
import ILV.Lemmas.C30
import ILV.Lemmas.Auth
import ILV.Spec.Access
namespace ILV.Props.C27
open ILV ILV.Text ILV.Handler ILV.Gen.C28 ILV.Spec.Access ILV.Props.C30 ILV.Props.Auth

theorem gates_none {w : World} {role : Option (String × Role)} {whole : Option Stmt} {curKg : Option String}
    (h : gates w role whole curKg = none) :
    gateGlobal role whole = none ∧ gateInternal role whole curKg = none ∧ gateKg w role whole curKg = none := by
  unfold gates at h
  split at h
  · cases h
  · rename_i h1
    split at h
    · cases h
    · rename_i h2
      exact ⟨h1, h2, h⟩

theorem gateKg_none {w : World} {u : String} {r : Role} {st : Stmt} {cur kg : String} (hr : r ≠ Role.admin)
    (h : gateKg w (some (u, r)) (some st) (some cur) = none) (ht : targetKg st (some cur) = some kg) :
    ∃ kr, kgRoleFor w kg u r = some kr ∧ kgOk kr st.kind = true := by
  unfold gateKg at h
  simp only [beq_eq_false_iff_ne.2 hr, Bool.false_eq_true, if_false, ht] at h
  split at h
  · cases h
  · rename_i kr hk
    refine ⟨kr, hk, Decidable.byContradiction fun hok => ?_⟩
    rw [if_neg hok] at h
    cases h

theorem gates_allowed (w : World) (u : String) (r : Role) (st : Stmt) (cur : String)
    (h : gates w (some (u, r)) (some st) (some cur) = none) : allowed w u r ⟨st, cur⟩ = true := by
  rcases gates_none h with ⟨h1, _, h3⟩
  have hg : globalOk r st.kind = true := Decidable.byContradiction fun hg => by
    simp only [gateGlobal, if_neg hg] at h1
    cases h1
  unfold allowed actsOn
  simp only [hg, Bool.true_and]
  by_cases ha : r = Role.admin
  · subst ha; rfl
  · rw [beq_eq_false_iff_ne.2 ha, Bool.false_or]
    cases ht : targetKg st (some cur) with
    | none => rfl
    | some kg =>
      obtain ⟨kr, hk, hok⟩ := gateKg_none ha h3 ht
      simp only [hk]
      exact hok

theorem gates_no_internal (w : World) (u : String) (r : Role) (st : Stmt) (cur : String)
    (hr : r ≠ Role.admin) (hacl : kgRoleFor w INTERNAL u r = none)
    (h : gates w (some (u, r)) (some st) (some cur) = none) : touchesInternal ⟨st, cur⟩ = false := by
  rcases gates_none h with ⟨_, h2, h3⟩
  unfold gateInternal at h2
  dsimp only at h2
  split at h2
  · cases h2
  rename_i hc
  split at h2
  · cases h2
  rename_i hn
  have hcur : (cur == INTERNAL) = false := by simpa [hr] using hc
  have hnames : namesInternal st = false := Bool.eq_false_iff.2 hn
  have htarget : (targetKg st (some cur) == some INTERNAL) = false := by
    cases ht : targetKg st (some cur) with
    | none => rfl
    | some kg =>
      by_cases hk : kg = INTERNAL
      · subst hk
        obtain ⟨kr, hk, _⟩ := gateKg_none hr h3 ht
        rw [hacl] at hk
        cases hk
      · simpa using hk
  unfold touchesInternal actsOn
  simp only [hcur, htarget, Bool.false_or]
  unfold namesInternal at hnames
  split
  · rename_i n hk he
    simp only [hk, he] at hnames
    exact hnames
  · rfl


/-- the three gates passed on this event, with the KG it ran on -/
def Gated (w : World) (role : Option (String × Role)) (e : Event) : Prop :=
  gates w role (some e.stmt) (some e.kg) = none

theorem authorizeLines_cons {P : Parser} {w : World} {role : Option (String × Role)} {sim : Sim}
    {l : List Char} {ls : List (List Char)} {st : Stmt} (hp : parseStatement P l = some st)
    (ha : authorizeLines P w role sim (l :: ls) = none) :
    gates w role (some st) sim.kg = none ∧ authorizeLines P w role (simStep sim st) ls = none := by
  unfold authorizeLines at ha
  simp only [hp] at ha
  split at ha
  · cases ha
  · rename_i hg
    exact ⟨hg, ha⟩

theorem specRun_gated (P : Parser) (w : World) (role : Option (String × Role)) :
    ∀ (lines : List (List Char)) (s : QState) (tr : List Event) (sim : Sim),
      Inv sim s → authorizeLines P w role sim lines = none → (∀ e ∈ tr, Gated w role e) →
      ∀ e ∈ (specRun P s tr lines).2, Gated w role e := by
  intro lines
  induction lines with
  | nil => intro s tr sim _ _ htr; exact htr
  | cons l ls ih =>
    intro s tr sim hi ha htr
    unfold specRun
    cases hp : parseStatement P l with
    | none =>
      unfold authorizeLines at ha
      rw [hp] at ha
      exact ih _ tr sim (hi.frame rfl rfl) ha htr
    | some st =>
      have ⟨hg, ha⟩ := authorizeLines_cons hp ha
      have hev : ∀ e ∈ tr ++ [⟨st, s.kg⟩], Gated w role e := by
        intro e he
        rcases List.mem_append.1 he with h1 | h1
        · exact htr e h1
        · cases List.mem_singleton.1 h1
          show gates w role (some st) (some s.kg) = none
          rw [← hi.1]
          exact hg
      dsimp only
      cases hap : applyStmt s l st with
      | cont s' => exact ih s' _ (simStep sim st) (applyStmt_inv s s' l st sim hap hi) ha hev
      | abort s' er => exact hev

theorem queryProgram_gated (P : Parser) (w : World) (role : Option (String × Role)) (kgArg : Option String)
    (text : List Char)
    (ha : authorizeLines P w role ⟨some (kgArg.getD "default"), w.kgs.map (·.name)⟩ (logicalLines text) = none) :
    ∀ e ∈ (queryProgram P w kgArg text).trace, Gated w role e := by
  unfold queryProgram
  dsimp only
  split
  · exact fun _ he => nomatch he
  · split
    · exact fun _ he => nomatch he
    · rw [phase2_eq_specRun P (logicalLines text) _ _ (fun l hl => logicalLines_trimmed text l hl)]
      have key := specRun_gated P w role (logicalLines text) ⟨w, kgArg.getD "default", [], none, none, [], []⟩ []
        _ ⟨rfl, names_contains w⟩ ha (fun _ he => nomatch he)
      split
      · rename_i hsr; rw [hsr] at key; exact key
      · rename_i hsr; rw [hsr] at key; rw [finish_trace]; exact key

theorem authorize_single {P : Parser} {w : World} {role : Option (String × Role)} {start : String} {text : List Char}
    {st : Stmt} (ha : authorizeLines P w role ⟨some start, w.kgs.map (·.name)⟩ (logicalLines text) = none)
    (hs : singleStmt P text = some st) : Gated w role ⟨st, start⟩ := by
  unfold singleStmt at hs
  split at hs
  · rename_i l hl
    rw [hl] at ha
    exact (authorizeLines_cons hs ha).1
  · cases hs

theorem fastPath_trace (w : World) (sraw : Option Sess) (single : Option Stmt) (cur : String) (o : Out)
    (h : fastPath w sraw single cur = some o) : ∀ e ∈ o.trace, e.kg = cur ∧ single = some e.stmt :=
  (h ▸ fastPath_atMost w sraw single cur).trace

theorem sessionIntercept_trace (w : World) (sraw : Option Sess) (whole : Option Stmt) (cur : String) (o : Out)
    (h : sessionIntercept w sraw whole (some cur) = some o) : ∀ e ∈ o.trace, e.kg = cur ∧ whole = some e.stmt :=
  (h ▸ sessionIntercept_atMost w sraw whole (some cur)).trace

theorem queryWithSession_gated (P : Parser) (w : World) (role : Option (String × Role)) (text : List Char)
    (se : Sess) (hf : findSess w se.user = some se)
    (ha : authorizeLines P w role ⟨some (if se.closed then "default" else se.kg), w.kgs.map (·.name)⟩ (logicalLines text) = none) :
    ∀ e ∈ (queryWithSession P w se.user text).trace, Gated w role e := by
  refine queryWithSession_exits (Φ := fun o => ∀ e ∈ o.trace, Gated w role e) P w se.user text
    (fun hc => ?_) (fun se' hf' hc => ?_) (fun _ _ he => nomatch he) (fun se' l rel n hf' hc hl hp => ?_)
  · rw [hc se hf] at ha
    exact queryProgram_gated P w role none text ha
  · cases hf.symm.trans hf'
    rw [hc] at ha
    exact queryProgram_gated P w role (some se.kg) text ha
  · cases hf.symm.trans hf'
    rw [hc, hl] at ha
    exact List.forall_mem_singleton.2 (authorizeLines_cons hp ha).1

/-- the start KG of the pre-pass is the KG the query path starts on -/
theorem queryPath_gated (P : Parser) (w : World) (rq : Req) (role : Option (String × Role)) (whole : Option Stmt)
    (sraw : Option Sess) (hsr : ∀ se, sraw = some se → findSess w se.user = some se)
    (ha : authorizeLines P w role ⟨some (startKgOf rq sraw), w.kgs.map (·.name)⟩ (logicalLines rq.text) = none) :
    ∀ e ∈ (queryPath P w rq role whole sraw).trace, Gated w role e := by
  unfold queryPath
  split
  · exact fun _ he => nomatch he
  · rename_i effKg heff
    rw [postProcess_trace]
    split
    · rename_i se hq
      rw [startKgOf_session rq se hq] at ha
      exact queryWithSession_gated P w role rq.text se (hsr se rfl) ha
    · rename_i sraw _ _ hn
      have hq : startsWithChar '?' (trim rq.text) = false ∨ sraw = none := by
        cases hq : startsWithChar '?' (trim rq.text) with
        | false => exact .inl rfl
        | true => cases sraw with
          | none => exact .inr rfl
          | some se => exact absurd rfl (hn se hq)
      rw [startKgOf_effective rq sraw effKg heff hq] at ha
      exact queryProgram_gated P w role effKg rq.text ha

theorem authorizeProgram_none {P : Parser} {w : World} {role : Option (String × Role)} {start : Option String}
    {lines : List (List Char)} (h : authorizeProgram P w role start lines = none) :
    authorizeLines P w role ⟨start, w.kgs.map (·.name)⟩ lines = none := by
  unfold authorizeProgram at h
  split at h
  · cases h
  · exact h

/-- every statement `execute_program` runs passed the three gates against the KG it ran on. -/
theorem exec_gated (P : Parser) (w : World) (rq : Req) :
    ∀ e ∈ (execProgram P w rq).trace, ∃ role, identityOf w rq.user = some role ∧ Gated w role e := by
  unfold execProgram
  split
  · exact fun _ he => nomatch he
  · rename_i role hid
    dsimp only
    split
    · exact fun _ he => nomatch he
    · rename_i hap
      intro e he
      refine ⟨role, hid, ?_⟩
      have ha := authorizeProgram_none hap
      -- the fast path and the session interception run at most the single statement, on the start KG
      have hsingle : e.kg = startKgOf rq (sessOf w rq) ∧ singleStmt P rq.text = some e.stmt → Gated w role e := by
        intro ⟨hk, hs⟩
        unfold Gated
        rw [hk]
        exact authorize_single ha hs
      split at he
      · rename_i o hfp
        exact hsingle (fastPath_trace _ _ _ _ o hfp e he)
      · unfold execRest at he
        split at he
        · rename_i o hsi
          exact hsingle (sessionIntercept_trace _ _ _ _ o hsi e he)
        · exact queryPath_gated P w rq role _ (sessOf w rq) (fun se hse => sraw_found w rq se hse) ha e he

end ILV.Props.C27
