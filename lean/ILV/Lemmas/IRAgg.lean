/-
  The `Aggregate` node of the IR model computes exact group/aggregate values of its input bag:
  one row per distinct group key; count = number of input rows of the group (with multiplicity);
  sum = the exact integer sum whenever the absolute values fit in i64; min/max = least/greatest
  element in `Ord for Value`; count_distinct = number of distinct values.
-/
import ILV.Lemmas.IRBasic
import ILV.Props.C31
namespace ILV.IR
open ILV

/-- the rows of the group with key `k`, as the aggregate sees them -/
def groupOf (rows : List Tuple) (gb : List Nat) (k : Tuple) : List Tuple :=
  sortBy tupleLe (rows.filter (fun t => project t gb == k))

theorem mem_groupOf {rows : List Tuple} {gb : List Nat} {k t : Tuple} :
    t ∈ groupOf rows gb k ↔ t ∈ rows ∧ project t gb = k := by
  simp [groupOf, mem_sortBy]

theorem aggRows_eq (rows : List Tuple) (gb : List Nat) (aggs : List (Agg × Nat)) :
    aggRows rows gb aggs =
      (dedup (rows.map (fun t => project t gb))).map (fun k => k ++ aggs.map (aggVal (groupOf rows gb k))) := rfl

theorem agg_row_of_group {rows : List Tuple} {gb : List Nat} {aggs : List (Agg × Nat)} {o : Tuple}
    (h : o ∈ aggRows rows gb aggs) :
    ∃ t ∈ rows, o = project t gb ++ aggs.map (aggVal (groupOf rows gb (project t gb))) := by
  rw [aggRows_eq] at h
  simp only [List.mem_map, mem_dedup] at h
  obtain ⟨k, ⟨t, ht, rfl⟩, rfl⟩ := h
  exact ⟨t, ht, rfl⟩

theorem agg_group_has_row {rows : List Tuple} {gb : List Nat} {aggs : List (Agg × Nat)} {t : Tuple} (h : t ∈ rows) :
    project t gb ++ aggs.map (aggVal (groupOf rows gb (project t gb))) ∈ aggRows rows gb aggs := by
  rw [aggRows_eq]
  simp only [List.mem_map, mem_dedup]
  exact ⟨project t gb, ⟨t, h, rfl⟩, rfl⟩

theorem agg_one_row_per_group (rows : List Tuple) (gb : List Nat) (aggs : List (Agg × Nat)) :
    (aggRows rows gb aggs).length = (dedup (rows.map (fun t => project t gb))).length ∧
    (dedup (rows.map (fun t => project t gb))).Nodup := by
  rw [aggRows_eq]
  exact ⟨by simp, nodup_dedup _⟩

theorem agg_count_exact (rows : List Tuple) (gb : List Nat) (k : Tuple) (c : Nat) :
    aggVal (groupOf rows gb k) (.count, c) = .i64 ((rows.filter (fun t => project t gb == k)).length : Nat) := by
  simp [aggVal, groupOf, length_sortBy]

def colI64 (c : Nat) (t : Tuple) : Int := match t[c]? with | some v => toI64 v | none => 0

theorem agg_sum_clamped (g : List Tuple) (c : Nat) :
    aggVal g (.sum, c) = .i64 (satI64 ((g.map (colI64 c)).foldl (· + ·) 0)) := by
  have e : aggVal g (.sum, c) = .i64 (satI64 (g.foldl (fun acc t => acc + colI64 c t) 0)) := rfl
  rw [e, List.foldl_map]

theorem satI64_of_fits {n : Int} (h : n.natAbs < 2^63) : satI64 n = n := by
  unfold satI64
  split
  · omega
  · split <;> omega

theorem foldl_add_natAbs_le : ∀ (vals : List Int) (acc : Int),
    (vals.foldl (· + ·) acc).natAbs ≤ acc.natAbs + (vals.map Int.natAbs).sum
  | [], acc => by simp
  | v :: vs, acc => by
    have := foldl_add_natAbs_le vs (acc + v)
    have h2 : (acc + v).natAbs ≤ acc.natAbs + v.natAbs := Int.natAbs_add_le acc v
    simp only [List.foldl_cons, List.map_cons, List.sum_cons]
    omega

theorem agg_sum_exact (g : List Tuple) (c : Nat) (h : ((g.map (colI64 c)).map Int.natAbs).sum < 2^63) :
    aggVal g (.sum, c) = .i64 ((g.map (colI64 c)).foldl (· + ·) 0) := by
  rw [agg_sum_clamped, satI64_of_fits]
  have := foldl_add_natAbs_le (g.map (colI64 c)) 0
  simp only [Int.natAbs_zero, Nat.zero_add] at this
  omega

/- `valMin` and `valMax` are the same right fold: the head `x` replaces the best `m` of the tail when
   `keep x m`.  What such a fold returns is stated once, for any `f` with these two equations. -/

theorem best_none {f : List Value → Option Value} {keep : Value → Value → Bool} (hnil : f [] = none)
    (hcons : ∀ x xs, f (x :: xs) = match f xs with
      | none => some x
      | some m => if keep x m then some x else some m) :
    ∀ {l : List Value}, f l = none → l = []
  | [], _ => rfl
  | x :: xs, h => by
    rw [hcons] at h
    split at h
    · cases h
    · split at h <;> cases h

theorem best_spec {f : List Value → Option Value} {keep : Value → Value → Bool} {R : Value → Value → Prop}
    {WF : Value → Prop} (hnil : f [] = none)
    (hcons : ∀ x xs, f (x :: xs) = match f xs with
      | none => some x
      | some m => if keep x m then some x else some m)
    (hrefl : ∀ v, WF v → R v v) (htrans : ∀ a b c, WF a → WF b → WF c → R a b → R b c → R a c)
    (hkeep : ∀ x m, WF x → WF m → keep x m = true → R x m) (hdrop : ∀ x m, WF x → WF m → keep x m = false → R m x) :
    ∀ (l : List Value), (∀ v ∈ l, WF v) → ∀ m, f l = some m → m ∈ l ∧ ∀ v ∈ l, R m v
  | [], _, m, h => by rw [hnil] at h; cases h
  | x :: xs, hw, m, h => by
    have hx := hw x List.mem_cons_self
    have hxs : ∀ v ∈ xs, WF v := fun v hv => hw v (List.mem_cons_of_mem _ hv)
    rw [hcons] at h
    split at h
    · next hm =>
      cases h
      cases best_none hnil hcons hm
      exact ⟨List.mem_cons_self, fun v hv => by cases List.mem_singleton.1 hv; exact hrefl _ hx⟩
    · next m' hm =>
      have ih := best_spec hnil hcons hrefl htrans hkeep hdrop xs hxs m' hm
      have hm' := hxs m' ih.1
      split at h
      · next hk =>
        cases h
        refine ⟨List.mem_cons_self, fun v hv => ?_⟩
        rcases List.mem_cons.1 hv with rfl | hv
        · exact hrefl _ hx
        · exact htrans _ _ _ hx hm' (hxs v hv) (hkeep _ _ hx hm' hk) (ih.2 v hv)
      · next hk =>
        cases h
        refine ⟨List.mem_cons_of_mem _ ih.1, fun v hv => ?_⟩
        rcases List.mem_cons.1 hv with rfl | hv
        · exact hdrop _ _ hx hm' (Bool.eq_false_iff.2 hk)
        · exact ih.2 v hv

theorem valMin_none {l : List Value} (h : valMin l = none) : l = [] :=
  best_none (keep := fun x m => Value.cmp x m != .gt) rfl (fun _ _ => rfl) h

theorem valMax_none {l : List Value} (h : valMax l = none) : l = [] :=
  best_none (keep := fun x m => Value.cmp x m == .gt) rfl (fun _ _ => rfl) h

theorem aggVal_min {g : List Tuple} {c : Nat} {m : Value} (hm : valMin (g.filterMap (fun t => t[c]?)) = some m) :
    aggVal g (.min, c) = m := by
  show (valMin _).getD .null = m
  rw [hm]; rfl

theorem aggVal_max {g : List Tuple} {c : Nat} {m : Value} (hm : valMax (g.filterMap (fun t => t[c]?)) = some m) :
    aggVal g (.max, c) = m := by
  show (valMax _).getD .null = m
  rw [hm]; rfl

open ILV.Props.C31 in
theorem valMin_spec : ∀ (l : List Value), (∀ v ∈ l, Value.WF v) → ∀ m, valMin l = some m →
    m ∈ l ∧ ∀ v ∈ l, Value.cmp m v ≠ .gt :=
  best_spec (keep := fun x m => Value.cmp x m != .gt) (R := fun a b => Value.cmp a b ≠ .gt) rfl (fun _ _ => rfl)
    (fun v hv => by rw [value_lawful.refl v hv]; decide)
    (fun a b c => value_lawful.trans a b c)
    (fun x m _ _ hk => bne_iff_ne.1 hk)
    (fun x m hx hm hk => by
      have : Value.cmp x m = .gt := by simpa using hk
      rw [value_lawful.swap _ _ hx hm, this]; decide)

open ILV.Props.C31 in
theorem valMax_spec : ∀ (l : List Value), (∀ v ∈ l, Value.WF v) → ∀ m, valMax l = some m →
    m ∈ l ∧ ∀ v ∈ l, Value.cmp v m ≠ .gt :=
  best_spec (keep := fun x m => Value.cmp x m == .gt) (R := fun a b => Value.cmp b a ≠ .gt) rfl (fun _ _ => rfl)
    (fun v hv => by rw [value_lawful.refl v hv]; decide)
    (fun a b c ha hb hc hab hbc => value_lawful.trans c b a hc hb ha hbc hab)
    (fun x m hx hm hk => by rw [value_lawful.swap _ _ hx hm, eq_of_beq hk]; decide)
    (fun x m _ _ hk => by rw [← Bool.not_eq_true, beq_iff_eq] at hk; exact hk)

theorem mem_dedupVals {x : Value} {l : List Value} : x ∈ dedupVals l ↔ x ∈ l := by
  induction l with
  | nil => simp [dedupVals]
  | cons y ys ih =>
    simp only [dedupVals]
    split
    · rename_i h
      constructor
      · intro hx; exact List.mem_cons_of_mem _ (ih.1 hx)
      · intro hx
        rcases List.mem_cons.1 hx with rfl | hx
        · exact ih.2 h
        · exact ih.2 hx
    · simp [ih]

theorem nodup_dedupVals (l : List Value) : (dedupVals l).Nodup := by
  induction l with
  | nil => simp [dedupVals]
  | cons x xs ih =>
    simp only [dedupVals]
    split
    · exact ih
    · rename_i h
      exact List.nodup_cons.2 ⟨fun hx => h (mem_dedupVals.1 hx), ih⟩

end ILV.IR
