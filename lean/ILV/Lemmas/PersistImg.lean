/-
  For C13: the shape `Img` of every running disk and every as-is crash image of a single-shard store, how
  a single FS step moves it, and the vocabulary for "every disk between the steps of an operation" (`AllPre`,
  `PreOk`, `Steps`).
-/
import ILV.Lemmas.PersistSpec
namespace ILV.Persist
open ILV.FS

/-- tagged WAL lines of shard `s` -/
def walItems (s : Name) (es : List Update) : List (Item Rec) := (es.map (fun u => (s, u))).map mk

/-- `Img s d md X es`: the only metadata file is the one of shard `s` and holds `md` (none: no metadata file at all);
    the batch files it references parse to the updates `X`; the WAL is absent (then `es = []`) or holds exactly the
    entries `es`, all of shard `s`; there is no `current.wal.new`.  Other files (temp files, unreferenced batches) are
    unconstrained. -/
structure Img (s : Name) (d : Disk) (md : Option ShardMeta) (X es : List Update) : Prop where
  noMeta : md = none → (∀ f, itemsAt d (.smeta f) = none) ∧ X = [] ∧ es = []
  hasMeta : ∀ m, md = some m → m.name = s ∧ itemsAt d (.smeta (metaFile s)) = some [.whole (.smeta m)] ∧
    (∀ f, f ≠ metaFile s → itemsAt d (.smeta f) = none) ∧ readBatches d m.batches = some X
  wal : (itemsAt d .wal = none ∧ es = []) ∨ itemsAt d .wal = some (walItems s es)
  walNew : itemsAt d .walNew = none

/-- the paths `Img` looks at (temp files and unreferenced batch files are not among them) -/
def observed (md : Option ShardMeta) : Path → Prop
  | .smeta _ => True
  | .wal => True
  | .walNew => True
  | .batch id => ∃ m, md = some m ∧ ∃ b ∈ m.batches, b.id = id
  | _ => False

theorem Img.move {s d d' md X es es'} (h : Img s d md X es)
    (hag : ∀ q, observed md q → q ≠ .wal → itemsAt d' q = itemsAt d q)
    (hw : (itemsAt d' .wal = none ∧ es' = []) ∨ itemsAt d' .wal = some (walItems s es'))
    (hmd : md = none → es' = []) : Img s d' md X es' := by
  have hsm : ∀ f, itemsAt d' (.smeta f) = itemsAt d (.smeta f) := fun f => hag (.smeta f) trivial nofun
  refine ⟨fun hm => ?_, fun m hm => ?_, hw, by rw [hag .walNew trivial nofun]; exact h.walNew⟩
  · obtain ⟨h1, h2, _⟩ := h.noMeta hm
    exact ⟨fun f => by rw [hsm]; exact h1 f, h2, hmd hm⟩
  · obtain ⟨h1, h2, h3, h4⟩ := h.hasMeta m hm
    refine ⟨h1, by rw [hsm]; exact h2, fun f hf => by rw [hsm]; exact h3 f hf, ?_⟩
    rw [← h4]
    exact readBatches_congr _ (fun b hb => hag (.batch b.id) ⟨m, hm, b, hb, rfl⟩ nofun)

theorem Img.agree {s d d' md X es} (h : Img s d md X es)
    (hag : ∀ q, observed md q → itemsAt d' q = itemsAt d q) : Img s d' md X es :=
  h.move (fun q hq _ => hag q hq) (by rw [hag .wal trivial]; exact h.wal) (fun hm => (h.noMeta hm).2.2)

theorem Img.crash {s d md X es} (h : Img s d md X es) : Img s (crash d noCut) md X es :=
  h.agree (fun q _ => itemsAt_crash_noCut d q)

theorem Img.fsync {s d md X es} (h : Img s d md X es) (p : Path) : Img s (apply d (.fsync p)) md X es :=
  h.agree (fun q _ => itemsAt_fsync d p q)

theorem Img.nop {s d md X es} (h : Img s d md X es) (l : Nat) : Img s (apply d (.nop l)) md X es :=
  h.agree (fun q _ => itemsAt_nop d l q)

theorem Img.write {s d md X es} (h : Img s d md X es) (p : Path) (hp : ¬ observed md p) (rs : List Rec) :
    Img s (apply d (.write p rs)) md X es :=
  h.agree (fun q hq => by rw [itemsAt_write, if_neg (fun e : p = q => hp (e ▸ hq))])

theorem Img.unlink {s d md X es} (h : Img s d md X es) (p : Path) (hp : ¬ observed md p) :
    Img s (apply d (.unlink p)) md X es :=
  h.agree (fun q hq => by rw [itemsAt_unlink, if_neg (fun e : q = p => hp (e ▸ hq))])

theorem Img.rename {s d md X es} (h : Img s d md X es) (a b : Path) (ha : ¬ observed md a) (hb : ¬ observed md b) :
    Img s (apply d (.rename a b)) md X es :=
  h.agree (fun q hq => by
    rw [itemsAt_rename]
    split
    · rw [if_neg (fun e : b = q => hb (e ▸ hq)), if_neg (fun e : q = a => ha (e ▸ hq))]
    · rfl)

theorem Img.wal_getD {s d md X es} (h : Img s d md X es) : (itemsAt d .wal).getD [] = walItems s es := by
  rcases h.wal with ⟨h1, h2⟩ | h1
  · rw [h1, h2]; rfl
  · rw [h1]; rfl

/-- `wal.open`: the file is created empty if missing -/
theorem Img.wal_open {s d md X es} (h : Img s d md X es) : Img s (apply d (.append .wal [])) md X es :=
  h.move (fun q _ hq => by rw [itemsAt_append, if_neg (Ne.symm hq)])
    (.inr (by rw [itemsAt_append, if_pos rfl, h.wal_getD]; simp)) (fun hm => (h.noMeta hm).2.2)

/-- `wal.append.write`: the request's lines are appended -/
theorem Img.wal_append {s d m X es} (h : Img s d (some m) X es) (new : List Update) :
    Img s (apply d (.append .wal (new.map (fun u => Rec.wal s u)))) (some m) X (es ++ new) :=
  h.move (fun q _ hq => by rw [itemsAt_append, if_neg (Ne.symm hq)])
    (.inr (by rw [itemsAt_append, if_pos rfl, h.wal_getD]; simp [walItems, Persist.mk])) nofun

/-- `remove_shard_entries` on a WAL that holds this shard's entries only: the file is unlinked -/
theorem Img.unlink_wal {s d md X es} (h : Img s d md X es) : Img s (apply d (.unlink .wal)) md X [] :=
  h.move (fun q _ hq => by rw [itemsAt_unlink, if_neg hq]) (.inl ⟨by rw [itemsAt_unlink, if_pos rfl], rfl⟩)
    (fun _ => rfl)

theorem readBatches_append (d : Disk) (a b : List BatchRef) (A B : List Update)
    (ha : readBatches d a = some A) (hb : readBatches d b = some B) : readBatches d (a ++ b) = some (A ++ B) := by
  induction a generalizing A with
  | nil => simp [readBatches] at ha; subst ha; simpa using hb
  | cons x xs ih =>
    simp only [readBatches, List.cons_append] at ha ⊢
    cases hx : readBatch d x.id with
    | none => simp [hx] at ha
    | some ux =>
      cases hxs : readBatches d xs with
      | none => simp [hx, hxs] at ha
      | some uxs =>
        simp only [hx, hxs, Option.some.injEq] at ha
        subst ha
        simp [ih uxs hxs, List.append_assoc]

/-- the rename of `save_shard_meta`: the prepared document `m'` becomes the shard's metadata.  `ensure_shard` uses it
    for the first metadata file, `flush` to make the new batch referenced. -/
theorem Img.rename_meta {s d md X es} (h : Img s d md X es) {m' : ShardMeta} {X' : List Update} (hn : m'.name = s)
    (hsrc : itemsAt d (.metaTmp (metaFile s)) = some [.whole (.smeta m')])
    (hX : readBatches d m'.batches = some X') :
    Img s (apply d (.rename (.metaTmp (metaFile s)) (.smeta (metaFile s)))) (some m') X' es := by
  have hkeep : ∀ q, q ≠ .smeta (metaFile s) → q ≠ .metaTmp (metaFile s) →
      itemsAt (apply d (.rename (.metaTmp (metaFile s)) (.smeta (metaFile s)))) q = itemsAt d q := by
    intro q h1 h2
    rw [itemsAt_rename, hsrc]
    exact (if_neg (Ne.symm h1)).trans (if_neg h2)
  have hothers : ∀ f, f ≠ metaFile s → itemsAt d (.smeta f) = none := by
    cases md with
    | none => exact fun f _ => (h.noMeta rfl).1 f
    | some m => exact (h.hasMeta m rfl).2.2.1
  refine ⟨nofun, fun m hm => ?_, ?_, ?_⟩
  · cases hm
    refine ⟨hn, by rw [itemsAt_rename, hsrc]; exact if_pos rfl, fun f hf => ?_, ?_⟩
    · rw [hkeep (.smeta f) (by simpa using hf) nofun]; exact hothers f hf
    · rw [← hX]; exact readBatches_congr _ (fun b _ => hkeep (.batch b.id) nofun nofun)
  · rw [hkeep .wal nofun nofun]; exact h.wal
  · rw [hkeep .walNew nofun nofun]; exact h.walNew

theorem readAll_of_img {s d md X es} (h : Img s d md X es) : readAll d = some (es.map (fun u => (s, u))) := by
  rw [readAll_eq]
  rcases h.wal with ⟨h1, h2⟩ | h1
  · simp [h1, h2]
  · simp only [h1, walItems]; exact walParse_mk _

theorem isSome_walNew {s d md X es} (h : Img s d md X es) : (get d .walNew).isSome = false := by
  rw [isSome_get, h.walNew]; rfl

/-- the defect window, as a decidable predicate on a disk image: some shard's WAL is non-empty and the newest batch
    its metadata references holds exactly that shard's WAL entries (the flush renamed the metadata into place but the
    WAL was not rewritten yet). -/
def imageDoubled (d : Disk) : Bool :=
  match readAll d with
  | none => false
  | some entries =>
    (metaPaths d).any (fun f =>
      match readDoc d (.smeta f) with
      | some (.smeta m) =>
        let mine := (entries.filter (fun e => e.1 = m.name)).map (·.2)
        match m.batches.getLast? with
        | some b => decide (mine ≠ []) && decide (readBatch d b.id = some mine)
        | none => false
      | _ => false)

/-- the doubled image in `Img` terms -/
structure DblImg (s : Name) (d : Disk) : Prop where
  ex : ∃ m X es b, Img s d (some m) X es ∧ es ≠ [] ∧ m.batches.getLast? = some b ∧
    itemsAt d (.batch b.id) = some [.whole (.batch es)]

theorem filter_tag_ne (s : Name) (es : List Update) :
    (es.map (fun u => (s, u))).filter (fun e => decide (e.1 ≠ s)) = [] := by
  simp [List.filter_eq_nil_iff]

theorem filter_tag_eq (s : Name) (es : List Update) :
    ((es.map (fun u => (s, u))).filter (fun e => decide (e.1 = s))).map (·.2) = es := by
  induction es with
  | nil => rfl
  | cons e es ih => simp [ih]

theorem DblImg.doubled {s d} (h : DblImg s d) : imageDoubled d = true := by
  obtain ⟨m, X, es, b, himg, hes, hlast, hb⟩ := h.ex
  obtain ⟨hname, hmeta, _, _⟩ := himg.hasMeta m rfl
  have hread := readAll_of_img himg
  have hmem : metaFile s ∈ metaPaths d := (mem_metaPaths d _).2 (by simp [hmeta])
  have hdoc : readDoc d (.smeta (metaFile s)) = some (.smeta m) := by rw [readDoc_eq, hmeta]
  have hmine : ((es.map (fun u => (s, u))).filter (fun e => decide (e.1 = m.name))).map (·.2) = es := by
    rw [hname]; exact filter_tag_eq s es
  have hrb : readBatch d b.id = some es := by simp [readBatch, readDoc_eq, hb]
  simp only [imageDoubled, hread, List.any_eq_true]
  exact ⟨metaFile s, hmem, by simp [hdoc, hmine, hlast, hes, hrb]⟩

theorem DblImg.crash {s d} (h : DblImg s d) : DblImg s (crash d noCut) := by
  obtain ⟨m, X, es, b, himg, hes, hlast, hb⟩ := h.ex
  exact ⟨m, X, es, b, himg.crash, hes, hlast, by rw [itemsAt_crash_noCut]; exact hb⟩

/-- what a prefix image may look like: content old (`C`) or new (`C'`), or the doubled image -/
def PreOk (s : Name) (C C' : List Update) (d : Disk) : Prop :=
  (∃ md X es, Img s d md X es ∧ (X ++ es = C ∨ X ++ es = C')) ∨ DblImg s d

theorem Img.old {s d md X es} (h : Img s d md X es) (C' : List Update) : PreOk s (X ++ es) C' d :=
  .inl ⟨_, _, _, h, .inl rfl⟩

theorem Img.new {s d md X es} (h : Img s d md X es) (C : List Update) : PreOk s C (X ++ es) d :=
  .inl ⟨_, _, _, h, .inr rfl⟩

def AllPre (d : Disk) (ops : List (Op Path Rec)) (Q : Disk → Prop) : Prop := ∀ j, Q (applyAll d (ops.take j))

theorem allPre_nil {d : Disk} {Q : Disk → Prop} (h : Q d) : AllPre d [] Q := fun j => by rwa [List.take_nil]

theorem allPre_cons {d : Disk} {o : Op Path Rec} {rest : List (Op Path Rec)} {Q : Disk → Prop}
    (h0 : Q d) (h : AllPre (apply d o) rest Q) : AllPre d (o :: rest) Q := by
  intro j
  cases j with
  | zero => exact h0
  | succ j => exact h j

theorem allPre_append {d : Disk} {a b : List (Op Path Rec)} {Q : Disk → Prop}
    (ha : AllPre d a Q) (hb : AllPre (applyAll d a) b Q) : AllPre d (a ++ b) Q := by
  intro j
  rw [List.take_append]
  by_cases hj : j ≤ a.length
  · rw [Nat.sub_eq_zero_of_le hj, List.take_zero, List.append_nil]; exact ha j
  · rw [List.take_of_length_le (by omega), applyAll_append]
    exact hb (j - a.length)

theorem AllPre.full {d : Disk} {ops : List (Op Path Rec)} {Q : Disk → Prop} (h : AllPre d ops Q) :
    Q (applyAll d ops) := by
  have := h ops.length
  simpa using this

theorem AllPre.mono {d : Disk} {ops : List (Op Path Rec)} {Q Q' : Disk → Prop} (h : AllPre d ops Q)
    (hq : ∀ d', Q d' → Q' d') : AllPre d ops Q' := fun j => hq _ (h j)

/-- `w'` is reached from `w` by emitting FS steps, and `Q` holds of the disk before, between and after them; memory
    is unconstrained. -/
def Steps (Q : Disk → Prop) (w w' : World) : Prop :=
  ∃ tr, w'.trace = w.trace ++ tr ∧ w'.disk = applyAll w.disk (tr.map (·.2)) ∧ AllPre w.disk (tr.map (·.2)) Q

theorem Steps.refl {Q : Disk → Prop} {w : World} (h : Q w.disk) : Steps Q w w :=
  ⟨[], (List.append_nil _).symm, rfl, allPre_nil h⟩

theorem Steps.emit {Q : Disk → Prop} {w : World} (l : Lbl) (o : Op Path Rec) (h0 : Q w.disk) (h1 : Q (apply w.disk o)) :
    Steps Q w (emit w l o) :=
  ⟨[(l, o)], rfl, rfl, allPre_cons h0 (allPre_nil h1)⟩

theorem Steps.trans {Q : Disk → Prop} {w w' w'' : World} (h1 : Steps Q w w') (h2 : Steps Q w' w'') : Steps Q w w'' := by
  obtain ⟨t1, a1, b1, c1⟩ := h1
  obtain ⟨t2, a2, b2, c2⟩ := h2
  refine ⟨t1 ++ t2, by rw [a2, a1, List.append_assoc], by rw [b2, b1, List.map_append, applyAll_append], ?_⟩
  rw [List.map_append]
  exact allPre_append c1 (b1 ▸ c2)

theorem Steps.mono {Q Q' : Disk → Prop} {w w' : World} (h : Steps Q w w') (hq : ∀ d, Q d → Q' d) : Steps Q' w w' := by
  obtain ⟨tr, a, b, c⟩ := h
  exact ⟨tr, a, b, c.mono hq⟩

theorem Steps.last {Q : Disk → Prop} {w w' : World} (h : Steps Q w w') : Q w'.disk := by
  obtain ⟨tr, _, b, c⟩ := h
  rw [b]; exact c.full

theorem Steps.allPre {Q : Disk → Prop} {w w' : World} (h : Steps Q w w') (ht : w.trace = []) :
    AllPre w.disk (w'.trace.map (·.2)) Q := by
  obtain ⟨tr, a, _, c⟩ := h
  rw [a, ht]; exact c

end ILV.Persist
