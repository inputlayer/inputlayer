/-
  Re-inserting the sorted excluded key positions inverts `Tuple::excluding_indices`:
  `(excluding b rk)[j]? = b[reinsert (sortNat rk) j]?` (used by the filter push-down into the right
  join input and by the Join+Map fusion).
-/
import ILV.Lemmas.IRBasic
namespace ILV.IR
open ILV

theorem mem_sortNat0 {x : Nat} {l : List Nat} : x ∈ sortNat0 l ↔ x ∈ l := mem_sortBy

theorem pairwise_insertBy {a : Nat} {l : List Nat} (hl : l.Pairwise (· < ·)) (ha : a ∉ l) :
    (insertBy (fun (x y : Nat) => decide (x ≤ y)) a l).Pairwise (· < ·) := by
  induction l with
  | nil => simp [insertBy]
  | cons y ys ih =>
    simp only [insertBy]
    have hy := List.pairwise_cons.1 hl
    simp only [List.mem_cons, not_or] at ha
    split
    · rename_i hle
      have hle : a ≤ y := by simpa using hle
      have hay : a < y := by omega
      refine List.pairwise_cons.2 ⟨?_, hl⟩
      intro z hz
      rcases List.mem_cons.1 hz with rfl | hz
      · exact hay
      · exact Nat.lt_trans hay (hy.1 z hz)
    · rename_i hle
      have hle : ¬ a ≤ y := by simpa using hle
      refine List.pairwise_cons.2 ⟨?_, ih hy.2 ha.2⟩
      intro z hz
      rcases List.mem_cons.1 ((insertBy_perm _ a ys).mem_iff.1 hz) with rfl | hz
      · omega
      · exact hy.1 z hz

theorem sortNat0_strict {l : List Nat} (h : nodupNat l = true) : (sortNat0 l).Pairwise (· < ·) := by
  induction l with
  | nil => simp [sortNat0, sortBy]
  | cons a l ih =>
    simp only [nodupNat, Bool.and_eq_true, Bool.not_eq_true', List.contains_eq_mem, decide_eq_false_iff_not] at h
    have := pairwise_insertBy (a := a) (ih h.2) (by rw [mem_sortNat0]; exact h.1)
    simpa [sortNat0, sortBy] using this

theorem dedupAdj_of_strict : ∀ (l : List Nat), l.Pairwise (· < ·) → dedupAdj l = l
  | [], _ => rfl
  | [_], _ => rfl
  | x :: y :: rest, h => by
    have hp := List.pairwise_cons.1 h
    have hxy : x < y := hp.1 y (by simp)
    have hne : (x == y) = false := by simp; omega
    simp only [dedupAdj, hne, Bool.false_eq_true, if_false, dedupAdj_of_strict (y :: rest) hp.2]

theorem sortNat_eq {l : List Nat} (h : nodupNat l = true) : sortNat l = sortNat0 l :=
  dedupAdj_of_strict _ (sortNat0_strict h)

theorem mem_sortNat {x : Nat} {l : List Nat} (h : nodupNat l = true) : x ∈ sortNat l ↔ x ∈ l := by
  rw [sortNat_eq h]; exact mem_sortNat0

theorem sortNat_strict {l : List Nat} (h : nodupNat l = true) : (sortNat l).Pairwise (· < ·) := by
  rw [sortNat_eq h]; exact sortNat0_strict h

theorem excludingAux_congr {ex ex' : List Nat} (h : ∀ x, x ∈ ex ↔ x ∈ ex') (i : Nat) (vs : Tuple) :
    excludingAux ex i vs = excludingAux ex' i vs := by
  induction vs generalizing i with
  | nil => rfl
  | cons v vs ih =>
    have : ex.contains i = ex'.contains i := by
      rw [Bool.eq_iff_iff]; simp [h i]
    simp only [excludingAux, this, ih]

theorem excludingAux_skip {k : Nat} {ks : List Nat} (i : Nat) (vs : Tuple) (h : k < i) :
    excludingAux (k :: ks) i vs = excludingAux ks i vs := by
  induction vs generalizing i with
  | nil => rfl
  | cons v vs ih =>
    have : (k :: ks).contains i = ks.contains i := by
      have : i ≠ k := by omega
      simp [List.contains_cons, this]
    simp only [excludingAux, this, ih (i + 1) (by omega)]

theorem excludingAux_cons {k : Nat} {ks : List Nat} (hk : ∀ k' ∈ ks, k < k') (i : Nat) (vs : Tuple) (hi : i ≤ k) :
    excludingAux (k :: ks) i vs = (excludingAux ks i vs).eraseIdx (k - i) := by
  induction vs generalizing i with
  | nil => simp [excludingAux]
  | cons v vs ih =>
    have hnk : ks.contains i = false := by
      cases hc : ks.contains i with
      | false => rfl
      | true => have := hk i (by simpa using hc); omega
    by_cases hik : i = k
    · subst hik
      simp only [excludingAux, List.contains_cons, beq_self_eq_true, Bool.true_or, ↓reduceIte, hnk,
        Bool.false_eq_true, Nat.sub_self, List.eraseIdx_cons_zero]
      exact excludingAux_skip (i + 1) vs (by omega)
    · have hlt : i < k := by omega
      have : (k :: ks).contains i = false := by
        have h1 : i ≠ k := hik
        have h2 : i ∉ ks := by simpa using hnk
        simp [h1, h2]
      simp only [excludingAux, this, hnk, Bool.false_eq_true, ↓reduceIte]
      have e : k - i = (k - (i + 1)) + 1 := by omega
      rw [e, List.eraseIdx_cons_succ, ih (i + 1) (by omega)]

theorem excluding_reinsert_sorted (b : Tuple) : ∀ (ks : List Nat), ks.Pairwise (· < ·) → ∀ j,
    (excludingAux ks 0 b)[j]? = b[reinsert ks j]?
  | [], _, j => by
    have : excludingAux [] 0 b = b := by
      have : ∀ i (vs : Tuple), excludingAux [] i vs = vs := by
        intro i vs; induction vs generalizing i with
        | nil => rfl
        | cons v vs ih => simp [excludingAux, ih]
      exact this 0 b
    simp [this, reinsert]
  | k :: ks, h, j => by
    have hp := List.pairwise_cons.1 h
    rw [excludingAux_cons hp.1 0 b (Nat.zero_le _), Nat.sub_zero, List.getElem?_eraseIdx]
    simp only [reinsert]
    by_cases hjk : j < k
    · have : ¬ k ≤ j := by omega
      simp only [hjk, ↓reduceIte, this]
      exact excluding_reinsert_sorted b ks hp.2 j
    · have : k ≤ j := by omega
      simp only [hjk, ↓reduceIte, this]
      exact excluding_reinsert_sorted b ks hp.2 (j + 1)

theorem excluding_reinsert (b : Tuple) (rk : List Nat) (h : nodupNat rk = true) (j : Nat) :
    (excluding b rk)[j]? = b[reinsert (sortNat rk) j]? := by
  unfold excluding
  rw [excludingAux_congr (ex' := sortNat rk) (fun x => (mem_sortNat h).symm) 0 b]
  exact excluding_reinsert_sorted b _ (sortNat_strict h) j

end ILV.IR
