/-
  C18: the list structures of ILV.Model.Incr — association lists keyed by `Name` (`aget`, `aset`,
  `aerase`, `akeys`), name sets (`dedupNames`, `sins`, `addNames`), `removeAt` / `replaceAt`, `sortNames`.
  Nothing here knows about the evaluator or the manager.
-/
import ILV.Model.Incr
namespace ILV.C18

theorem foldl_inv {α β} (f : β → α → β) (P : β → Prop) (hf : ∀ b a, P b → P (f b a)) (l : List α) (b : β)
    (hb : P b) : P (l.foldl f b) := by
  induction l generalizing b with
  | nil => exact hb
  | cons a l ih => exact ih _ (hf b a hb)

theorem foldl_mem {α β} (f : β → α → β) (P : β → Prop) (hf : ∀ b a, P b → P (f b a)) {a : α}
    (ha : ∀ b, P (f b a)) {l : List α} (hm : a ∈ l) (b : β) : P (l.foldl f b) := by
  induction l generalizing b with
  | nil => exact absurd hm List.not_mem_nil
  | cons a' l ih =>
    rcases List.mem_cons.mp hm with e | e
    · exact foldl_inv f P hf l _ (e ▸ ha b)
    · exact ih e _

theorem length_flatMap_const {α β} (l : List α) (f : α → List β) (k : Nat) (h : ∀ x ∈ l, (f x).length = k) :
    (l.flatMap f).length = l.length * k := by
  induction l with
  | nil => exact (Nat.zero_mul k).symm
  | cons a l ih =>
    rw [List.flatMap_cons, List.length_append, List.length_cons, h a List.mem_cons_self,
      ih (fun x hx => h x (List.mem_cons_of_mem _ hx)), Nat.add_mul, Nat.one_mul, Nat.add_comm]

theorem le_foldl_max (l : List Nat) (a x : Nat) (h : x ≤ a ∨ x ∈ l) : x ≤ l.foldl max a := by
  induction l generalizing a with
  | nil => rcases h with h | h; exact h; simp at h
  | cons b l ih =>
    simp only [List.foldl_cons]
    apply ih
    rcases h with h | h
    · exact Or.inl (Nat.le_trans h (Nat.le_max_left a b))
    · rcases List.mem_cons.mp h with e | e
      · subst e; exact Or.inl (Nat.le_max_right a x)
      · exact Or.inr e

section AL
variable {β : Type}

theorem aget_aset_eq (l : List (Name × β)) (k : Name) (v : β) : aget (aset l k v) k = some v := by
  induction l with
  | nil => simp [aset, aget]
  | cons p l ih =>
    obtain ⟨a, b⟩ := p
    by_cases h : a = k
    · simp [aset, aget, h]
    · simp [aset, aget, h, ih]

theorem aget_aset_ne {l : List (Name × β)} {k n : Name} {v : β} (h : k ≠ n) :
    aget (aset l k v) n = aget l n := by
  induction l with
  | nil => simp [aset, aget, h]
  | cons p l ih =>
    obtain ⟨a, b⟩ := p
    by_cases h1 : a = k
    · subst h1; simp [aset, aget, h]
    · by_cases h2 : a = n
      · subst h2; simp [aset, aget, h1]
      · simp [aset, aget, h1, h2, ih]

theorem aget_some_mem {l : List (Name × β)} {n : Name} {v : β} (h : aget l n = some v) : (n, v) ∈ l := by
  induction l with
  | nil => simp [aget] at h
  | cons p l ih =>
    obtain ⟨a, b⟩ := p
    by_cases h1 : a = n
    · simp [aget, h1] at h; subst h; subst h1; simp
    · simp [aget, h1] at h; exact List.mem_cons_of_mem _ (ih h)

theorem aget_isSome_key {l : List (Name × β)} {n : Name} {v : β} (h : aget l n = some v) : n ∈ akeys l := by
  have := aget_some_mem h
  exact List.mem_map.mpr ⟨(n, v), this, rfl⟩

theorem aget_none_of_not_key {l : List (Name × β)} {n : Name} (h : n ∉ akeys l) : aget l n = none := by
  cases hg : aget l n with
  | none => rfl
  | some v => exact absurd (aget_isSome_key hg) h

theorem key_aget {l : List (Name × β)} {n : Name} (h : n ∈ akeys l) : ∃ v, aget l n = some v := by
  induction l with
  | nil => simp [akeys] at h
  | cons p l ih =>
    obtain ⟨a, b⟩ := p
    by_cases e : a = n
    · exact ⟨b, by simp [aget, e]⟩
    · simp only [akeys, List.map_cons, List.mem_cons] at h
      rcases h with h | h
      · exact absurd h.symm e
      · obtain ⟨v, hv⟩ := ih h
        exact ⟨v, by simp [aget, e, hv]⟩

theorem mem_aget_of_nodup {l : List (Name × β)} (hn : (akeys l).Nodup) {n : Name} {v : β}
    (h : (n, v) ∈ l) : aget l n = some v := by
  induction l with
  | nil => simp at h
  | cons p l ih =>
    obtain ⟨a, b⟩ := p
    simp only [akeys, List.map_cons, List.nodup_cons] at hn
    rcases List.mem_cons.mp h with h1 | h1
    · cases h1; simp [aget]
    · have : a ≠ n := by
        intro e; subst e
        exact hn.1 (List.mem_map.mpr ⟨(a, v), h1, rfl⟩)
      simp only [aget, this, if_false]
      exact ih hn.2 h1

theorem mem_aset {l : List (Name × β)} {k n : Name} {v w : β} (h : (n, w) ∈ aset l k v) :
    (n = k ∧ w = v) ∨ (n, w) ∈ l := by
  induction l with
  | nil => simp [aset] at h; exact Or.inl h
  | cons p l ih =>
    obtain ⟨a, b⟩ := p
    by_cases h1 : a = k
    · simp [aset, h1] at h
      rcases h with h | h
      · exact Or.inl h
      · exact Or.inr (List.mem_cons_of_mem _ h)
    · simp [aset, h1] at h
      rcases h with h | h
      · exact Or.inr (by simp [h])
      · rcases ih h with h2 | h2
        · exact Or.inl h2
        · exact Or.inr (List.mem_cons_of_mem _ h2)

theorem nodup_aset {l : List (Name × β)} (k : Name) (v : β) (h : (akeys l).Nodup) : (akeys (aset l k v)).Nodup := by
  induction l with
  | nil => simp [aset, akeys]
  | cons p l ih =>
    obtain ⟨a, b⟩ := p
    simp only [akeys, List.map_cons, List.nodup_cons] at h
    by_cases h1 : a = k
    · simp only [aset, h1, if_true, akeys, List.map_cons, List.nodup_cons]
      subst h1; exact h
    · simp only [aset, h1, if_false, akeys, List.map_cons, List.nodup_cons]
      refine ⟨?_, ih h.2⟩
      intro hm
      obtain ⟨⟨a', b'⟩, hm', rfl⟩ := List.mem_map.mp hm
      rcases mem_aset hm' with e | e
      · exact h1 e.1
      · exact h.1 (List.mem_map.mpr ⟨(a', b'), e, rfl⟩)

theorem aget_filter_key (l : List (Name × β)) (g : Name → Bool) (n : Name) :
    aget (l.filter fun p => g p.1) n = if g n then aget l n else none := by
  induction l with
  | nil => simp [aget]
  | cons p l ih =>
    obtain ⟨a, b⟩ := p
    by_cases h : a = n
    · subst h
      by_cases hg : g a
      · simp [List.filter, hg, aget]
      · simp [List.filter, hg, ih]
    · by_cases hg : g a
      · simp [List.filter, hg, aget, h, ih]
      · simp [List.filter, hg, aget, h, ih]

theorem nodup_filter_key {l : List (Name × β)} (g : Name × β → Bool) (h : (akeys l).Nodup) :
    (akeys (l.filter g)).Nodup := by
  unfold akeys at *
  exact List.Nodup.sublist (List.Sublist.map _ List.filter_sublist) h

theorem aerase_eq_filter (l : List (Name × β)) (k : Name) : aerase l k = l.filter fun p => p.1 != k := by
  induction l with
  | nil => rfl
  | cons p l ih =>
    obtain ⟨a, b⟩ := p
    by_cases h : a = k
    · simp [aerase, h, ih]
    · simp [aerase, h, ih]

theorem aget_aerase_eq (l : List (Name × β)) (k : Name) : aget (aerase l k) k = none := by
  rw [aerase_eq_filter, aget_filter_key l (· != k)]; simp

theorem aget_aerase_ne {l : List (Name × β)} {k n : Name} (h : k ≠ n) :
    aget (aerase l k) n = aget l n := by
  rw [aerase_eq_filter, aget_filter_key l (· != k)]; simp [Ne.symm h]

theorem mem_aerase {l : List (Name × β)} {k n : Name} {w : β} (h : (n, w) ∈ aerase l k) : (n, w) ∈ l ∧ n ≠ k := by
  rw [aerase_eq_filter, List.mem_filter] at h
  exact ⟨h.1, by simpa using h.2⟩

theorem nodup_aerase {l : List (Name × β)} (k : Name) (h : (akeys l).Nodup) : (akeys (aerase l k)).Nodup := by
  rw [aerase_eq_filter]; exact nodup_filter_key _ h

theorem aget_aerase_some {l : List (Name × β)} {k n : Name} {w : β} (h : aget (aerase l k) n = some w) :
    aget l n = some w ∧ n ≠ k := by
  have hne := (mem_aerase (aget_some_mem h)).2
  rw [aget_aerase_ne (Ne.symm hne)] at h
  exact ⟨h, hne⟩

theorem aget_map_val (l : List (Name × β)) (f : Name → β → β) (n : Name) :
    aget (l.map fun p => (p.1, f p.1 p.2)) n = (aget l n).map (f n) := by
  induction l with
  | nil => simp [aget]
  | cons p l ih =>
    obtain ⟨a, b⟩ := p
    by_cases h : a = n
    · subst h; simp [aget]
    · simp [aget, h, ih]

theorem akeys_map_val {γ : Type} (l : List (Name × β)) (f : Name → β → γ) :
    akeys (l.map fun p => (p.1, f p.1 p.2)) = akeys l := by
  unfold akeys
  rw [List.map_map]
  rfl

theorem aget_mapNames (names : List Name) (f : Name → β) (r : Name) :
    aget (names.map fun n => (n, f n)) r = if r ∈ names then some (f r) else none := by
  induction names with
  | nil => simp [aget]
  | cons a l ih =>
    by_cases h : a = r
    · subst h; simp [aget]
    · have : ¬ r = a := fun e => h e.symm
      simp [aget, h, ih, this]

theorem akeys_mapNames (names : List Name) (f : Name → β) : akeys (names.map fun n => (n, f n)) = names := by
  unfold akeys
  rw [List.map_map]
  exact List.map_id _

end AL

theorem mem_dedupNames (l : List Name) (n : Name) : n ∈ dedupNames l ↔ n ∈ l := by
  induction l with
  | nil => exact Iff.rfl
  | cons a l ih =>
    unfold dedupNames
    by_cases h : a ∈ l
    · rw [if_pos h, ih, List.mem_cons]
      exact ⟨Or.inr, fun h' => h'.elim (fun e => e ▸ h) id⟩
    · rw [if_neg h, List.mem_cons, List.mem_cons, ih]

theorem mem_sins (l : List Name) (n m : Name) : m ∈ sins l n ↔ m ∈ l ∨ m = n := by
  unfold sins
  by_cases h : n ∈ l
  · rw [if_pos h]
    exact ⟨Or.inl, fun h' => h'.elim id fun e => e ▸ h⟩
  · rw [if_neg h, List.mem_append, List.mem_singleton]

theorem mem_addNames (l ns : List Name) (x : Name) : x ∈ addNames l ns ↔ x ∈ l ∨ x ∈ ns := by
  induction ns generalizing l with
  | nil => exact ⟨Or.inl, fun h => h.elim id fun h => absurd h List.not_mem_nil⟩
  | cons a ns ih =>
    unfold addNames
    by_cases h : a ∈ l
    · rw [if_pos h, ih, List.mem_cons]
      exact ⟨fun h' => h'.imp_right Or.inr,
        fun h' => h'.elim Or.inl fun h' => h'.elim (fun e => Or.inl (e ▸ h)) Or.inr⟩
    · rw [if_neg h, ih, List.mem_append, List.mem_singleton, List.mem_cons, or_assoc]

theorem mem_removeAt {α} (l : List α) (k : Nat) (x : α) (h : x ∈ removeAt l k) : x ∈ l := by
  induction l generalizing k with
  | nil => simp [removeAt] at h
  | cons a l ih =>
    cases k with
    | zero => simp only [removeAt] at h; exact List.mem_cons_of_mem _ h
    | succ k =>
      simp only [removeAt, List.mem_cons] at h
      rcases h with e | e
      · subst e; simp
      · exact List.mem_cons_of_mem _ (ih k e)

theorem mem_replaceAt {α} (l : List α) (k : Nat) (v x : α) (h : x ∈ replaceAt l k v) : x = v ∨ x ∈ l := by
  induction l generalizing k with
  | nil => simp [replaceAt] at h
  | cons a l ih =>
    cases k with
    | zero =>
      simp only [replaceAt, List.mem_cons] at h
      rcases h with e | e
      · exact Or.inl e
      · exact Or.inr (List.mem_cons_of_mem _ e)
    | succ k =>
      simp only [replaceAt, List.mem_cons] at h
      rcases h with e | e
      · subst e; exact Or.inr (by simp)
      · rcases ih k e with e' | e'
        · exact Or.inl e'
        · exact Or.inr (List.mem_cons_of_mem _ e')

theorem mem_insertSorted (n x : Name) (l : List Name) : x ∈ insertSorted n l ↔ x = n ∨ x ∈ l := by
  induction l with
  | nil => simp [insertSorted]
  | cons a l ih =>
    cases h : nameLe n a with
    | true => simp [insertSorted, h]
    | false =>
      simp only [insertSorted, h, Bool.false_eq_true, if_false, List.mem_cons, ih]
      exact or_left_comm

theorem mem_sortNames (l : List Name) (x : Name) : x ∈ sortNames l ↔ x ∈ l := by
  induction l with
  | nil => simp [sortNames]
  | cons a l ih =>
    have : sortNames (a :: l) = insertSorted a (sortNames l) := rfl
    rw [this, mem_insertSorted, ih]; simp

end ILV.C18
