/-
  Terms, atoms, body literals and rules of C09: what the printer writes for them is a closed unit for
  the comma splitters and the comparison finder, and the parser reads it back.
-/
import ILV.Lemmas.TextSplit
namespace ILV.RText

/-- what a scanner may split at (`sep`) is never a word token or a parenthesis: commas for the comma
    splitters, the tokens that spell a comparison operator for the comparison finder. -/
structure SepClass (sep : Tok → Bool) : Prop where
  word : ∀ t, t.wordTok = true → sep t = false
  lp : sep .lp = false
  rp : sep .rp = false

/-- the depth bookkeeping of a scanner counts parentheses and ignores word tokens and commas.  Depths are
    clamped at 0 (`d.p - 1`), so `)` undoes `(` only from a depth that a `(` has led to: `rp` is stated there. -/
structure ParenStep (stepf : Depth → Tok → Depth) : Prop where
  lp : ∀ d, stepf d .lp = { d with p := d.p + 1 }
  rp : ∀ d, stepf { d with p := d.p + 1 } .rp = d
  word : ∀ d t, t.wordTok = true → stepf d t = d
  comma : ∀ d, stepf d .comma = d

theorem sepClass_comma : SepClass isComma :=
  ⟨fun t h => (by cases t <;> first | rfl | cases h), rfl, rfl⟩

theorem sepClass_cmp (c : CmpOp) : SepClass (cmpMatches c) :=
  ⟨fun t h => (by cases t <;> first | rfl | cases h), rfl, rfl⟩

theorem parenStep_args : ParenStep Depth.stepArgs :=
  ⟨fun _ => rfl, fun _ => rfl, fun d t h => (by cases t <;> first | rfl | cases h), fun _ => rfl⟩

theorem parenStep_body : ParenStep Depth.stepBody :=
  ⟨fun _ => rfl, fun _ => rfl, fun d t h => (by cases t <;> first | rfl | cases h), fun _ => rfl⟩

theorem parenStep_paren : ParenStep Depth.stepParen :=
  ⟨fun _ => rfl, fun _ => rfl, fun d t h => (by cases t <;> first | rfl | cases h), fun _ => rfl⟩

section generic
variable {sep : Tok → Bool} {stepf : Depth → Tok → Depth}

theorem unit_word (hc : SepClass sep) (hs : ParenStep stepf) {t : Tok} (h : t.wordTok = true) (d : Depth) :
    UnitAt sep stepf [t] d :=
  UnitAt.single (by rw [hc.word t h]; rfl) (hs.word d t h)

theorem unit_paren (hc : SepClass sep) (hs : ParenStep stepf) {inner : List Tok} {d : Depth}
    (hin : UnitAt sep stepf inner { d with p := d.p + 1 }) : UnitAt sep stepf (paren inner) d :=
  UnitAt.bracket (by rw [hc.lp]; rfl) (by rw [hc.rp]; rfl) (hs.lp d) (hs.rp d) hin

theorem unit_arith (hc : SepClass sep) (hs : ParenStep stepf) (e : AExpr) (d : Depth) :
    UnitAt sep stepf (printArith e) d :=
  printArith_induction (P := fun ts => ∀ d, UnitAt sep stepf ts d) (fun _ h d => unit_word hc hs h d)
    (fun _ _ ha hb d => (ha d).append (hb d)) (fun _ ha _ => unit_paren hc hs (ha _)) e d

theorem unit_of_inert_nosep : ∀ (ts : List Tok) (d : Depth), (∀ t, t ∈ ts → stepf d t = d) → (∀ t, t ∈ ts → sep t = false) →
    UnitAt sep stepf ts d
  | [], _, _, _ => UnitAt.nil
  | t :: ts, d, h, hn =>
    UnitAt.append (a := [t])
      (UnitAt.single (by rw [hn t (List.mem_cons_self ..)]; rfl) (h t (List.mem_cons_self ..)))
      (unit_of_inert_nosep ts d (fun x hx => h x (List.mem_cons_of_mem _ hx)) fun x hx => hn x (List.mem_cons_of_mem _ hx))

theorem unit_group (hc : SepClass sep) (hs : ParenStep stepf) (name : String) {α} (f : α → List Tok) (l : List α)
    (d : Depth) (h : ∀ a, a ∈ l → UnitAt sep stepf (f a) { d with p := d.p + 1 }) :
    UnitAt sep stepf (Tok.ident name :: Tok.lp :: (intercalateTok .comma (l.map f) ++ [Tok.rp])) d :=
  UnitAt.append (a := [Tok.ident name]) (unit_word hc hs rfl d)
    (unit_paren hc hs (UnitAt.intercalate (by rw [isZero_p_succ]; exact Bool.and_false _) (hs.comma _) _
      (List.forall_mem_map.mpr h)))

theorem unit_term0_plain (hc : SepClass sep) (hs : ParenStep stepf) (t : Term0)
    (h : (Term.base t).cmpSideOk = true) (d : Depth) : UnitAt sep stepf (printTerm0 t) d := by
  cases t with
  | agg fn v => cases h
  | vec fs => cases h
  | arith e => exact unit_arith hc hs e d
  | flt f => exact unit_word hc hs (floatTok_word f) d
  | _ => exact unit_word hc hs rfl d

theorem unit_term0 (hc : SepClass sep) (hs : ParenStep stepf) {d : Depth}
    (hagg : ∀ fn v, UnitAt sep stepf (printTerm0 (.agg fn v)) d)
    (hvec : ∀ fs, UnitAt sep stepf (printTerm0 (.vec fs)) d) (t : Term0) : UnitAt sep stepf (printTerm0 t) d := by
  cases h : (Term.base t).cmpSideOk
  · cases t with
    | agg fn v => exact hagg fn v
    | vec fs => exact hvec fs
    | _ => cases h
  · exact unit_term0_plain hc hs t h d

theorem unit_term (hc : SepClass sep) (hs : ParenStep stepf) (t : Term) (d : Depth)
    (hbase : ∀ a, t = .base a → UnitAt sep stepf (printTerm0 a) d)
    (hdeep : ∀ a : Term0, UnitAt sep stepf (printTerm0 a) { d with p := d.p + 1 }) :
    UnitAt sep stepf (printTerm t) d := by
  cases t with
  | base a => exact hbase a rfl
  | call fn args => exact unit_group hc hs fn printTerm0 args d fun a _ => hdeep a

theorem unit_term_top (hc : SepClass sep) (hs : ParenStep stepf)
    (h0 : ∀ (a : Term0) (d : Depth), d.isZero = false → UnitAt sep stepf (printTerm0 a) d)
    (t : Term) (h : t.cmpSideOk = true) (d : Depth) : UnitAt sep stepf (printTerm t) d :=
  unit_term hc hs t d (fun a ha => unit_term0_plain hc hs a (ha ▸ h) d) fun a => h0 a _ (isZero_p_succ d)

theorem unit_atom (hc : SepClass sep) (hs : ParenStep stepf)
    (h0 : ∀ (a : Term0) (d : Depth), d.isZero = false → UnitAt sep stepf (printTerm0 a) d)
    (a : Atom) (d : Depth) : UnitAt sep stepf (printAtom a) d :=
  unit_group hc hs a.rel printTerm a.args d fun t _ =>
    unit_term hc hs t _ (fun a _ => h0 a _ (isZero_p_succ d)) fun a => h0 a _ (isZero_p_succ _)

end generic

/-! Aggregates and vectors: a splitter counts their brackets (`d'` is one level deeper) or ignores
    them (`d' = d`, and then only a non-zero depth protects what is between them). -/

theorem unit_agg {sep : Tok → Bool} {stepf : Depth → Tok → Depth} (hc : SepClass sep) (hs : ParenStep stepf)
    {d d' : Depth} (ho : (sep .la && d.isZero) = false) (hcl : (sep .ra && d'.isZero) = false)
    (hla : stepf d .la = d') (hra : stepf d' .ra = d) (fn v : String) :
    UnitAt sep stepf (printTerm0 (.agg fn v)) d :=
  UnitAt.append (a := [Tok.ident fn]) (unit_word hc hs rfl d)
    (UnitAt.bracket (inner := [Tok.ident v]) ho hcl hla hra (unit_word hc hs rfl _))

def vecToks (fs : List FloatLit) : List Tok :=
  Tok.lb :: (intercalateTok .comma (fs.map fun f => [Tok.flt f]) ++ [Tok.rb])

theorem printTerm0_vec (fs : List FloatLit) : printTerm0 (.vec fs) = vecToks fs := rfl

theorem unit_vec {sep : Tok → Bool} {stepf : Depth → Tok → Depth} (hc : SepClass sep) (hs : ParenStep stepf)
    {d d' : Depth} (hz : d'.isZero = false) (ho : (sep .lb && d.isZero) = false)
    (hlb : stepf d .lb = d') (hrb : stepf d' .rb = d) (fs : List FloatLit) : UnitAt sep stepf (vecToks fs) d :=
  have hz' : ∀ t, (sep t && d'.isZero) = false := fun t => by rw [hz]; exact Bool.and_false _
  UnitAt.bracket ho (hz' _) hlb hrb
    (UnitAt.intercalate (hz' _) (hs.comma _) _ (List.forall_mem_map.mpr fun _ _ => unit_word hc hs rfl _))

theorem cmp_vecToks {fs : List FloatLit} (c : CmpOp) : ∀ t, t ∈ vecToks fs → cmpMatches c t = false := by
  have hin : ∀ t, t ∈ intercalateTok .comma (fs.map fun f => [Tok.flt f]) → cmpMatches c t = false :=
    intercalateTok_induction (P := fun ts => ∀ t, t ∈ ts → cmpMatches c t = false) (fun _ h => nomatch h)
      (fun a b ha hb t ht => by
        rcases List.mem_append.mp ht with h | h
        · exact ha t h
        · rcases List.mem_cons.mp h with h | h
          · rw [h]; rfl
          · exact hb t h)
      _ (List.forall_mem_map.mpr fun f _ t ht => by rw [List.mem_singleton.mp ht]; rfl)
  intro t ht
  rcases List.mem_cons.mp ht with h | h
  · rw [h]; rfl
  · rcases List.mem_append.mp h with h | h
    · exact hin t h
    · rw [List.mem_singleton.mp h]; rfl

/-- the argument splitter counts every bracket: all terms are units at every depth. -/
theorem unit_term0_args (t : Term0) (d : Depth) : UnitAt isComma Depth.stepArgs (printTerm0 t) d :=
  unit_term0 sepClass_comma parenStep_args (unit_agg sepClass_comma parenStep_args rfl rfl rfl rfl)
    (unit_vec sepClass_comma parenStep_args (d' := { d with b := d.b + 1 }) (by simp [Depth.isZero]) rfl rfl rfl) t

theorem unit_term_args (t : Term) (d : Depth) : UnitAt isComma Depth.stepArgs (printTerm t) d :=
  unit_term sepClass_comma parenStep_args t d (fun a _ => unit_term0_args a d) fun a => unit_term0_args a _

/-- the body splitter ignores `[` `]`: a vector is passed over only below the top level. -/
theorem unit_term0_body (t : Term0) (d : Depth) (hz : d.isZero = false) :
    UnitAt isComma Depth.stepBody (printTerm0 t) d :=
  unit_term0 sepClass_comma parenStep_body (unit_agg sepClass_comma parenStep_body rfl rfl rfl rfl)
    (unit_vec sepClass_comma parenStep_body hz rfl rfl rfl) t

/-- the comparison finder ignores `<` `>` and `[` `]`, and takes `<` `>` for comparisons at the top level. -/
theorem unit_term0_cmp (c : CmpOp) (t : Term0) (d : Depth) (hz : d.isZero = false) :
    UnitAt (cmpMatches c) Depth.stepParen (printTerm0 t) d :=
  have hz' : ∀ t, (cmpMatches c t && d.isZero) = false := fun t => by rw [hz]; exact Bool.and_false _
  unit_term0 (sepClass_cmp c) parenStep_paren (unit_agg (sepClass_cmp c) parenStep_paren (hz' _) (hz' _) rfl rfl)
    (unit_vec (sepClass_cmp c) parenStep_paren hz rfl rfl rfl) t

theorem unit_lit_body (l : BodyLit) (h : l.wf = true) (d : Depth) : UnitAt isComma Depth.stepBody (printLit l) d := by
  cases l with
  | pos a => exact unit_atom sepClass_comma parenStep_body unit_term0_body a d
  | neg a =>
    exact UnitAt.append (a := [Tok.bang]) (unit_word sepClass_comma parenStep_body rfl d)
      (unit_atom sepClass_comma parenStep_body unit_term0_body a d)
  | cmp l c r =>
    simp only [BodyLit.wf, Bool.and_eq_true] at h
    exact UnitAt.append (unit_term_top sepClass_comma parenStep_body unit_term0_body l h.1.2 d)
      (UnitAt.append (a := [Tok.cmp c]) (UnitAt.single rfl rfl)
        (unit_term_top sepClass_comma parenStep_body unit_term0_body r h.2 d))

theorem printTerm0_ne_nil (t : Term0) : printTerm0 t ≠ [] := by
  cases t with
  | arith e => exact printArith_ne_nil e
  | _ => exact List.cons_ne_nil _ _

theorem printTerm_ne_nil (t : Term) : printTerm t ≠ [] := by
  cases t with
  | base t0 => exact printTerm0_ne_nil t0
  | call fn args => exact List.cons_ne_nil _ _

theorem printLit_ne_nil (l : BodyLit) : printLit l ≠ [] := by
  cases l with
  | cmp l c r => exact fun h => printTerm_ne_nil l (List.append_eq_nil_iff.mp h).1
  | _ => exact List.cons_ne_nil _ _

def Term0.litStable (t : Term0) : Bool := t.floats.all FloatLit.stable
def Term.litStable (t : Term) : Bool := t.floats.all FloatLit.stable
def Atom.litStable (a : Atom) : Bool := a.floats.all FloatLit.stable
def BodyLit.litStable (l : BodyLit) : Bool := l.floats.all FloatLit.stable

theorem AExpr.litStable_iff (e : AExpr) : e.litStable = e.allFloats.all FloatLit.stable := by
  induction e with
  | var s => rfl
  | const n => rfl
  | flt f => simp [AExpr.litStable, AExpr.allFloats]
  | bin op l r ihl ihr => simp [AExpr.litStable, AExpr.allFloats, ihl, ihr, List.all_append]

theorem all_flatMap_floats {α} (f : α → List FloatLit) (l : List α) (h : (l.flatMap f).all FloatLit.stable = true) :
    ∀ x, x ∈ l → (f x).all FloatLit.stable = true := by
  rw [List.all_flatMap] at h
  exact fun x hx => List.all_eq_true.mp h x hx

theorem lower_eq_self {s : String} (h : s.toList.all (fun c => c.toLower == c) = true) : lower s = s := by
  have : s.toList.map Char.toLower = s.toList.map id :=
    List.map_congr_left fun c hc => eq_of_beq (List.all_eq_true.mp h c hc)
  rw [lower, this, List.map_id, String.ofList_toList]

theorem name_lower {fn : String} (h : fn ∈ simpleAggs ++ builtinNames) : lower fn = fn :=
  have : (simpleAggs ++ builtinNames).all (fun n => n.toList.all fun c => c.toLower == c) = true := by
    decide +kernel
  lower_eq_self (List.all_eq_true.mp this fn h)

def notCallShape : List Tok → Bool
  | .ident _ :: .lp :: _ => false
  | _ => true

def notBang : List Tok → Bool
  | .bang :: _ => false
  | _ => true

def notVecAgg : List Tok → Bool
  | .lb :: _ => false
  | .ident _ :: .la :: _ => false
  | _ => true

/-- the token list is taken for neither a call, a negation, a vector nor an aggregate. -/
def shapeOK (ts : List Tok) : Bool := notCallShape ts && notBang ts && notVecAgg ts

theorem notCall_notBang_of_shapeOK {ts : List Tok} (h : shapeOK ts = true) : notCallShape ts = true ∧ notBang ts = true := by
  rw [shapeOK, Bool.and_eq_true, Bool.and_eq_true] at h
  exact h.1

theorem shapeOK_arith (e : AExpr) : ∀ rest, (∀ s, shapeOK (.ident s :: rest) = true) →
    shapeOK (printArith e ++ rest) = true := by
  induction e with
  | var s => intro rest h; exact h s
  | const n => intro rest _; rfl
  | flt f => intro rest _; exact floatTok_rec (P := fun t => shapeOK (t :: rest) = true) f (fun _ => rfl) rfl
  | bin op l r ihl _ =>
    intro rest _
    rw [printArith, List.append_assoc]
    cases needParenL op l
    · exact ihl _ fun _ => rfl
    · rfl

theorem notCallShape_term0 (t : Term0) : notCallShape (printTerm0 t) = true := by
  cases t with
  | arith e =>
    have := shapeOK_arith e [] fun _ => rfl
    rw [List.append_nil] at this
    exact (notCall_notBang_of_shapeOK this).1
  | flt f => exact floatTok_rec (P := fun t => notCallShape [t] = true) f (fun _ => rfl) rfl
  | _ => rfl

theorem notBang_cmp (t : Term) (c : CmpOp) (rest : List Tok) : notBang (printTerm t ++ Tok.cmp c :: rest) = true := by
  cases t with
  | call fn args => rfl
  | base t0 =>
    cases t0 with
    | arith e => exact (notCall_notBang_of_shapeOK (shapeOK_arith e _ fun _ => rfl)).2
    | flt f => exact floatTok_rec (P := fun t => notBang (t :: Tok.cmp c :: rest) = true) f (fun _ => rfl) rfl
    | _ => rfl

theorem hasArith_at (o : AOp) (t : Tok) (R : List Tok) (h : opSeen o (some t) = true) :
    ∀ (us : List Tok) (p : Option Tok), hasArithOpAux p (us ++ t :: Tok.op o :: R) = true
  | [], p => by simp only [List.nil_append, hasArithOpAux, h, Bool.true_or, Bool.or_true]
  | u :: us, p => by simp only [List.cons_append, hasArithOpAux, hasArith_at o t R h us, Bool.or_true]

theorem hasArithOp_bin (op : AOp) (l r : AExpr) (hs : (AExpr.bin op l r).sciHidden = false) :
    hasArithOp (printArith (.bin op l r)) = true := by
  obtain ⟨us, t, hL, hseen⟩ := opSeen_root hs
  rw [hasArithOp, printArith_bin, hL, List.append_assoc]
  exact hasArith_at op t _ hseen us none

theorem parseTerm0_default (a b : Tok) (rest : List Tok) (h : shapeOK (a :: b :: rest) = true) :
    parseTerm0 (a :: b :: rest) = if hasArithOp (a :: b :: rest) then (parseArith (a :: b :: rest)).map .arith else none := by
  unfold parseTerm0
  split
  · rename_i heq; cases heq
  · rename_i heq; cases heq; cases h
  · rename_i heq; cases heq; cases h
  · rfl

theorem parseTerm0_arith (op : AOp) (l r : AExpr) (hok : (AExpr.bin op l r).leavesOk = true) :
    parseTerm0 (printArith (.bin op l r)) = some (.arith (.bin op l r)) := by
  obtain ⟨hlit, hsci, hfin⟩ := leavesOk_spec _ hok
  have hshape := shapeOK_arith (.bin op l r) [] fun _ => rfl
  have hop := hasArithOp_bin op l r hsci
  have hparse := parseArith_print _ hlit hsci hfin
  obtain ⟨us, t, hL, _⟩ := printAt_snoc op.lvl l
  rw [List.append_nil] at hshape
  -- at least two tokens: the last of the left operand and the operator
  have h2 : ∃ a b rest, printArith (.bin op l r) = a :: b :: rest := by
    rw [printArith_bin, hL]
    cases us with
    | nil => exact ⟨_, _, _, rfl⟩
    | cons u us =>
      cases us with
      | nil => exact ⟨_, _, _, rfl⟩
      | cons v vs => exact ⟨_, _, _, rfl⟩
  obtain ⟨a, b, rest, hab⟩ := h2
  rw [hab] at hshape hop hparse ⊢
  rw [parseTerm0_default a b rest hshape, hop, hparse]
  rfl

theorem term0_roundtrip (t : Term0) (hwf : t.wf = true) : parseTerm0 (printTerm0 t) = some t := by
  cases t with
  | var s =>
    simp only [Term0.wf, Bool.and_eq_true, bne_iff_ne, ne_eq] at hwf
    simp [printTerm0, parseTerm0, parseSingle, hwf.1, hwf.2]
  | const n => rfl
  | flt f =>
    simp only [Term0.wf, FloatLit.ok, Bool.and_eq_true] at hwf
    simp [printTerm0, parseTerm0, parseSingle, floatTok_stable (stable_of_hasPoint f hwf.2), hwf.1]
  | str s => rfl
  | bool b => cases b <;> decide +kernel
  | wild => rfl
  | arith e =>
    cases e with
    | bin op l r =>
      simp only [Term0.wf, Bool.and_eq_true] at hwf
      exact parseTerm0_arith op l r hwf.2
    | _ => cases hwf
  | agg fn v =>
    have hfn : simpleAggs.contains fn = true := hwf
    simp only [printTerm0, parseTerm0, name_lower (List.mem_append_left _ (List.contains_iff_mem.mp hfn)), hfn, if_true]
  | vec fs =>
    have h : ∀ rest, parseTerm0 (Tok.lb :: (rest ++ [Tok.rb])) = parseVec (rest ++ [Tok.rb]) := fun rest => by
      cases rest <;> rfl
    rw [printTerm0, h, parseVec, List.getLast?_concat, List.dropLast_concat]
    cases fs with
    | nil => rfl
    | cons f fs' =>
      have hne := intercalate_map_ne_nil (fun f => [Tok.flt f]) (List.cons_ne_nil f fs') fun _ _ => List.cons_ne_nil _ _
      simp only [beq_self_eq_true, if_true, List.isEmpty_eq_false_iff.mpr hne, Bool.false_eq_true, if_false,
        splitTop_intercalate (fun d _ => d) (fun f => [Tok.flt f]) (f :: fs') (List.cons_ne_nil _ _)
          (fun _ _ => UnitAt.single rfl rfl) fun _ _ => List.cons_ne_nil _ _,
        optMapM_map vecElem (fun f => [Tok.flt f]) (f :: fs') fun _ _ => rfl]
      rfl

theorem parseTerm_base (ts : List Tok) (h : notCallShape ts = true) : parseTerm ts = (parseTerm0 ts).map .base := by
  unfold parseTerm
  split
  · cases h
  · rfl

theorem term_roundtrip (t : Term) (hwf : t.wf = true) : parseTerm (printTerm t) = some t := by
  cases t with
  | base t0 => rw [printTerm, parseTerm_base _ (notCallShape_term0 t0), term0_roundtrip t0 hwf]; rfl
  | call fn args =>
    simp only [Term.wf, Bool.and_eq_true] at hwf
    have hfn := name_lower (List.mem_append_right simpleAggs (List.contains_iff_mem.mp hwf.1))
    have hopt : optMapM parseTerm0 (args.map printTerm0) = some args :=
      optMapM_map _ _ _ fun a ha => term0_roundtrip a (List.all_eq_true.mp hwf.2 a ha)
    rw [printTerm, parseTerm]
    simp only [List.getLast?_concat, List.dropLast_concat, beq_self_eq_true, hfn, hwf.1, Bool.and_self, if_true]
    cases args with
    | nil => rfl
    | cons a as =>
      rw [splitTop_intercalate _ _ _ (List.cons_ne_nil a as) (fun x _ => unit_term0_args x _)
        fun x _ => printTerm0_ne_nil x, hopt]
      rfl

theorem atom_roundtrip (a : Atom) (hwf : a.wf = true) : parseAtom (printAtom a) = some a := by
  obtain ⟨rel, args⟩ := a
  have hopt : optMapM parseTerm (args.map printTerm) = some args :=
    optMapM_map _ _ _ fun t ht => term_roundtrip t (List.all_eq_true.mp hwf t ht)
  rw [printAtom, parseAtom]
  simp only [dropOneRp_snoc]
  cases args with
  | nil => rfl
  | cons t ts =>
    have hne := intercalate_map_ne_nil printTerm (List.cons_ne_nil t ts) fun x _ => printTerm_ne_nil x
    simp only [List.isEmpty_eq_false_iff.mpr hne,
      splitTop_intercalate _ _ _ (List.cons_ne_nil t ts) (fun x _ => unit_term_args x _) fun x _ => printTerm_ne_nil x,
      hopt]
    rfl

theorem findCmpAux_lit (c c' : CmpOp) (l r : Term) (hl : l.cmpSideOk = true) (hr : r.cmpSideOk = true) :
    findCmpAux c' (printTerm l ++ Tok.cmp c :: printTerm r) {} [] =
      if c' = c then some (printTerm l, printTerm r) else none := by
  have hL := unit_term_top (sepClass_cmp c') parenStep_paren (unit_term0_cmp c') l hl {}
  rw [findCmpAux_pass c' _ _ {} [] hL.1, hL.2, findCmpAux]
  by_cases hcc : c' = c
  · subst hcc
    simp [cmpMatches, Depth.isZero]
  · have hm : cmpMatches c' (Tok.cmp c) = false := by simp [cmpMatches, hcc]
    have hR := unit_term_top (sepClass_cmp c') parenStep_paren (unit_term0_cmp c') r hr {}
    have h2 : Depth.stepParen {} (Tok.cmp c) = {} := rfl
    have := findCmpAux_pass c' (printTerm r) [] {} (Tok.cmp c :: ((printTerm l).reverse ++ [])) hR.1
    rw [List.append_nil] at this
    rw [hm, Bool.false_and, if_neg Bool.false_ne_true, if_neg hcc, h2, this, hR.2]
    rfl

theorem findSome?_unique {α β} (f : α → Option β) {a : α} {b : β} (hf : f a = some b)
    (hne : ∀ x, x ≠ a → f x = none) : ∀ (l : List α), a ∈ l → l.findSome? f = some b
  | x :: xs, h => by
    rw [List.findSome?_cons]
    by_cases hx : x = a
    · rw [hx, hf]
    · rw [hne x hx]
      exact findSome?_unique f hf hne xs ((List.mem_cons.mp h).resolve_left fun h' => hx h'.symm)

theorem findCmp_lit (c : CmpOp) (l r : Term) (hl : l.cmpSideOk = true) (hr : r.cmpSideOk = true) :
    findCmp (printTerm l ++ Tok.cmp c :: printTerm r) = some (printTerm l, c, printTerm r) :=
  findSome?_unique _ (a := c) (by rw [findCmpAux_lit c c l r hl hr, if_pos rfl]; rfl)
    (fun c' hc' => by rw [findCmpAux_lit c c' l r hl hr, if_neg hc']; rfl) _ (by cases c <;> decide)

theorem findCmp_atom (a : Atom) : findCmp (printAtom a) = none :=
  List.findSome?_eq_none_iff.mpr fun c _ => by
    rw [findCmpAux_none c _ (unit_atom (sepClass_cmp c) parenStep_paren (unit_term0_cmp c) a {})]; rfl

theorem parseLit_of_notBang {ts : List Tok} (h : notBang ts = true) : parseLit ts =
    (match findCmp ts with
     | some (l, c, r) =>
       match parseTerm l, parseTerm r with
       | some a, some b => some (.cmp a c b)
       | _, _ => none
     | none => (parseAtom ts).map .pos) := by
  unfold parseLit
  split
  · cases h
  · rfl

theorem lit_roundtrip (l : BodyLit) (hwf : l.wf = true) : parseLit (printLit l) = some l := by
  cases l with
  | pos a => rw [printLit, parseLit_of_notBang rfl, findCmp_atom a, atom_roundtrip a hwf]; rfl
  | neg a =>
    have h : parseLit (printLit (.neg a)) = (parseAtom (printAtom a)).map .neg := rfl
    rw [h, atom_roundtrip a hwf]; rfl
  | cmp a c b =>
    simp only [BodyLit.wf, Bool.and_eq_true] at hwf
    rw [printLit, parseLit_of_notBang (notBang_cmp a c _), findCmp_lit c a b hwf.1.2 hwf.2]
    simp only [term_roundtrip a hwf.1.1.1, term_roundtrip b hwf.1.1.2]

theorem noArrow_append (a b : List Tok) : noArrow (a ++ b) = (noArrow a && noArrow b) :=
  List.all_append

theorem noArrow_intercalate {α} (f : α → List Tok) (l : List α) (h : ∀ a, a ∈ l → noArrow (f a) = true) :
    noArrow (intercalateTok .comma (l.map f)) = true :=
  intercalateTok_induction (P := fun ts => noArrow ts = true) rfl
    (fun a b ha hb => by rw [noArrow_append, ha, noArrow, List.all_cons, ← noArrow, hb]; rfl) _
    (List.forall_mem_map.mpr h)

theorem noArrow_arith (e : AExpr) : noArrow (printArith e) = true :=
  printArith_induction (P := fun ts => noArrow ts = true) (fun t h => by cases t <;> first | rfl | cases h)
    (fun a b ha hb => by rw [noArrow_append, ha, hb]; rfl)
    (fun a ha => by rw [paren, noArrow, List.all_cons, ← noArrow, noArrow_append, ha]; rfl) e

theorem noArrow_group {α} (name : String) (f : α → List Tok) (l : List α) (h : ∀ a, a ∈ l → noArrow (f a) = true) :
    noArrow (Tok.ident name :: Tok.lp :: (intercalateTok .comma (l.map f) ++ [Tok.rp])) = true := by
  rw [noArrow, List.all_cons, List.all_cons, ← noArrow, noArrow_append, noArrow_intercalate f l h]; rfl

theorem noArrow_term0 (t : Term0) : noArrow (printTerm0 t) = true := by
  cases t with
  | flt f => exact floatTok_rec (P := fun t => noArrow [t] = true) f (fun _ => rfl) rfl
  | arith e => exact noArrow_arith e
  | vec fs =>
    rw [printTerm0, noArrow, List.all_cons, ← noArrow, noArrow_append, noArrow_intercalate _ fs fun _ _ => rfl]; rfl
  | _ => rfl

theorem noArrow_term (t : Term) : noArrow (printTerm t) = true := by
  cases t with
  | base t0 => exact noArrow_term0 t0
  | call fn args => exact noArrow_group fn printTerm0 args fun a _ => noArrow_term0 a

theorem noArrow_atom (a : Atom) : noArrow (printAtom a) = true :=
  noArrow_group a.rel printTerm a.args fun t _ => noArrow_term t

theorem noArrow_lit (l : BodyLit) : noArrow (printLit l) = true := by
  cases l with
  | pos a => exact noArrow_atom a
  | neg a => rw [printLit, noArrow, List.all_cons, ← noArrow, noArrow_atom a]; rfl
  | cmp l c r =>
    rw [printLit, noArrow_append, noArrow_term l, noArrow, List.all_cons, ← noArrow, noArrow_term r]; rfl

theorem rule_roundtrip (r : Rule) (hwf : r.wf = true) : parseRule (printRule r) = some r := by
  obtain ⟨head, body⟩ := r
  simp only [Rule.wf, Bool.and_eq_true] at hwf
  have hhead := atom_roundtrip head hwf.1
  have hwfl := List.all_eq_true.mp hwf.2
  cases body with
  | nil =>
    have := splitArrow_pass _ [] (noArrow_atom head)
    rw [List.append_nil] at this
    simp only [printRule, List.isEmpty_nil, if_true, parseRule, this, splitArrow, consSeg, List.append_nil, hhead]
    rfl
  | cons l ls =>
    have hopt : optMapM parseLit ((l :: ls).map printLit) = some (l :: ls) :=
      optMapM_map _ _ _ fun x hx => lit_roundtrip x (hwfl x hx)
    have hb := splitArrow_pass _ [] (noArrow_intercalate printLit (l :: ls) fun x _ => noArrow_lit x)
    rw [List.append_nil, splitArrow, consSeg, List.append_nil] at hb
    have hsplit := splitTop_intercalate Depth.stepBody printLit _ (List.cons_ne_nil l ls)
      (fun x hx => unit_lit_body x (hwfl x hx) _) fun x _ => printLit_ne_nil x
    simp only [printRule, List.isEmpty_cons, Bool.false_eq_true, if_false, parseRule,
      splitArrow_pass _ _ (noArrow_atom head), splitArrow, beq_self_eq_true, if_true, hb, consSeg, List.append_nil,
      hhead, hsplit, hopt]
    rfl

end ILV.RText
