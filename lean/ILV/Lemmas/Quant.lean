/-
  The quantisers of src/vector_ops.rs:450-502 in exact rational arithmetic: rounding to the nearest
  code moves a value by at most half a quantisation step.
-/
import Mathlib.Algebra.Order.Round
import Mathlib.Data.Rat.Floor
import Mathlib.Tactic.Ring
namespace ILV.VecOps

theorem abs_sub_round_mul (y c : ℚ) (hc : 0 < c) : |(y - round y) * c| ≤ c / 2 := by
  rw [abs_mul, abs_of_pos hc, div_eq_mul_inv, mul_comm c]
  exact mul_le_mul_of_nonneg_right ((abs_sub_round y).trans_eq (one_div 2)) hc.le

theorem quant_roundtrip (x s : ℚ) (hs : 0 < s) : |x - (round (x * s) : ℚ) / s| ≤ 1 / (2 * s) := by
  have e : x - (round (x * s) : ℚ) / s = (x * s - round (x * s)) * (1 / s) := by
    rw [sub_mul, mul_one_div, mul_one_div, mul_div_cancel_right₀ x hs.ne']
  rw [e, ← div_div, div_right_comm]
  exact abs_sub_round_mul _ _ (one_div_pos.2 hs)

theorem quant_linear_roundtrip (x mn range : ℚ) (hr : 0 < range) :
    |x - (mn + ((round ((x - mn) / range * 255 - 128) : ℚ) + 128) * range / 255)| ≤ range / 255 / 2 := by
  have e : x - (mn + ((round ((x - mn) / range * 255 - 128) : ℚ) + 128) * range / 255) =
      ((x - mn) / range * 255 - 128 - round ((x - mn) / range * 255 - 128)) * (range / 255) := by
    have hc : (x - mn) / range * 255 * (range / 255) = x - mn := by
      rw [mul_assoc, mul_div_cancel₀ _ (by norm_num : (255 : ℚ) ≠ 0), div_mul_cancel₀ _ hr.ne']
    rw [sub_mul, sub_mul, hc]
    ring
  rw [e]
  exact abs_sub_round_mul _ _ (div_pos hr (by norm_num))

end ILV.VecOps
