/-
  The left-to-right scanners of C09: the comma splitter `splitTopAux`, the comparison finder
  `findCmpAux` and `splitArrow`.  A token list is a closed unit for a scanner (`UnitAt`) when the scanner
  meets no separator at depth zero inside it and leaves it at the depth it entered; a scanner passes over
  a unit (`splitTopAux_pass`, `findCmpAux_pass`), so splitting comma-separated units gives the units back.
-/
import ILV.Lemmas.RuleText
namespace ILV.RText

theorem intercalateTok_cons₂ (sep : Tok) (x y : List Tok) (rest : List (List Tok)) :
    intercalateTok sep (x :: y :: rest) = x ++ sep :: intercalateTok sep (y :: rest) := rfl

theorem intercalateTok_induction {P : List Tok → Prop} {sep : Tok} (nil : P [])
    (step : ∀ a b, P a → P b → P (a ++ sep :: b)) :
    ∀ (segs : List (List Tok)), (∀ s, s ∈ segs → P s) → P (intercalateTok sep segs)
  | [], _ => nil
  | [x], h => h x (List.mem_cons_self ..)
  | x :: y :: rest, h =>
    step _ _ (h x (List.mem_cons_self ..))
      (intercalateTok_induction nil step (y :: rest) fun s hs => h s (List.mem_cons_of_mem _ hs))

theorem intercalate_ne_nil : ∀ {segs : List (List Tok)}, segs ≠ [] → (∀ s, s ∈ segs → s ≠ []) →
    intercalateTok .comma segs ≠ []
  | [], h, _ => absurd rfl h
  | [x], _, h => h x (List.mem_cons_self ..)
  | x :: y :: rest, _, _ => by rw [intercalateTok_cons₂]; simp

theorem intercalate_getLast? : ∀ (segs : List (List Tok)), (∀ s, s ∈ segs → s ≠ []) →
    (intercalateTok .comma segs).getLast? = (segs.getLast?.bind fun s => s.getLast?)
  | [], _ => rfl
  | [x], _ => by simp [intercalateTok]
  | x :: y :: rest, h => by
    have hne := intercalate_ne_nil (List.cons_ne_nil y rest) fun s hs => h s (List.mem_cons_of_mem _ hs)
    rw [intercalateTok_cons₂, List.getLast?_append, List.getLast?_cons_of_ne_nil hne,
      intercalate_getLast? (y :: rest) fun s hs => h s (List.mem_cons_of_mem _ hs), List.getLast?_cons_cons]
    cases hl : (y :: rest).getLast? with
    | none => simp at hl
    | some s =>
      obtain ⟨t, ht⟩ := Option.isSome_iff_exists.mp
        (List.getLast?_isSome.mpr (h s (List.mem_cons_of_mem _ (List.mem_of_getLast? hl))))
      simp [ht]

theorem intercalate_map_ne_nil {α} (f : α → List Tok) {l : List α} (hne : l ≠ []) (hn : ∀ a, a ∈ l → f a ≠ []) :
    intercalateTok .comma (l.map f) ≠ [] :=
  intercalate_ne_nil (mt List.map_eq_nil_iff.mp hne) (List.forall_mem_map.mpr hn)

/-- depth after scanning `ts` -/
def scanDepth (stepf : Depth → Tok → Depth) : List Tok → Depth → Depth
  | [], d => d
  | t :: ts, d => scanDepth stepf ts (stepf d t)

/-- no separator token of `ts` is met at depth zero -/
def noSplit (sep : Tok → Bool) (stepf : Depth → Tok → Depth) : List Tok → Depth → Bool
  | [], _ => true
  | t :: ts, d => !(sep t && d.isZero) && noSplit sep stepf ts (stepf d t)

def isComma (t : Tok) : Bool := t == .comma

def consSeg (ts : List Tok) : List (List Tok) → List (List Tok)
  | seg :: segs => (ts ++ seg) :: segs
  | [] => [ts]

theorem splitTopAux_ne_nil (stepf : Depth → Tok → Depth) : ∀ ts d, splitTopAux stepf ts d ≠ []
  | [], _ => by simp [splitTopAux]
  | t :: ts, d => by
    unfold splitTopAux
    split
    · simp
    · split <;> simp

theorem scanDepth_append (stepf : Depth → Tok → Depth) : ∀ (a b : List Tok) (d : Depth),
    scanDepth stepf (a ++ b) d = scanDepth stepf b (scanDepth stepf a d)
  | [], _, _ => rfl
  | t :: a, b, d => scanDepth_append stepf a b (stepf d t)

theorem noSplit_append (sep : Tok → Bool) (stepf : Depth → Tok → Depth) : ∀ (a b : List Tok) (d : Depth),
    noSplit sep stepf (a ++ b) d = (noSplit sep stepf a d && noSplit sep stepf b (scanDepth stepf a d))
  | [], _, _ => rfl
  | t :: a, b, d => by
    rw [List.cons_append, noSplit, noSplit, scanDepth, noSplit_append sep stepf a b, Bool.and_assoc]

theorem splitTopAux_pass (stepf : Depth → Tok → Depth) : ∀ (ts rest : List Tok) (d : Depth),
    noSplit isComma stepf ts d = true →
    splitTopAux stepf (ts ++ rest) d = consSeg ts (splitTopAux stepf rest (scanDepth stepf ts d))
  | [], rest, d, _ => by
    obtain ⟨s, ss, h⟩ := List.exists_cons_of_ne_nil (splitTopAux_ne_nil stepf rest d)
    rw [List.nil_append, scanDepth, h]; rfl
  | t :: ts, rest, d, h => by
    rw [noSplit, Bool.and_eq_true, Bool.not_eq_true'] at h
    obtain ⟨s, ss, hs⟩ := List.exists_cons_of_ne_nil (splitTopAux_ne_nil stepf rest (scanDepth stepf ts (stepf d t)))
    have hc : (t == Tok.comma && d.isZero) = false := h.1
    rw [List.cons_append, splitTopAux, hc, splitTopAux_pass stepf ts rest (stepf d t) h.2, scanDepth, hs]
    rfl

/-- `d` is returned to and no split happens: the token list is one closed unit at depth `d`. -/
def UnitAt (sep : Tok → Bool) (stepf : Depth → Tok → Depth) (ts : List Tok) (d : Depth) : Prop :=
  noSplit sep stepf ts d = true ∧ scanDepth stepf ts d = d

theorem UnitAt.append {sep : Tok → Bool} {stepf : Depth → Tok → Depth} {a b : List Tok} {d : Depth}
    (ha : UnitAt sep stepf a d) (hb : UnitAt sep stepf b d) : UnitAt sep stepf (a ++ b) d := by
  constructor
  · rw [noSplit_append, ha.1, ha.2, hb.1]; rfl
  · rw [scanDepth_append, ha.2, hb.2]

theorem UnitAt.nil {sep : Tok → Bool} {stepf : Depth → Tok → Depth} {d : Depth} : UnitAt sep stepf [] d := ⟨rfl, rfl⟩

/-- a token that no splitter looks at -/
def Tok.inertTok : Tok → Bool
  | .ident _ | .int _ | .flt _ | .fint _ _ | .str _ | .op _ | .cmp _ | .bang | .arrow => true
  | _ => false

theorem stepArgs_inert {t : Tok} (h : t.inertTok = true) (d : Depth) : d.stepArgs t = d := by
  cases t <;> first | rfl | cases h

theorem stepBody_inert {t : Tok} (h : t.inertTok = true) (d : Depth) : d.stepBody t = d := by
  cases t <;> first | rfl | cases h

theorem UnitAt.single {sep : Tok → Bool} {stepf : Depth → Tok → Depth} {t : Tok} {d : Depth}
    (hc : (sep t && d.isZero) = false) (hs : stepf d t = d) : UnitAt sep stepf [t] d := by
  constructor
  · rw [noSplit, hc]; rfl
  · rw [scanDepth, hs]; rfl

/-- used with parentheses for every splitter, with `<` `>` and `[` `]` for the splitters that count them. -/
theorem UnitAt.bracket {sep : Tok → Bool} {stepf : Depth → Tok → Depth} {o c : Tok} {inner : List Tok}
    {d d' : Depth} (ho : (sep o && d.isZero) = false) (hc : (sep c && d'.isZero) = false)
    (hod : stepf d o = d') (hcd : stepf d' c = d) (hin : UnitAt sep stepf inner d') :
    UnitAt sep stepf (o :: (inner ++ [c])) d := by
  constructor
  · rw [noSplit, ho, hod, noSplit_append, hin.1, hin.2, noSplit, hc]; rfl
  · rw [scanDepth, hod, scanDepth_append, hin.2, scanDepth, hcd]; rfl

theorem UnitAt.intercalate {sep : Tok → Bool} {stepf : Depth → Tok → Depth} {d : Depth}
    (hz : (sep .comma && d.isZero) = false) (hcomma : stepf d .comma = d) (segs : List (List Tok))
    (h : ∀ s, s ∈ segs → UnitAt sep stepf s d) : UnitAt sep stepf (intercalateTok .comma segs) d :=
  intercalateTok_induction UnitAt.nil
    (fun _ _ ha hb => ha.append (.append (a := [Tok.comma]) (.single hz hcomma) hb)) segs h

theorem splitTopAux_intercalate (stepf : Depth → Tok → Depth) :
    ∀ (segs : List (List Tok)), segs ≠ [] → (∀ s, s ∈ segs → UnitAt isComma stepf s {}) →
      splitTopAux stepf (intercalateTok .comma segs) {} = segs
  | [], h, _ => absurd rfl h
  | [x], _, h => by
    have hx := h x (List.mem_cons_self ..)
    have := splitTopAux_pass stepf x [] {} hx.1
    rwa [List.append_nil, splitTopAux, consSeg, List.append_nil] at this
  | x :: y :: rest, _, h => by
    have hx := h x (List.mem_cons_self ..)
    have hc : (Tok.comma == Tok.comma && ({} : Depth).isZero) = true := rfl
    rw [intercalateTok_cons₂, splitTopAux_pass stepf x _ {} hx.1, hx.2, splitTopAux, if_pos hc,
      splitTopAux_intercalate stepf (y :: rest) (List.cons_ne_nil _ _) fun s hs => h s (List.mem_cons_of_mem _ hs),
      consSeg, List.append_nil]

theorem splitTop_intercalate {α} (stepf : Depth → Tok → Depth) (f : α → List Tok) (l : List α) (hne : l ≠ [])
    (hu : ∀ a, a ∈ l → UnitAt isComma stepf (f a) {}) (hn : ∀ a, a ∈ l → f a ≠ []) :
    splitTop stepf (intercalateTok .comma (l.map f)) = l.map f := by
  unfold splitTop
  simp only [splitTopAux_intercalate stepf _ (mt List.map_eq_nil_iff.mp hne) (List.forall_mem_map.mpr hu)]
  cases hl : (l.map f).getLast? with
  | none => rfl
  | some s =>
    cases s with
    | nil =>
      obtain ⟨a, ha, h⟩ := List.mem_map.mp (List.mem_of_getLast? hl)
      exact absurd h (hn a ha)
    | cons a as => rfl

theorem isZero_p_succ (d : Depth) : ({ d with p := d.p + 1 } : Depth).isZero = false := by
  simp [Depth.isZero]

theorem findCmpAux_pass (c : CmpOp) : ∀ (ts rest : List Tok) (d : Depth) (acc : List Tok),
    noSplit (cmpMatches c) Depth.stepParen ts d = true →
    findCmpAux c (ts ++ rest) d acc = findCmpAux c rest (scanDepth Depth.stepParen ts d) (ts.reverse ++ acc)
  | [], _, _, _, _ => rfl
  | t :: ts, rest, d, acc, h => by
    rw [noSplit, Bool.and_eq_true, Bool.not_eq_true'] at h
    rw [List.cons_append, findCmpAux, h.1, findCmpAux_pass c ts rest (d.stepParen t) (t :: acc) h.2, scanDepth,
      List.reverse_cons, List.append_assoc]
    rfl

theorem findCmpAux_none (c : CmpOp) (ts : List Tok) (h : UnitAt (cmpMatches c) Depth.stepParen ts {}) :
    findCmpAux c ts {} [] = none := by
  have := findCmpAux_pass c ts [] {} [] h.1
  rwa [List.append_nil, findCmpAux] at this

def noArrow (ts : List Tok) : Bool := ts.all (· != .arrow)

theorem splitArrow_ne_nil : ∀ ts, splitArrow ts ≠ []
  | [] => by simp [splitArrow]
  | t :: ts => by
    unfold splitArrow
    split
    · simp
    · split <;> simp

theorem splitArrow_pass : ∀ (ts rest : List Tok), noArrow ts = true →
    splitArrow (ts ++ rest) = consSeg ts (splitArrow rest)
  | [], rest, _ => by
    obtain ⟨s, ss, h⟩ := List.exists_cons_of_ne_nil (splitArrow_ne_nil rest)
    rw [List.nil_append, h]; rfl
  | t :: ts, rest, h => by
    rw [noArrow, List.all_cons, Bool.and_eq_true] at h
    have ht : (t == Tok.arrow) = false := by simpa using h.1
    rw [List.cons_append, splitArrow, ht, splitArrow_pass ts rest h.2]
    cases splitArrow rest <;> rfl

theorem dropOneRp_snoc (xs : List Tok) : dropOneRp (xs ++ [Tok.rp]) = xs := by
  simp [dropOneRp]

end ILV.RText
