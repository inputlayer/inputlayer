/-
  Self-recursive heads: the engine's fix-point loop (`lfpSelf`) returns the *least* set closed under
  the head's clauses over the already computed relations (Kleene iteration from ∅; leastness by
  monotonicity), and the whole run of a program whose only cycles are self-loops yields, head by
  head, such least sets.
-/
import ILV.Lemmas.Engine
namespace ILV.Engine
open ILV ILV.DL

/-- `F h` is the least set closed under the clauses of `h`, the other relations read from `F`. -/
def LeastFor (p : Program) (F : String → List Tuple) (h : String) : Prop :=
  (∃ d, evalRules F (clausesOf p h) = some d ∧ Sub d (F h)) ∧
  ∀ X dX, evalRules (override F h X) (clausesOf p h) = some dX → Sub dX X → Sub (F h) X

theorem override_self (lk : String → List Tuple) (h : String) (x : List Tuple) : override lk h x h = x := by
  simp [override]

theorem override_ne (lk : String → List Tuple) {h r : String} (x : List Tuple) (hne : r ≠ h) :
    override lk h x r = lk r := by
  simp [override, hne]

theorem override_leOn (lk : String → List Tuple) (h : String) (x X : List Tuple) (hx : Sub x X) (r : Rule)
    (hneg : ∀ a, a ∈ r.negAtoms → a.rel ≠ h) : LeOn r (override lk h x) (override lk h X) := by
  refine ⟨fun a _ => ?_, fun a ha => by rw [override_ne _ _ (hneg a ha), override_ne _ _ (hneg a ha)]; exact .refl _⟩
  by_cases ha : a.rel = h
  · rw [ha, override_self, override_self]; exact hx
  · rw [override_ne _ _ ha, override_ne _ _ ha]; exact .refl _

theorem override_agree_off (lk : String → List Tuple) (h : String) (x : List Tuple) (rels : List String) (hh : h ∉ rels) :
    AgreeOn rels (override lk h x) lk := by
  intro r hr
  rw [override_ne _ _ (fun (e : r = h) => hh (e ▸ hr))]
  exact .refl _

theorem override_agree {rels : List String} {F G : String → List Tuple} (h : String) (X : List Tuple)
    (hFG : ∀ r, r ∈ rels → r ≠ h → MemEq (F r) (G r)) : AgreeOn rels (override F h X) (override G h X) := by
  intro r hr
  by_cases hrh : r = h
  · rw [hrh, override_self, override_self]; exact .refl _
  · rw [override_ne _ _ hrh, override_ne _ _ hrh]; exact hFG r hr hrh

theorem override_agree_self {rels : List String} {F G : String → List Tuple} (h : String)
    (hFG : ∀ r, r ∈ rels → r ≠ h → MemEq (F r) (G r)) : AgreeOn rels (override F h (G h)) G := by
  intro r hr
  by_cases hrh : r = h
  · rw [hrh, override_self]; exact .refl _
  · rw [override_ne _ _ hrh]; exact hFG r hr hrh

theorem lfpLoop_least (lk : String → List Tuple) (h : String) (cs : List Rule) (base : List Tuple) (recs : List Rule)
    (hdec : ∀ x d, evalRulesM false (override lk h x) recs = some d →
      ∃ w, evalRules (override lk h x) cs = some w ∧ MemEq w (unionT base d))
    (hmono : ∀ x X d dX, Sub x X → evalRules (override lk h x) cs = some d →
      evalRules (override lk h X) cs = some dX → Sub d dX)
    (fuel : Nat) (ts : List Tuple) (hev : lfpLoop lk h base recs fuel [] = some ts) :
    (∃ d, evalRules (override lk h ts) cs = some d ∧ MemEq d ts) ∧
    ∀ X dX, evalRules (override lk h X) cs = some dX → Sub dX X → Sub ts X := by
  constructor
  · obtain ⟨_, d, hd, hm⟩ := lfpLoop_inv lk h base recs (fun _ => True) (fun _ _ _ _ => trivial) fuel [] ts trivial hev
    obtain ⟨w, hw, hwm⟩ := hdec ts d hd
    exact ⟨w, hw, hwm.trans hm⟩
  · intro X dX hX hXs
    refine (lfpLoop_inv lk h base recs (fun x => Sub x X) ?_ fuel [] ts (fun t ht => nomatch ht) hev).1
    intro x d hx hd
    obtain ⟨w, hw, hwm⟩ := hdec x d hd
    exact fun t ht => hXs t (hmono x X w dX hx hw hX t ((hwm t).2 ht))

/-- `hempty`: the head has neither stored facts nor an earlier result; `hneg`: stratification. -/
theorem lfpSelf_least (p : Program) (hcf : ClauseFaithful p) (hagg : ∀ r, r ∈ p → r.hasAgg = false)
    (fuel : Nat) (lk : String → List Tuple) (h : String) (hempty : lk h = [])
    (hneg : ∀ r, r ∈ clausesOf p h → ∀ a, a ∈ r.negAtoms → a.rel ≠ h)
    (ts : List Tuple) (hev : lfpSelf fuel lk h (clausesOf p h) = some ts) :
    (∃ d, evalRules (override lk h ts) (clausesOf p h) = some d ∧ MemEq d ts) ∧
    ∀ X dX, evalRules (override lk h X) (clausesOf p h) = some dX → Sub dX X → Sub ts X := by
  have hcs : ∀ r, r ∈ clausesOf p h → r ∈ p := fun r hr => (mem_clausesOf.1 hr).1
  have hmono : ∀ x X d dX, Sub x X → evalRules (override lk h x) (clausesOf p h) = some d →
      evalRules (override lk h X) (clausesOf p h) = some dX → Sub d dX := fun x X d dX hx hd hX =>
    evalRules_sub _ (fun r hr => hagg r (hcs r hr)) (fun r hr => override_leOn lk h x X hx r (hneg r hr)) d dX hd hX
  have hnoagg : (clausesOf p h).any (fun r => r.scans.contains h && r.hasAgg) = false :=
    List.any_eq_false.2 fun r hr => by rw [hagg r (hcs r hr), Bool.and_false]; exact Bool.false_ne_true
  unfold lfpSelf at hev
  simp only [hnoagg, Bool.false_eq_true, if_false] at hev
  split at hev
  · cases hev
  next b hb =>
  split at hb
  · next hsplit =>
    rw [if_pos hsplit] at hev
    have hbsub : ∀ r, r ∈ (clausesOf p h).filter (fun r => !r.scans.contains h) → r ∈ clausesOf p h :=
      fun r hr => (List.mem_filter.1 hr).1
    have hrsub : ∀ r, r ∈ (clausesOf p h).filter (fun r => r.scans.contains h) → r ∈ clausesOf p h :=
      fun r hr => (List.mem_filter.1 hr).1
    rw [evalRulesM_eq hcf _ _ _ fun r hr => hcs r (hbsub r hr)] at hb
    refine lfpLoop_least lk h _ b _ (fun x d hd => ?_) hmono fuel ts hev
    rw [evalRulesM_eq hcf _ _ _ fun r hr => hcs r (hrsub r hr)] at hd
    -- the result of the base clauses does not depend on the iterate
    have hbx : OptMemEq (evalRules (override lk h x) _) (evalRules lk _) := evalRulesWith_memEq _ _ _ fun r hr =>
      evalRuleLk_memEq r (hagg r (hcs r (hbsub r hr))) (override_agree_off lk h x r.scans
        (by simpa using (List.mem_filter.1 hr).2))
    rw [hb] at hbx
    obtain ⟨bx, hbx', hbm⟩ := hbx.of_some
    obtain ⟨w, hw, hwm⟩ := evalRulesWith_union _ (cs := clausesOf p h) (fun r => by
      simp only [List.mem_filter, Bool.not_eq_true']
      cases r.scans.contains h <;> simp) hbx' hd
    exact ⟨w, hw, hwm.trans fun t => by simp only [mem_unionT, hbm t]⟩
  · -- every clause counted as recursive: the stored facts of the head (none) are the base
    next hsplit =>
    cases hb
    rw [if_neg hsplit, hempty] at hev
    refine lfpLoop_least lk h _ [] _ (fun x d hd => ?_) hmono fuel ts hev
    rw [evalRulesM_eq hcf _ _ _ hcs] at hd
    exact ⟨d, hd, fun t => by simp [mem_unionT]⟩

theorem leastFor_congr {p : Program} (hagg : ∀ r, r ∈ p → r.hasAgg = false) {F G : String → List Tuple} {h : String}
    (hh : MemEq (F h) (G h)) (hFG : ∀ r, r ∈ scansOf p h → r ≠ h → MemEq (F r) (G r))
    (hF : LeastFor p F h) : LeastFor p G h := by
  have hag : AgreeOn (scansOf p h) F G := fun r hr => by
    by_cases hrh : r = h
    · exact hrh ▸ hh
    · exact hFG r hr hrh
  constructor
  · obtain ⟨d, hd, hsub⟩ := hF.1
    have := evalRules_memEq hagg hag
    rw [hd] at this
    obtain ⟨d', hd', hm⟩ := this.of_some'
    exact ⟨d', hd', fun t ht => (hh t).1 (hsub t ((hm t).2 ht))⟩
  · intro X dX hX hXs
    have := evalRules_memEq hagg (override_agree h X hFG)
    rw [hX] at this
    obtain ⟨d', hd', hm⟩ := this.of_some
    exact fun t ht => hF.2 X d' hd' (fun t ht => hXs t ((hm t).1 ht)) t ((hh t).2 ht)

theorem LeastFor.le_closed {p : Program} (hagg : ∀ r, r ∈ p → r.hasAgg = false) {Fa Fb : String → List Tuple} {g : String}
    (hab : ∀ r, r ∈ scansOf p g → r ≠ g → MemEq (Fa r) (Fb r)) (la : LeastFor p Fa g)
    (hb : ∃ d, evalRules Fb (clausesOf p g) = some d ∧ Sub d (Fb g)) : Sub (Fa g) (Fb g) := by
  obtain ⟨d, hd, hsub⟩ := hb
  have := evalRules_memEq hagg (override_agree_self g hab)
  rw [hd] at this
  obtain ⟨dX, hX, hm⟩ := this.of_some
  exact la.2 (Fb g) dX hX (fun t ht => hsub t ((hm t).1 ht))

theorem leastFor_of_supported {p : Program} (hagg : ∀ r, r ∈ p → r.hasAgg = false) {F : String → List Tuple} {h : String}
    (hns : h ∉ scansOf p h) {ts : List Tuple} (hev : evalRules F (clausesOf p h) = some ts) (hm : MemEq (F h) ts) :
    LeastFor p F h := by
  refine ⟨⟨ts, hev, hm.sub'⟩, fun X dX hX hXs => ?_⟩
  have := evalRules_memEq hagg (override_agree_off F h X _ hns)
  rw [hX, hev] at this
  exact fun t ht => hXs t ((this t).2 ((hm t).1 ht))

theorem evalHead_leastFor (p : Program) (hcf : ClauseFaithful p) (hagg : ∀ r, r ∈ p → r.hasAgg = false)
    (hash : Tuple → Nat) (fuel : Nat) (lk : String → List Tuple) (h : String)
    (hempty : selfRec p h = true → lk h = [])
    (hneg : selfRec p h = true → ∀ r, r ∈ clausesOf p h → ∀ a, a ∈ r.negAtoms → a.rel ≠ h)
    (ts : List Tuple) (hev : evalHead allOff hash fuel p lk h = some ts) : LeastFor p (override lk h ts) h := by
  have hov : ∀ X, override (override lk h ts) h X = override lk h X := fun X => by
    funext r; by_cases hr : r = h <;> simp [override, hr]
  rw [evalHead_allOff] at hev
  split at hev
  · next hs =>
    obtain ⟨⟨d, hd, hm⟩, hb⟩ := lfpSelf_least p hcf hagg fuel lk h (hempty hs) (hneg hs) ts hev
    refine ⟨⟨d, hd, ?_⟩, fun X dX hX => ?_⟩
    · rw [override_self]; exact hm.sub
    · rw [override_self]; rw [hov] at hX; exact hb X dX hX
  · next hs =>
    have hns : h ∉ scansOf p h := fun hc => hs (List.contains_iff_mem.2 hc)
    rw [evalRulesM_eq hcf _ _ _ fun r hr => (mem_clausesOf.1 hr).1] at hev
    have := evalRules_memEq hagg (override_agree_off lk h ts _ hns)
    rw [hev] at this
    obtain ⟨d, hd, hm⟩ := this.of_some
    exact leastFor_of_supported hagg hns hd (by rw [override_self]; exact hm.symm)

theorem execLoop_least (hash : Tuple → Nat) (ord : String → List Tuple → List Tuple) (fuel : Nat)
    (p : Program) (edb : DB) (hcf : ClauseFaithful p) (hagg : ∀ r, r ∈ p → r.hasAgg = false)
    (hno : ∀ h, h ∈ heads p → edb.get h = [])
    (hnegself : ∀ r, r ∈ p → ∀ a, a ∈ r.negAtoms → a.rel ≠ r.hrel) :
    ∀ (order seen : List String) (acc : DB) (last A : List Tuple) (acc' : DB),
      depOrderedS p order seen = true → (∀ g, g ∈ order → g ∈ heads p) →
      (∀ r, r ∉ seen → acc.lookup r = none) →
      execLoop allOff hash ord fuel p edb order acc last = .ok A acc' →
      (∀ r, r ∉ order → acc'.lookup r = acc.lookup r) ∧
      (∀ g, g ∈ order → LeastFor p (lkOf edb acc') g) ∧
      (∀ g, order.getLast? = some g → acc'.lookup g = some A) := by
  intro order seen acc last A acc' hd hheads hkeys hrun
  refine ⟨execLoop_frame hrun, fun g hg => ?_, execLoop_last hrun⟩
  obtain ⟨accg, ts, hev, hl, hlg, hsc⟩ := execLoop_each rfl hd hheads hrun g hg
  have hempty : lkOf edb accg g = [] := by
    rw [lkOf_of_lookup_none edb accg g (hlg.trans (hkeys g (depOrderedS_not_seen p order seen hd g hg)))]
    exact hno g (hheads g hg)
  have := evalHead_leastFor p hcf hagg hash fuel (lkOf edb accg) g (fun _ => hempty)
    (fun _ r hr a ha => (mem_clausesOf.1 hr).2 ▸ hnegself r (mem_clausesOf.1 hr).1 a ha) ts hev
  refine leastFor_congr hagg ?_ (fun r hr hne => ?_) this
  · rw [override_self, lkOf_of_lookup edb acc' g ts hl]; exact .refl _
  · rw [override_ne _ _ hne, lkOf_congr edb accg acc' r (hsc r hr hne)]; exact .refl _

end ILV.Engine
