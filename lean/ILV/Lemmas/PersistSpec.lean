/-
  For C13: from update multisets to the Spec's sets.  `positive us` (what `consolidate_to_current` +
  `to_tuples` serve) against `specApply` (set semantics), for update lists whose per-tuple sums are 0 or 1 — the
  situation outside the C11 shapes.
-/
import ILV.Lemmas.PersistFS
import ILV.Spec.C13
namespace ILV.Persist
open ILV.Spec.C13

abbrev SSorted (l : List Nat) : Prop := l.Pairwise (· < ·)

theorem mem_insertNat (n x : Nat) (l : List Nat) : x ∈ insertNat n l ↔ x = n ∨ x ∈ l := by
  induction l with
  | nil => simp [insertNat]
  | cons m ms ih =>
    simp only [insertNat]
    split
    · simp
    · split
      · rename_i h1 h2; subst h2; simp
      · simp [ih, or_left_comm]

theorem insertNat_sorted (n : Nat) (l : List Nat) (h : SSorted l) : SSorted (insertNat n l) := by
  induction l with
  | nil => simp [insertNat]
  | cons m ms ih =>
    simp only [insertNat]
    have hm := List.pairwise_cons.1 h
    split
    · rename_i hlt
      refine List.pairwise_cons.2 ⟨?_, h⟩
      intro x hx
      rcases List.mem_cons.1 hx with hx | hx
      · omega
      · have := hm.1 x hx; omega
    · split
      · exact h
      · rename_i h1 h2
        refine List.pairwise_cons.2 ⟨?_, ih hm.2⟩
        intro x hx
        rcases (mem_insertNat n x ms).1 hx with hx | hx
        · omega
        · exact hm.1 x hx

theorem sorted_ext (a b : List Nat) (ha : SSorted a) (hb : SSorted b) (h : ∀ x, x ∈ a ↔ x ∈ b) : a = b :=
  List.Perm.eq_of_pairwise (fun _ _ _ _ h1 h2 => absurd h1 (Nat.lt_asymm h2)) ha hb
    ((List.perm_ext_iff_of_nodup (ha.imp Nat.ne_of_lt) (hb.imp Nat.ne_of_lt)).2 h)

theorem foldr_insertNat_sorted (ts base : List Nat) (h : SSorted base) : SSorted (ts.foldr insertNat base) := by
  induction ts with
  | nil => exact h
  | cons t ts ih => exact insertNat_sorted t _ ih

theorem mem_foldr_insertNat (ts base : List Nat) (x : Nat) : x ∈ ts.foldr insertNat base ↔ x ∈ ts ∨ x ∈ base := by
  induction ts with
  | nil => simp
  | cons t ts ih => simp [mem_insertNat, ih, or_assoc]

theorem foldl_diff (l : List Update) (a : Int) :
    l.foldl (fun a u => a + u.diff) a = a + l.foldl (fun a u => a + u.diff) 0 := by
  induction l generalizing a with
  | nil => simp
  | cons u us ih => simp only [List.foldl_cons]; rw [ih, ih (0 + u.diff)]; omega

theorem sumOf_nil (x : Nat) : sumOf [] x = 0 := rfl

theorem sumOf_cons (u : Update) (us : List Update) (x : Nat) :
    sumOf (u :: us) x = (if u.t = x then u.diff else 0) + sumOf us x := by
  simp only [sumOf, List.filter_cons]
  by_cases h : u.t = x
  · simp only [h, decide_true, if_true, List.foldl_cons]; rw [foldl_diff]; omega
  · simp [h]

theorem sumOf_append (a b : List Update) (x : Nat) : sumOf (a ++ b) x = sumOf a x + sumOf b x := by
  induction a with
  | nil => simp [sumOf_nil]
  | cons u us ih => simp only [List.cons_append, sumOf_cons, ih]; omega

theorem sumOf_zero_of_not_mem (us : List Update) (x : Nat) (h : x ∉ us.map (·.t)) : sumOf us x = 0 := by
  induction us with
  | nil => rfl
  | cons u us ih =>
    simp only [List.map_cons, List.mem_cons, not_or] at h
    have : ¬ u.t = x := fun e => h.1 e.symm
    simp [sumOf_cons, this, ih h.2]

/-- the updates of one request: tuples `ts`, one time, one sign -/
def req (ts : List Nat) (time : Nat) (diff : Int) : List Update := ts.map (fun t => { t := t, time := time, diff := diff })

theorem sumOf_req (ts : List Nat) (time : Nat) (diff : Int) (x : Nat) (hnd : hasDup ts = false) :
    sumOf (req ts time diff) x = if x ∈ ts then diff else 0 := by
  induction ts with
  | nil => simp [req, sumOf_nil]
  | cons t ts ih =>
    simp only [hasDup, Bool.or_eq_false_iff, decide_eq_false_iff_not] at hnd
    have ih' := ih hnd.2
    simp only [req, List.map_cons] at ih' ⊢
    rw [sumOf_cons, ih']
    by_cases hx : t = x
    · subst hx; simp [hnd.1]
    · have : ¬ x = t := fun e => hx e.symm
      simp [hx, this]

theorem mem_positive (us : List Update) (x : Nat) : x ∈ positive us ↔ sumOf us x > 0 := by
  simp only [positive, List.mem_filter, mem_foldr_insertNat, List.not_mem_nil, or_false, decide_eq_true_eq]
  constructor
  · exact fun h => h.2
  · intro h
    refine ⟨?_, h⟩
    by_cases hn : x ∈ us.map (·.t)
    · exact hn
    · have := sumOf_zero_of_not_mem us x hn
      omega

theorem positive_sorted (us : List Update) : SSorted (positive us) :=
  List.Pairwise.filter _ (foldr_insertNat_sorted _ [] List.Pairwise.nil)

/-- per-tuple sums are 0 or 1: the log and the live set agree (no C11 shape so far). -/
def Bin (us : List Update) : Prop := ∀ x, sumOf us x = 0 ∨ sumOf us x = 1

/-- the state the reopened engine serves for the single shard `s`. -/
def visOf (s : Name) (us : List Update) : SpecSt := if positive us = [] then [] else [(s, positive us)]

theorem specGet_visOf (s : Name) (us : List Update) : specGet (visOf s us) s = positive us := by
  simp only [visOf]
  split
  · rename_i h; simp [specGet, h]
  · simp [specGet]

theorem specPut_visOf (s : Name) (us : List Update) (l : List Nat) :
    specPut (visOf s us) s l = if l = [] then [] else [(s, l)] := by
  simp only [visOf, specPut]
  split <;> split <;> simp [insertRel]

theorem req_ok (s : Name) (us : List Update) (ts : List Nat) (time : Nat) (δ : Int) (l : List Nat) (hb : Bin us)
    (hnd : hasDup ts = false) (hδ : ∀ x ∈ ts, sumOf us x + δ = 0 ∨ sumOf us x + δ = 1) (hl : SSorted l)
    (hmem : ∀ x, x ∈ l ↔ sumOf us x + (if x ∈ ts then δ else 0) > 0) :
    specPut (visOf s us) s l = visOf s (us ++ req ts time δ) ∧ Bin (us ++ req ts time δ) := by
  have hsum : ∀ x, sumOf (us ++ req ts time δ) x = sumOf us x + (if x ∈ ts then δ else 0) := by
    intro x; rw [sumOf_append, sumOf_req ts time δ x hnd]
  refine ⟨?_, fun x => ?_⟩
  · rw [specPut_visOf, sorted_ext l _ hl (positive_sorted _) (fun x => by rw [hmem, mem_positive, hsum])]
    rfl
  · rw [hsum]
    by_cases hx : x ∈ ts
    · simpa [hx] using hδ x hx
    · simpa [hx] using hb x

theorem ins_ok (s : Name) (us : List Update) (ts : List Nat) (time : Nat) (hb : Bin us)
    (hc : c11Shape (visOf s us) (.ins s ts) = false) :
    specApply (visOf s us) (.ins s ts) = visOf s (us ++ req ts time 1) ∧ Bin (us ++ req ts time 1) := by
  simp only [c11Shape, specGet_visOf, Bool.or_eq_false_iff, List.any_eq_false, decide_eq_true_eq] at hc
  have hzero : ∀ x, x ∈ ts → sumOf us x = 0 := by
    intro x hx
    have := hc.1 x hx
    rw [mem_positive] at this
    rcases hb x with h | h <;> omega
  simp only [specApply, specGet_visOf]
  refine req_ok s us ts time 1 _ hb hc.2 (fun x hx => .inr (by rw [hzero x hx]; rfl))
    (foldr_insertNat_sorted _ _ (positive_sorted us)) (fun x => ?_)
  rw [mem_foldr_insertNat, mem_positive]
  by_cases hx : x ∈ ts
  · simp [hx, hzero x hx]
  · simp [hx]

theorem del_ok (s : Name) (us : List Update) (ts : List Nat) (time : Nat) (hb : Bin us)
    (hc : c11Shape (visOf s us) (.del s ts) = false) :
    specApply (visOf s us) (.del s ts) = visOf s (us ++ req ts time (-1)) ∧ Bin (us ++ req ts time (-1)) := by
  simp only [c11Shape, specGet_visOf, Bool.or_eq_false_iff, List.any_eq_false, decide_eq_true_eq, Decidable.not_not] at hc
  have hone : ∀ x, x ∈ ts → sumOf us x = 1 := by
    intro x hx
    have := hc.1 x hx
    rw [mem_positive] at this
    rcases hb x with h | h <;> omega
  simp only [specApply, specGet_visOf]
  refine req_ok s us ts time (-1) _ hb hc.2 (fun x hx => .inl (by rw [hone x hx]; rfl))
    (List.Pairwise.filter _ (positive_sorted us)) (fun x => ?_)
  rw [List.mem_filter, mem_positive]
  by_cases hx : x ∈ ts
  · simp [hx, hone x hx]
  · simp [hx]

end ILV.Persist
