/-
  Helper lemmas for C13: the WAL reader on clean lines, and the WAL file after the one `write` of an append.
-/
import ILV.Model.Persist
import ILV.Lemmas.FS
namespace ILV.Persist
open ILV.FS

/-- a complete WAL line -/
def mk (e : Name × Update) : Item Rec := .whole (.wal e.1 e.2)

theorem walParse_mk_append (ws : List (Name × Update)) (rest : List (Item Rec)) :
    walParse false (ws.map mk ++ rest) = (walParse false rest).map (ws ++ ·) := by
  induction ws with
  | nil => simp
  | cons e ws ih =>
    obtain ⟨s, u⟩ := e
    simp only [List.map_cons, List.cons_append]
    show walParse false (Item.whole (Rec.wal s u) :: (ws.map mk ++ rest)) = _
    simp only [walParse, Bool.false_eq_true, if_false]
    rw [ih]
    cases walParse false rest <;> simp

theorem walParse_mk (ws : List (Name × Update)) : walParse false (ws.map mk) = some ws := by
  have := walParse_mk_append ws []
  simpa [walParse] using this

theorem walParse_garb_mk (e : Name × Update) (rest : List (Item Rec)) :
    walParse true (mk e :: rest) = walParse false rest := by
  simp [mk, walParse]

theorem get_crash_wal (d : Disk) (cuts : Path → Option Cut) :
    get (crash d cuts) .wal = (get d .wal).map (fun f => crashFile f (cuts .wal)) := FS.get_crash d cuts .wal

theorem get_append_wal {d : Disk} {ws : List (Name × Update)} (es : List (Name × Update))
    (hf : get d .wal = some { synced := ws.map mk, unsynced := [] }) :
    get (apply d (.append .wal (es.map (fun e => Rec.wal e.1 e.2)))) .wal =
      some { synced := ws.map mk, unsynced := es.map mk } := by
  simp [FS.get_append, hf, mk, List.map_map, Function.comp_def]

theorem take_map_mk (es : List (Name × Update)) (k : Nat) : (es.map mk).take k = (es.take k).map mk := by
  simp [List.map_take]

end ILV.Persist
