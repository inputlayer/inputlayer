/-
  Declarative reading of a rule body (`BodySat`), and soundness of the Spec's executable clause
  evaluator (`DL.evalRuleLk`) with respect to it; for range-restricted rules without comparison
  literals also its completeness.
-/
import ILV.Lemmas.Datalog
namespace ILV.DL

/-- a valuation `env` maps the argument list of an atom onto a stored tuple. -/
def Matches : List Term → List Value → Env → Prop
  | [], [], _ => True
  | .var x :: as, v :: vs, env => env.lookup x = some v ∧ Matches as vs env
  | .const c :: as, v :: vs, env => c = v ∧ Matches as vs env
  | .wild :: as, _ :: vs, env => Matches as vs env
  | _, _, _ => False

/-- `env'` extends `env`: every binding of `env` is kept. -/
def Extends (env' env : Env) : Prop := ∀ x v, env.lookup x = some v → env'.lookup x = some v

theorem Extends.refl (env : Env) : Extends env env := fun _ _ h => h
theorem Extends.trans {a b c : Env} (h1 : Extends a b) (h2 : Extends b c) : Extends a c :=
  fun x v h => h1 x v (h2 x v h)

theorem Matches.transfer {args : List Term} {t : List Value} {env env' : Env} (h : Matches args t env)
    (he : ∀ x, Term.var x ∈ args → ∀ v, env.lookup x = some v → env'.lookup x = some v) : Matches args t env' := by
  fun_induction Matches args t env with
  | case1 => trivial
  | case2 x as v vs env ih =>
    exact ⟨he x (List.mem_cons_self ..) v h.1, ih h.2 fun y hy => he y (List.mem_cons_of_mem _ hy)⟩
  | case3 c as v vs env ih => exact ⟨h.1, ih h.2 fun y hy => he y (List.mem_cons_of_mem _ hy)⟩
  | case4 as _ vs env ih => exact ih h fun y hy => he y (List.mem_cons_of_mem _ hy)
  | case5 => exact h.elim

theorem Matches.mono {args : List Term} {t : List Value} {env env' : Env}
    (h : Matches args t env) (he : Extends env' env) : Matches args t env' :=
  h.transfer fun x _ => he x

theorem lookup_cons_new (env : Env) (x : String) (v : Value) (hx : env.lookup x = none) :
    Extends ((x, v) :: env) env := by
  intro y w hy
  rw [lookup_cons_ne y x v env fun e => nomatch (e ▸ hy).symm.trans hx]
  exact hy

theorem matchArgs_sound (args : List Term) (t : List Value) (env env' : Env)
    (h : matchArgs args t env = some env') : Extends env' env ∧ Matches args t env' := by
  fun_induction matchArgs args t env with
  | case1 env => cases h; exact ⟨Extends.refl _, trivial⟩
  | case2 x as v vs env w hl hwv ih =>
    obtain ⟨he, hm⟩ := ih h
    exact ⟨he, he x v (by rw [hl, eq_of_beq hwv]), hm⟩
  | case4 x as v vs env hl ih =>
    obtain ⟨he, hm⟩ := ih h
    exact ⟨he.trans (lookup_cons_new env x v hl), he x v (lookup_cons_self ..), hm⟩
  | case5 c as v vs env hcv ih =>
    obtain ⟨he, hm⟩ := ih h
    exact ⟨he, eq_of_beq hcv, hm⟩
  | case7 as _ vs env ih => exact ih h
  | case3 | case6 | case8 => cases h

/-- every positive atom has a stored tuple it is mapped onto. -/
def PosSat (lk : String → List Tuple) (atoms : List Atom) (env : Env) : Prop :=
  ∀ a, a ∈ atoms → ∃ t, t ∈ lk a.rel ∧ Matches a.args t env

theorem evalPos_sound (lk : String → List Tuple) : ∀ (atoms : List Atom) (envs : List Env) (env' : Env),
    env' ∈ evalPos lk atoms envs → ∃ env, env ∈ envs ∧ Extends env' env ∧ PosSat lk atoms env'
  | [], envs, env', h => by
    simp only [evalPos] at h
    exact ⟨env', h, Extends.refl _, fun a ha => by cases ha⟩
  | a :: as, envs, env', h => by
    unfold evalPos at h
    obtain ⟨e1, he1, hext, hsat⟩ := evalPos_sound lk as _ env' h
    obtain ⟨e0, he0, hfm⟩ := List.mem_flatMap.1 he1
    obtain ⟨t, ht, hm⟩ := List.mem_filterMap.1 hfm
    obtain ⟨hx, hmt⟩ := matchArgs_sound a.args t e0 e1 hm
    refine ⟨e0, he0, hext.trans hx, ?_⟩
    intro b hb
    rcases List.mem_cons.1 hb with rfl | hb
    · exact ⟨t, ht, Matches.mono hmt hext⟩
    · exact hsat b hb

theorem mem_specCmps_nil {envs : List Env} {env : Env} : env ∈ specCmps [] envs ↔ env ∈ envs := by
  simp [specCmps, iter]

/-- the declarative meaning of a rule body under a valuation. -/
structure BodySat (lk : String → List Tuple) (r : Rule) (env : Env) : Prop where
  pos : PosSat lk r.posAtoms env
  neg : ∀ a, a ∈ r.negAtoms → ∀ t, t ∈ lk a.rel → matchArgs a.args t env = none
  cmp : ∀ c, c ∈ r.cmps → Cmp.holds env c = true

/-- `t` is the head instance of `r` under `env` (aggregate-free head). -/
def HeadInst (r : Rule) (env : Env) (t : Tuple) : Prop := optMapM (HTerm.plain env) r.hargs = some t

/-- Only for rules without comparison literals: with them the valuation is extended by the defining
    equalities after the positive atoms, and the positive part of the statement would need an
    extension lemma for `bindRound`, not proved. -/
theorem evalRuleLk_sound (lk : String → List Tuple) (r : Rule) (hagg : r.hasAgg = false) (hc : r.cmps = [])
    (ts : List Tuple) (h : evalRuleLk lk r = some ts) (t : Tuple) (ht : t ∈ ts) :
    ∃ env, BodySat lk r env ∧ HeadInst r env t := by
  rw [evalRuleLk_noAgg lk hagg] at h
  obtain ⟨env, henv, hhead⟩ := (optMapM_some_mem _ _ _ h t).1 ht
  obtain ⟨hspec, hneg⟩ := List.mem_filter.1 henv
  rw [hc, mem_specCmps_nil] at hspec
  obtain ⟨_, _, _, hsat⟩ := evalPos_sound lk r.posAtoms [[]] env hspec
  refine ⟨env, ⟨hsat, fun a ha t' ht' => ?_, by rw [hc]; exact fun c hcm => nomatch hcm⟩, hhead⟩
  simpa using List.all_eq_true.1 (List.all_eq_true.1 hneg a ha) t' ht'

theorem matchArgs_complete (args : List Term) (t : List Value) (env e : Env)
    (hm : Matches args t env) (ha : Extends env e) : ∃ e', matchArgs args t e = some e' ∧ Extends env e' := by
  fun_induction matchArgs args t e with
  | case1 e => exact ⟨e, rfl, ha⟩
  | case2 x as v vs e w hl hwv ih => exact ih hm.2 ha
  | case3 x as v vs e w hl hwv =>
    exact absurd (Option.some.inj ((ha x w hl).symm.trans hm.1)) (by simpa using hwv)
  | case4 x as v vs e hl ih =>
    refine ih hm.2 fun y w hy => ?_
    by_cases hyx : y = x
    · rw [hyx, lookup_cons_self] at hy; cases hy; exact hyx ▸ hm.1
    · rw [lookup_cons_ne y x v e hyx] at hy; exact ha y w hy
  | case5 c as v vs e hcv ih => exact ih hm.2 ha
  | case6 c as v vs e hcv => exact absurd hm.1 (by simpa using hcv)
  | case7 as _ vs e ih => exact ih hm ha
  | case8 args t e h1 h2 h3 h4 =>
    -- no pattern of `matchArgs` applies, so none of `Matches` does
    exfalso
    unfold Matches at hm
    split at hm
    · exact h1 rfl rfl
    · exact h2 _ _ _ _ rfl rfl
    · exact h3 _ _ _ _ rfl rfl
    · exact h4 _ _ _ rfl rfl
    · exact hm

theorem evalPos_complete (lk : String → List Tuple) (env : Env) : ∀ (atoms : List Atom) (envs : List Env) (e : Env),
    PosSat lk atoms env → e ∈ envs → Extends env e → ∃ e', e' ∈ evalPos lk atoms envs ∧ Extends env e'
  | [], envs, e, _, he, ha => ⟨e, he, ha⟩
  | a :: as, envs, e, hs, he, ha => by
    unfold evalPos
    obtain ⟨t, ht, hm⟩ := hs a (List.mem_cons_self ..)
    obtain ⟨e1, he1, ha1⟩ := matchArgs_complete a.args t env e hm ha
    exact evalPos_complete lk env as _ e1 (fun b hb => hs b (List.mem_cons_of_mem _ hb))
      (List.mem_flatMap.2 ⟨e, he, List.mem_filterMap.2 ⟨t, ht, he1⟩⟩) ha1

/-- a success under `e` would, by soundness, map the atom onto the tuple under `env` too. -/
theorem matchArgs_none_of_agree (args : List Term) (t : List Value) (env e : Env)
    (hb : ∀ x, Term.var x ∈ args → ∃ v, e.lookup x = some v) (ha : Extends env e)
    (h : matchArgs args t env = none) : matchArgs args t e = none := by
  cases hc : matchArgs args t e with
  | none => rfl
  | some e'' =>
    obtain ⟨hext, hm⟩ := matchArgs_sound args t e e'' hc
    have hme : Matches args t env := hm.transfer fun x hx v hv => by
      obtain ⟨w, hw⟩ := hb x hx
      exact Option.some.inj ((hext x w hw).symm.trans hv) ▸ ha x w hw
    obtain ⟨_, h', _⟩ := matchArgs_complete args t env env hme (Extends.refl _)
    exact nomatch h.symm.trans h'

theorem matches_binds (args : List Term) (t : List Value) (env : Env) (h : Matches args t env)
    (x : String) (hx : Term.var x ∈ args) : ∃ v, env.lookup x = some v := by
  fun_induction Matches args t env with
  | case1 => cases hx
  | case2 y as v vs env ih =>
    rcases List.mem_cons.1 hx with he | hx
    · cases he; exact ⟨v, h.1⟩
    · exact ih h.2 hx
  | case3 c as v vs env ih => exact ih h.2 ((List.mem_cons.1 hx).resolve_left nofun)
  | case4 as _ vs env ih => exact ih h ((List.mem_cons.1 hx).resolve_left nofun)
  | case5 => exact h.elim

theorem mem_posVars {r : Rule} {x : String} (hx : x ∈ r.posVars) : ∃ a, a ∈ r.posAtoms ∧ Term.var x ∈ a.args := by
  rw [Rule.posVars, mem_dedupS, List.mem_flatMap] at hx
  obtain ⟨a, ha, hxa⟩ := hx
  obtain ⟨t, ht, he⟩ := List.mem_filterMap.1 hxa
  refine ⟨a, ha, ?_⟩
  cases t <;> simp at he
  subst he; exact ht

theorem evalPos_binds (lk : String → List Tuple) (r : Rule) (env : Env) (he : env ∈ evalPos lk r.posAtoms [[]])
    (x : String) (hx : x ∈ r.posVars) : bound env x = true := by
  obtain ⟨_, _, _, hsat⟩ := evalPos_sound lk r.posAtoms [[]] env he
  obtain ⟨a, ha, hxa⟩ := mem_posVars hx
  obtain ⟨t, _, hm⟩ := hsat a ha
  obtain ⟨v, hv⟩ := matches_binds a.args t env hm x hxa
  simp [bound, hv]

theorem evalRuleLk_complete (lk : String → List Tuple) (r : Rule) (hagg : r.hasAgg = false) (hc : r.cmps = [])
    (hsafeH : ∀ x, x ∈ r.hargs.flatMap HTerm.vars → x ∈ r.posVars)
    (hsafeN : ∀ a, a ∈ r.negAtoms → ∀ x, Term.var x ∈ a.args → x ∈ r.posVars)
    (ts : List Tuple) (hev : evalRuleLk lk r = some ts)
    (env : Env) (hsat : BodySat lk r env) (t : Tuple) (hhead : HeadInst r env t) : t ∈ ts := by
  obtain ⟨e', he', hag⟩ := evalPos_complete lk env r.posAtoms [[]] [] hsat.pos (List.mem_singleton.2 rfl)
    (fun x v h => nomatch h)
  have hbound : ∀ x, x ∈ r.posVars → ∃ v, e'.lookup x = some v :=
    fun x hx => Option.isSome_iff_exists.1 (evalPos_binds lk r e' he' x hx)
  rw [evalRuleLk_noAgg lk hagg] at hev
  refine (optMapM_some_mem _ _ _ hev t).2 ⟨e', List.mem_filter.2 ⟨hc ▸ mem_specCmps_nil.2 he', ?_⟩, ?_⟩
  · refine List.all_eq_true.2 fun a ha => List.all_eq_true.2 fun t' ht' => ?_
    rw [matchArgs_none_of_agree a.args t' env e' (fun x hx => hbound x (hsafeN a ha x hx)) hag (hsat.neg a ha t' ht')]
    rfl
  · rw [← hhead]
    refine optMapM_congr _ _ _ fun h hh => ?_
    cases h with
    | var x =>
      obtain ⟨v, hv⟩ := hbound x (hsafeH x (List.mem_flatMap.2 ⟨.var x, hh, List.mem_singleton.2 rfl⟩))
      simp only [HTerm.plain, hv, hag x v hv]
    | const c => rfl
    | agg f x => rfl

end ILV.DL
