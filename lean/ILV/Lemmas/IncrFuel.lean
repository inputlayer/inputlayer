/-
  C18: the evaluator's fuel always suffices. Tables only grow, stay duplicate-free, and hold tuples of
  length ≤ maxArity over the active domain (values of the inputs + constants of the heads); there are at
  most (|domain|+1)^maxArity such tuples per head, and every round that is not a fix-point adds one.
  Hence `conv prog inputs = true` for every program and every input.
-/
import ILV.Lemmas.Incr
namespace ILV.C18

def tuplesUpTo (D : List Int) : Nat → List Tup
  | 0 => [[]]
  | a + 1 => [] :: D.flatMap fun v => (tuplesUpTo D a).map (v :: ·)

theorem mem_tuplesUpTo (D : List Int) (a : Nat) (t : Tup) (hl : t.length ≤ a) (hd : ∀ v ∈ t, v ∈ D) :
    t ∈ tuplesUpTo D a := by
  induction a generalizing t with
  | zero =>
    rw [List.eq_nil_of_length_eq_zero (Nat.le_zero.mp hl)]
    exact List.mem_cons_self
  | succ a ih =>
    cases t with
    | nil => exact List.mem_cons_self
    | cons v t =>
      exact List.mem_cons_of_mem _ (List.mem_flatMap.mpr ⟨v, hd v List.mem_cons_self,
        List.mem_map.mpr ⟨t, ih t (Nat.le_of_succ_le_succ hl) (fun w hw => hd w (List.mem_cons_of_mem _ hw)), rfl⟩⟩)

theorem length_tuplesUpTo (D : List Int) (a : Nat) : (tuplesUpTo D a).length ≤ (D.length + 1) ^ a := by
  induction a with
  | zero => exact Nat.le_refl 1
  | succ a ih =>
    show (D.flatMap fun v => (tuplesUpTo D a).map (v :: ·)).length + 1 ≤ _
    rw [length_flatMap_const D _ (tuplesUpTo D a).length (fun _ _ => List.length_map _)]
    calc D.length * (tuplesUpTo D a).length + 1
        ≤ D.length * (D.length + 1) ^ a + (D.length + 1) ^ a :=
          Nat.add_le_add (Nat.mul_le_mul_left _ ih) (Nat.pow_pos (Nat.succ_pos _))
      _ = (D.length + 1) ^ (a + 1) := by rw [Nat.pow_succ, Nat.mul_succ, Nat.mul_comm]

def dom (prog : List Clause) (inputs : List (Name × List Tup)) : List Int := inputInts inputs ++ headConsts prog

theorem dom_length (prog : List Clause) (inputs : List (Name × List Tup)) :
    (dom prog inputs).length = inputSize inputs + progConsts prog :=
  List.length_append

theorem inDb_dom (prog : List Clause) (inputs : List (Name × List Tup)) (r : Name) :
    ∀ t ∈ inDb inputs r, ∀ v ∈ t, v ∈ dom prog inputs := by
  intro t ht v hv
  unfold inDb at ht
  cases hg : aget inputs r with
  | none => simp [hg] at ht
  | some l =>
    simp only [hg, Option.getD_some] at ht
    apply List.mem_append_left
    unfold inputInts
    exact List.mem_flatMap.mpr ⟨(r, l), aget_some_mem hg, List.mem_flatten.mpr ⟨t, ht, hv⟩⟩

theorem arity_le_max (prog : List Clause) (c : Clause) (hc : c ∈ prog) : c.head.args.length ≤ maxArity prog :=
  le_foldl_max _ 0 _ (Or.inr (List.mem_map.mpr ⟨c, hc, rfl⟩))

def EnvGood (D : List Int) (env : Env) : Prop := ∀ x v, envGet env x = some v → v ∈ D

theorem matchArgs_good (D : List Int) (args : List Term) (tup : Tup) (env env' : Env)
    (h : matchArgs args tup env = some env') (he : EnvGood D env) (ht : ∀ v ∈ tup, v ∈ D) : EnvGood D env' := by
  induction args generalizing tup env with
  | nil =>
    cases tup with
    | nil => simp [matchArgs] at h; subst h; exact he
    | cons _ _ => simp [matchArgs] at h
  | cons a as ih =>
    cases tup with
    | nil => cases a <;> simp [matchArgs] at h
    | cons v vs =>
      have hvs : ∀ w ∈ vs, w ∈ D := fun w hw => ht w (List.mem_cons_of_mem _ hw)
      cases a with
      | const c =>
        simp only [matchArgs] at h
        split at h
        · exact ih vs env h he hvs
        · cases h
      | var x =>
        simp only [matchArgs] at h
        split at h
        · split at h
          · exact ih vs env h he hvs
          · cases h
        · refine ih vs ((x, v) :: env) h ?_ hvs
          intro y w hy
          simp only [envGet] at hy
          split at hy
          · cases hy; exact ht v (by simp)
          · exact he y w hy

theorem solveBody_good (D : List Int) (db : Name → List Tup) (hdb : ∀ r, ∀ t ∈ db r, ∀ v ∈ t, v ∈ D)
    (body : List Atom) (envs : List Env) (he : ∀ e ∈ envs, EnvGood D e) :
    ∀ e ∈ solveBody db body envs, EnvGood D e := by
  induction body generalizing envs with
  | nil => simpa [solveBody] using he
  | cons a as ih =>
    simp only [solveBody]
    apply ih
    intro e hm
    obtain ⟨env, henv, hm2⟩ := List.mem_flatMap.mp hm
    obtain ⟨t, ht, hmt⟩ := List.mem_filterMap.mp hm2
    exact matchArgs_good D a.args t env e hmt (he env henv) (hdb a.rel t ht)

theorem instHead_good (D : List Int) (args : List Term) (env : Env) (t : Tup) (h : instHead args env = some t)
    (he : EnvGood D env) (hc : ∀ c ∈ termConsts args, c ∈ D) : t.length = args.length ∧ ∀ v ∈ t, v ∈ D := by
  induction args generalizing t with
  | nil => simp [instHead] at h; subst h; simp
  | cons a as ih =>
    cases a with
    | const c =>
      simp only [instHead, Option.map_eq_some_iff] at h
      obtain ⟨r, hr, rfl⟩ := h
      have := ih r hr (fun c' hc' => hc c' (by simp [termConsts, hc']))
      refine ⟨by simp [this.1], ?_⟩
      intro v hv
      rcases List.mem_cons.mp hv with e | e
      · subst e; exact hc v (by simp [termConsts])
      · exact this.2 v e
    | var x =>
      simp only [instHead] at h
      split at h
      · next v r hv hr =>
        cases h
        have := ih r hr (fun c' hc' => hc c' (by simpa [termConsts] using hc'))
        refine ⟨by simp [this.1], ?_⟩
        intro w hw
        rcases List.mem_cons.mp hw with e | e
        · subst e; exact he x w hv
        · exact this.2 w e
      · cases h

theorem fire_good (prog : List Clause) (inputs : List (Name × List Tup)) (db : Name → List Tup)
    (hdb : ∀ r, ∀ t ∈ db r, ∀ v ∈ t, v ∈ dom prog inputs) (c : Clause) (hc : c ∈ prog) :
    ∀ t ∈ fire db c, t.length ≤ maxArity prog ∧ ∀ v ∈ t, v ∈ dom prog inputs := by
  intro t ht
  unfold fire at ht
  obtain ⟨e, he, het⟩ := List.mem_filterMap.mp ht
  have heg := solveBody_good (dom prog inputs) db hdb c.body [[]]
    (by intro e' he'; simp at he'; subst he'; intro x v hx; simp [envGet] at hx) e he
  have := instHead_good (dom prog inputs) c.head.args e t het heg
    (fun k hk => List.mem_append_right _ (List.mem_flatMap.mpr ⟨c, hc, hk⟩))
  exact ⟨by rw [this.1]; exact arity_le_max prog c hc, this.2⟩

def TGood (prog : List Clause) (inputs : List (Name × List Tup)) (d : List (Name × List Tup)) : Prop :=
  ∀ p ∈ d, p.2.Nodup ∧ ∀ t ∈ p.2, t.length ≤ maxArity prog ∧ ∀ v ∈ t, v ∈ dom prog inputs

theorem nodup_addNew (l ts : List Tup) (h : l.Nodup) : (addNew l ts).Nodup := by
  induction ts generalizing l with
  | nil => exact h
  | cons a ts ih =>
    by_cases ha : a ∈ l
    · simp only [addNew, ha, if_true]; exact ih l h
    · simp only [addNew, ha, if_false]
      apply ih
      rw [List.nodup_append]
      refine ⟨h, by simp, ?_⟩
      intro x hx y hy
      simp at hy; subst hy
      exact fun e => ha (e ▸ hx)

theorem addNew_append (l ts : List Tup) : ∃ e, addNew l ts = l ++ e := by
  induction ts generalizing l with
  | nil => exact ⟨[], (List.append_nil l).symm⟩
  | cons a ts ih =>
    unfold addNew
    by_cases ha : a ∈ l
    · rw [if_pos ha]; exact ih l
    · rw [if_neg ha]
      obtain ⟨e, he⟩ := ih (l ++ [a])
      exact ⟨a :: e, by rw [he, List.append_assoc]; rfl⟩

theorem look_good (prog : List Clause) (inputs d : List (Name × List Tup)) (hg : TGood prog inputs d) :
    ∀ r, ∀ t ∈ look inputs d r, ∀ v ∈ t, v ∈ dom prog inputs := by
  intro r t ht v hv
  unfold look at ht
  cases hgt : aget d r with
  | none =>
    simp only [hgt] at ht
    exact inDb_dom prog inputs r t ht v hv
  | some tbl =>
    simp only [hgt] at ht
    exact ((hg (r, tbl) (aget_some_mem hgt)).2 t ht).2 v hv

theorem tstep_good (prog : List Clause) (inputs d : List (Name × List Tup)) (hg : TGood prog inputs d) :
    TGood prog inputs (tstep prog inputs d) := by
  intro p hp
  unfold tstep at hp
  obtain ⟨q, hq, rfl⟩ := List.mem_map.mp hp
  have hq' := hg q hq
  refine ⟨nodup_addNew _ _ hq'.1, ?_⟩
  intro t ht
  rcases (mem_addNew _ _ _).mp ht with h | h
  · exact hq'.2 t h
  · obtain ⟨c, hc, _, hf⟩ := (mem_consequences prog _ q.1 t).mp h
    exact fire_good prog inputs _ (look_good prog inputs d hg) c hc t hf

theorem table_bound (prog : List Clause) (inputs d : List (Name × List Tup)) (hg : TGood prog inputs d) :
    ∀ p ∈ d, p.2.length ≤ (inputSize inputs + progConsts prog + 1) ^ maxArity prog := by
  intro p hp
  have h1 : p.2.length ≤ (tuplesUpTo (dom prog inputs) (maxArity prog)).length :=
    (hg p hp).1.length_le_of_subset fun t ht => mem_tuplesUpTo _ _ t ((hg p hp).2 t ht).1 ((hg p hp).2 t ht).2
  have h2 := length_tuplesUpTo (dom prog inputs) (maxArity prog)
  rw [dom_length] at h2
  exact Nat.le_trans h1 h2

def tsize : List (Name × List Tup) → Nat
  | [] => 0
  | p :: l => p.2.length + tsize l

theorem tsize_le (d : List (Name × List Tup)) (N : Nat) (h : ∀ p ∈ d, p.2.length ≤ N) : tsize d ≤ d.length * N := by
  induction d with
  | nil => exact Nat.zero_le _
  | cons p l ih =>
    have h1 := h p List.mem_cons_self
    have h2 := ih fun q hq => h q (List.mem_cons_of_mem _ hq)
    rw [List.length_cons, Nat.add_mul, Nat.one_mul, Nat.add_comm]
    exact Nat.add_le_add h1 h2

theorem tsize_map_le (g : Name → List Tup → List Tup) (hg : ∀ k l, ∃ e, g k l = l ++ e)
    (d : List (Name × List Tup)) : tsize d ≤ tsize (d.map fun p => (p.1, g p.1 p.2)) := by
  induction d with
  | nil => exact Nat.le_refl _
  | cons p l ih =>
    obtain ⟨e, he⟩ := hg p.1 p.2
    show p.2.length + tsize l ≤ (g p.1 p.2).length + tsize (l.map fun p => (p.1, g p.1 p.2))
    rw [he, List.length_append]
    exact Nat.add_le_add (Nat.le_add_right _ _) ih

theorem tsize_map_lt (g : Name → List Tup → List Tup) (hg : ∀ k l, ∃ e, g k l = l ++ e)
    (d : List (Name × List Tup)) (hne : (d.map fun p => (p.1, g p.1 p.2)) ≠ d) :
    tsize d < tsize (d.map fun p => (p.1, g p.1 p.2)) := by
  induction d with
  | nil => exact absurd rfl hne
  | cons p l ih =>
    obtain ⟨e, he⟩ := hg p.1 p.2
    show p.2.length + tsize l < (g p.1 p.2).length + tsize (l.map fun p => (p.1, g p.1 p.2))
    cases e with
    | nil =>
      rw [List.append_nil] at he
      rw [he]
      refine Nat.add_lt_add_left (ih fun h => hne ?_) _
      rw [List.map_cons, he, h]
    | cons a e =>
      rw [he, List.length_append]
      exact Nat.add_lt_add_of_lt_of_le (Nat.lt_add_of_pos_right (Nat.succ_pos _)) (tsize_map_le g hg l)

theorem iter_converges (prog : List Clause) (inputs : List (Name × List Tup)) (N k : Nat)
    (hN : ∀ d', TGood prog inputs d' → ∀ p ∈ d', p.2.length ≤ N)
    (d : List (Name × List Tup)) (hg : TGood prog inputs d) (hk : d.length * N < tsize d + k) :
    tstep prog inputs (iter prog inputs k d) = iter prog inputs k d := by
  induction k generalizing d with
  | zero => exact absurd (tsize_le d N (hN d hg)) (Nat.not_le_of_lt hk)
  | succ k ih =>
    rw [iter_succ]
    by_cases h : tstep prog inputs d = d
    · rw [if_pos h]; exact h
    · rw [if_neg h]
      have hlt : tsize d < tsize (tstep prog inputs d) :=
        tsize_map_lt (fun n v => addNew v (consequences prog (look inputs d) n)) (fun _ l => addNew_append l _) d h
      refine ih (tstep prog inputs d) (tstep_good prog inputs d hg) ?_
      rw [show (tstep prog inputs d).length = d.length from List.length_map _]
      omega

theorem res_fix (prog : List Clause) (inputs : List (Name × List Tup)) :
    tstep prog inputs (res prog inputs) = res prog inputs := by
  refine iter_converges prog inputs _ _ (table_bound prog inputs) (d0 prog) ?_ ?_
  · intro p hp
    obtain ⟨n, _, rfl⟩ := List.mem_map.mp hp
    exact ⟨List.nodup_nil, fun _ ht => absurd ht List.not_mem_nil⟩
  · rw [show (d0 prog).length = (heads prog).length from List.length_map _]
    exact Nat.lt_add_left _ (Nat.lt_succ_of_lt (Nat.lt_succ_self _))

theorem conv_always (prog : List Clause) (inputs : List (Name × List Tup)) : conv prog inputs = true :=
  decide_eq_true (res_fix prog inputs)

end ILV.C18
