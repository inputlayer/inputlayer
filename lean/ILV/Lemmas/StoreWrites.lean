/-
  The write operations for a codec that is the identity on the tuples in use (`CodecOk`, `PInv`): the
  persist layer cannot fail, and a write acts on the *abstract state* of the engine — live relations,
  arity metadata, per-tuple sums of the update log — as a function of that state alone
  (`Wrote`; `insertCore_char`, `deleteCoreRaw_char`, and `deleteCore_char` for the delete with its
  arity filter).

  Under the "effective requests" discipline (every insert names absent tuples, every delete names
  present ones, no tuple twice in a request) the per-tuple sum of the update log is exactly the
  membership indicator of the live set — the invariant behind C11 (`LInv`) — and both writes keep it.
-/
import ILV.Lemmas.WritesLive
namespace ILV.Store
open ILV ILV.Batch ILV.Props.C31

/-- equal abstract states: what is served (`live`, `arity`) and what a restart would recover (the
    per-tuple sums of every log); configuration, clock and the arrangement of the log may differ. -/
structure AbsEq (e1 e2 : Engine) : Prop where
  live : e1.live = e2.live
  arity : e1.arity = e2.arity
  sums : ∀ r t, sumOf t (logOf e1 r) = sumOf t (logOf e2 r)

theorem AbsEq.refl (e : Engine) : AbsEq e e := ⟨rfl, rfl, fun _ _ => rfl⟩
theorem AbsEq.symm {a b : Engine} (h : AbsEq a b) : AbsEq b a := ⟨h.live.symm, h.arity.symm, fun r t => (h.sums r t).symm⟩
theorem AbsEq.trans {a b d : Engine} (h1 : AbsEq a b) (h2 : AbsEq b d) : AbsEq a d :=
  ⟨h1.live.trans h2.live, h1.arity.trans h2.arity, fun r t => (h1.sums r t).trans (h2.sums r t)⟩
theorem AbsEq_of_maint {e e' : Engine} (m : Maint e e') : AbsEq e e' := ⟨m.live.symm, m.arity.symm, fun r t => (m.sums r t).symm⟩

/-- live-state invariant: `sum(log, t) = [t ∈ live]`, the live vectors have no duplicates. -/
structure LInv (G : String → Tuple → Prop) (e : Engine) : Prop where
  sums : ∀ r t, sumOf t (logOf e r) = if t ∈ liveOf e r then 1 else 0
  nodup : ∀ r, (liveOf e r).Nodup
  liveGood : ∀ r, ∀ t ∈ liveOf e r, G r t

theorem LInv_of_absEq {G} {e e' : Engine} (h : LInv G e) (a : AbsEq e e') : LInv G e' := by
  have hl : ∀ r, liveOf e' r = liveOf e r := fun r => by rw [liveOf, liveOf, a.live]
  exact ⟨fun r t => by rw [← a.sums, hl]; exact h.sums r t, fun r => by rw [hl]; exact h.nodup r,
    fun r t ht => h.liveGood r t (hl r ▸ ht)⟩

theorem persist_spec {c : Codec} {G} (hc : CodecOk c G) {e : Engine} {rel : String} {ts : List Tuple} (h : PInv G e)
    (hg : ∀ t ∈ ts, G rel t) (time : Nat) (d : Int) :
    (persist c e rel (mkUpdates ts time d)).2 = none ∧ PInv G (persist c e rel (mkUpdates ts time d)).1 ∧
    ∀ r, logOf (persist c e rel (mkUpdates ts time d)).1 r =
      if r = rel then logOf e rel ++ mkUpdates ts time d else logOf e r := by
  obtain ⟨e1P, e1L⟩ := ensureShard_spec (G := G) { e with time := e.time + 1 } rel (PInv_congr h rfl rfl rfl rfl rfl)
  obtain ⟨a1, a2, a3⟩ := append_spec hc (ensureShard { e with time := e.time + 1 } rel) rel (mkUpdates ts time d) e1P
    (fun u hu => by obtain ⟨t, ht, rfl⟩ := List.mem_map.1 hu; exact hg t ht)
  refine ⟨a1, a2, fun r => ?_⟩
  rw [persist, a3, e1L, e1L]
  rfl

theorem sumOf_mkUpdates_time (t : Tuple) (d : Int) (t1 t2 : Nat) (ts : List Tuple) :
    sumOf t (mkUpdates ts t1 d) = sumOf t (mkUpdates ts t2 d) := by
  induction ts with
  | nil => rfl
  | cons x xs ih => simp only [mkUpdates, List.map_cons, sumOf_cons] at ih ⊢; rw [ih]

theorem sumOf_mkUpdates (t : Tuple) (time : Nat) (d : Int) : ∀ (ts : List Tuple), ts.Nodup →
    sumOf t (mkUpdates ts time d) = if t ∈ ts then d else 0 := by
  intro ts
  induction ts with
  | nil => exact fun _ => rfl
  | cons x xs ih =>
    intro hn
    rw [List.nodup_cons] at hn
    rw [mkUpdates, List.map_cons, sumOf_cons, ← mkUpdates, ih hn.2]
    by_cases hx : x = t
    · rw [if_pos hx, if_neg (hx ▸ hn.1), if_pos (hx ▸ List.mem_cons_self), Int.add_zero]
    · rw [if_neg hx, Int.zero_add]
      have : t ∈ x :: xs ↔ t ∈ xs :=
        ⟨fun h => (List.mem_cons.1 h).resolve_left (fun e => hx e.symm), List.mem_cons_of_mem _⟩
      simp only [this]

/-- `e'` is `e` after a write of the tuples `ts` with diff `d` to `rel`: persist layer consistent,
    configuration unchanged, live relations `live`, arities `arity`, and the log of `rel` longer by one
    update per tuple (stated on the per-tuple sums, which is all that recovery looks at). -/
structure Wrote (G : String → Tuple → Prop) (e e' : Engine) (live : List (String × List Tuple))
    (arity : List (String × Nat)) (rel : String) (ts : List Tuple) (d : Int) : Prop where
  pinv : PInv G e'
  cfg : e'.cfg = e.cfg
  live : e'.live = live
  arity : e'.arity = arity
  sums : ∀ r t, sumOf t (logOf e' r) = sumOf t (logOf e r) + (if r = rel then sumOf t (mkUpdates ts 0 d) else 0)

theorem Wrote.of_persist {c : Codec} {G} (hc : CodecOk c G) {e e2 : Engine} {rel : String} {ts : List Tuple} (hP : PInv G e)
    (hg : ∀ t ∈ ts, G rel t) {d : Int} (hp : persist c e rel (mkUpdates ts e.time d) = (e2, none))
    (l : List (String × List Tuple)) (a : List (String × Nat)) :
    Wrote G e { e2 with live := l, arity := a } l a rel ts d := by
  obtain ⟨_, p2, p3⟩ := persist_spec hc hP hg e.time d
  have hcfg := (persist_frame c e rel (mkUpdates ts e.time d)).cfg
  rw [hp] at p2 p3 hcfg
  refine ⟨PInv_congr p2 rfl rfl rfl rfl rfl, hcfg, rfl, rfl, fun r t => ?_⟩
  show sumOf t (logOf e2 r) = _
  rw [p3]
  split
  · next hr => rw [sumOf_append, hr, sumOf_mkUpdates_time t d e.time 0]
  · rw [Int.add_zero]

theorem Wrote.absEq {G} {e1 e2 e1' e2' : Engine} {l1 l2 a1 a2 rel ts1 ts2 d} (h : AbsEq e1 e2)
    (w1 : Wrote G e1 e1' l1 a1 rel ts1 d) (w2 : Wrote G e2 e2' l2 a2 rel ts2 d) (hl : l1 = l2) (ha : a1 = a2)
    (ht : ts1 = ts2) : AbsEq e1' e2' :=
  ⟨w1.live.trans (hl.trans w2.live.symm), w1.arity.trans (ha.trans w2.arity.symm),
    fun r t => by rw [w1.sums, w2.sums, h.sums, ht]⟩

/-- an accepted `insert_tuples_into` on the abstract state (a rejected one changes nothing, `insertCore_rej`). -/
theorem insertCore_char {c : Codec} {G} (hc : CodecOk c G) (e : Engine) (rel : String) (ts : List Tuple)
    (hP : PInv G e) (hg : ∀ t ∈ ts, G rel t) (hacc : insAcc e rel ts = true) :
    Wrote G e (insertCore c e rel ts).1 (insLive e.live rel ts) (aset e.arity rel (firstLen ts)) rel ts 1 := by
  refine insertCore_cases c e rel ts (motive := fun x => Wrote G e x.1 _ _ rel ts 1) ?_ ?_ ?_ ?_
  · rintro rfl; cases hacc
  · intro _ h; rw [hacc] at h; cases h
  · intro e2 k _ hp; have := (persist_spec hc hP hg e.time 1).1; rw [hp] at this; cases this
  · exact fun e2 _ hp => Wrote.of_persist hc hP hg hp _ _

theorem deleteCoreRaw_char {c : Codec} {G} (hc : CodecOk c G) (e : Engine) (rel : String) (ts : List Tuple)
    (hP : PInv G e) (hg : ∀ t ∈ ts, G rel t) :
    Wrote G e (deleteCoreRaw c e rel ts).1 (delLive e.live rel ts) (delArity e.live e.arity rel ts) rel ts (-1) := by
  refine deleteCoreRaw_cases c e rel ts (motive := fun x => Wrote G e x.1 _ _ rel ts (-1)) ?_ ?_ ?_
  · rintro rfl
    exact ⟨hP, rfl, rfl, rfl, fun r t => by rw [show sumOf t (mkUpdates [] 0 (-1)) = 0 from rfl, ite_self, Int.add_zero]⟩
  · intro e2 k hp; have := (persist_spec hc hP hg e.time (-1)).1; rw [hp] at this; cases this
  · exact fun e2 hp => Wrote.of_persist hc hP hg hp _ _

theorem mem_deletable {arity : List (String × Nat)} {rel : String} {ts : List Tuple} {t : Tuple}
    (h : t ∈ deletable arity rel ts) : t ∈ ts := by
  unfold deletable at h
  split at h
  · exact (List.mem_filter.1 h).1
  · cases h

/-- `delete_tuples_from` (with its arity filter) on the abstract state. -/
theorem deleteCore_char {c : Codec} {G} (hc : CodecOk c G) (e : Engine) (rel : String) (ts : List Tuple)
    (hP : PInv G e) (hg : ∀ t ∈ ts, G rel t) :
    PInv G (deleteCore c e rel ts).1 ∧ (deleteCore c e rel ts).1.cfg = e.cfg ∧
    (deleteCore c e rel ts).1.live = delLive e.live rel (deletable e.arity rel ts) ∧
    (deleteCore c e rel ts).1.arity = delArity e.live e.arity rel (deletable e.arity rel ts) ∧
    (∀ r t, sumOf t (logOf (deleteCore c e rel ts).1 r) =
      sumOf t (logOf e r) + (if r = rel then sumOf t (mkUpdates (deletable e.arity rel ts) 0 (-1)) else 0)) :=
  have w := deleteCoreRaw_char hc e rel _ hP (fun t ht => hg t (mem_deletable ht))
  ⟨w.pinv, w.cfg, w.live, w.arity, w.sums⟩

theorem LInv_write {G} {e e' : Engine} {l a rel ts d} {l' : List Tuple} (hL : LInv G e) (w : Wrote G e e' l a rel ts d)
    (hn : ts.Nodup) (hlive : ∀ r, (aget l r).getD [] = if r = rel then l' else liveOf e r)
    (hl : l'.Nodup) (hgood : ∀ t ∈ l', G rel t)
    (hind : ∀ t, (if t ∈ liveOf e rel then 1 else 0) + (if t ∈ ts then d else 0) = if t ∈ l' then (1 : Int) else 0) :
    LInv G e' := by
  have hlive' : ∀ r, liveOf e' r = if r = rel then l' else liveOf e r := fun r => by rw [liveOf, w.live, hlive]
  refine ⟨fun r t => ?_, fun r => ?_, fun r t ht => ?_⟩
  · rw [w.sums, hlive', hL.sums]
    by_cases hr : r = rel
    · rw [if_pos hr, if_pos hr, hr, sumOf_mkUpdates t 0 d ts hn]; exact hind t
    · rw [if_neg hr, if_neg hr]; exact Int.add_zero _
  · rw [hlive']
    split
    · exact hl
    · exact hL.nodup r
  · rw [hlive'] at ht
    split at ht
    · next hr => exact hr ▸ hgood t ht
    · exact hL.liveGood r t ht

theorem insertCore_spec {c : Codec} {G} (hc : CodecOk c G) (e : Engine) (rel : String) (ts : List Tuple)
    (hP : PInv G e) (hL : LInv G e) (hn : ts.Nodup) (hab : ∀ t ∈ ts, t ∉ liveOf e rel) (hg : ∀ t ∈ ts, G rel t) :
    PInv G (insertCore c e rel ts).1 ∧ LInv G (insertCore c e rel ts).1 ∧ (insertCore c e rel ts).1.cfg = e.cfg := by
  cases hacc : insAcc e rel ts with
  | false => rw [insertCore_rej c hacc]; exact ⟨hP, hL, rfl⟩
  | true =>
    have w := insertCore_char hc e rel ts hP hg hacc
    refine ⟨w.pinv, LInv_write (l' := liveOf e rel ++ ts) hL w hn (fun r => ?_) ?_ ?_ (fun t => ?_), w.cfg⟩
    · rw [← insertLoop_fresh ts (liveOf e rel) 0 0 hn hab]
      exact getD_aget_aset
    · exact List.nodup_append.2 ⟨hL.nodup rel, hn, fun a ha b hb e' => hab b hb (e' ▸ ha)⟩
    · exact fun t ht => (List.mem_append.1 ht).elim (hL.liveGood rel t) (hg t)
    · by_cases h1 : t ∈ liveOf e rel
      · rw [if_pos h1, if_neg (fun h2 => hab t h2 h1), if_pos (List.mem_append_left _ h1)]; rfl
      · by_cases h2 : t ∈ ts
        · rw [if_neg h1, if_pos h2, if_pos (List.mem_append_right _ h2)]; rfl
        · rw [if_neg h1, if_neg h2, if_neg (fun h => (List.mem_append.1 h).elim h1 h2)]; rfl

theorem deleteCoreRaw_spec {c : Codec} {G} (hc : CodecOk c G) (e : Engine) (rel : String) (ts : List Tuple)
    (hP : PInv G e) (hL : LInv G e) (hn : ts.Nodup) (hpr : ∀ t ∈ ts, t ∈ liveOf e rel) :
    PInv G (deleteCoreRaw c e rel ts).1 ∧ LInv G (deleteCoreRaw c e rel ts).1 ∧ (deleteCoreRaw c e rel ts).1.cfg = e.cfg := by
  have w := deleteCoreRaw_char hc e rel ts hP (fun t ht => hL.liveGood rel t (hpr t ht))
  refine ⟨w.pinv, LInv_write (l' := deleteLive (liveOf e rel) ts) hL w hn (liveOf_delLive e e rel ts e.arity)
    ((hL.nodup rel).filter _) (fun t ht => hL.liveGood rel t ((mem_deleteLive _ _ _).1 ht).1) (fun t => ?_), w.cfg⟩
  have hm := mem_deleteLive (liveOf e rel) ts t
  by_cases h2 : t ∈ ts
  · rw [if_pos (hpr t h2), if_pos h2, if_neg (fun h => (hm.1 h).2 h2)]; rfl
  · by_cases h1 : t ∈ liveOf e rel
    · rw [if_pos h1, if_neg h2, if_pos (hm.2 ⟨h1, h2⟩)]; rfl
    · rw [if_neg h1, if_neg h2, if_neg (fun h => h1 (hm.1 h).1)]; rfl

end ILV.Store
