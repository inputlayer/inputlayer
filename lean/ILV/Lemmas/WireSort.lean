/-
  Helper lemmas for C35: std's insertion sort (`stdInsertionSort`) returns a permutation, and a sorted
  one when the comparator is a total preorder on the elements; `apply_pagination` is take ∘ drop.
-/
import ILV.Model.WireSort
namespace ILV

theorem applyPagination_eq (rows : List WRow) (limit offset : Option Nat) :
    applyPagination rows limit offset =
      match limit with
      | some n => (rows.drop (offset.getD 0)).take n
      | none => rows.drop (offset.getD 0) := by
  unfold applyPagination
  by_cases h : offset.getD 0 ≥ rows.length
  · have hd : rows.drop (offset.getD 0) = [] := List.drop_eq_nil_of_le h
    cases limit <;> simp [h, hd]
  · cases limit <;> simp [h]

theorem insLeft_perm {α} (lt : α → α → Bool) (x : α) : ∀ l : List α, (insLeft lt x l).Perm (x :: l) := by
  intro l
  induction l with
  | nil => exact List.Perm.refl _
  | cons p ps ih =>
    simp only [insLeft]
    split
    · exact ((List.Perm.cons p ih).trans (List.Perm.swap x p ps))
    · exact List.Perm.refl _

theorem foldl_insLeft_perm {α} (lt : α → α → Bool) :
    ∀ (l acc : List α), (l.foldl (fun acc x => insLeft lt x acc) acc).Perm (acc ++ l) := by
  intro l
  induction l with
  | nil => intro acc; simp
  | cons x xs ih =>
    intro acc
    simp only [List.foldl_cons]
    refine (ih (insLeft lt x acc)).trans ?_
    have h1 : (insLeft lt x acc ++ xs).Perm ((x :: acc) ++ xs) := List.Perm.append_right xs (insLeft_perm lt x acc)
    refine h1.trans ?_
    simpa using (List.perm_middle (a := x) (l₁ := acc) (l₂ := xs)).symm

theorem stdInsertionSort_perm {α} (lt : α → α → Bool) (l : List α) : (stdInsertionSort lt l).Perm l := by
  unfold stdInsertionSort
  exact (List.reverse_perm _).trans (by simpa using foldl_insLeft_perm lt l [])

/-- `cmp` is a total preorder on the elements of `s` (what `slice::sort_by` requires). -/
structure PreorderOn {α} (s : List α) (cmp : α → α → Ordering) : Prop where
  swap : ∀ a ∈ s, ∀ b ∈ s, cmp b a = revOrd (cmp a b)
  trans : ∀ a ∈ s, ∀ b ∈ s, ∀ c ∈ s, cmp a b ≠ .gt → cmp b c ≠ .gt → cmp a c ≠ .gt

theorem mem_insLeft {α} {lt : α → α → Bool} {x q : α} {l : List α} (h : q ∈ insLeft lt x l) : q = x ∨ q ∈ l := by
  have := (insLeft_perm lt x l).mem_iff.1 h
  simpa using this

theorem insLeft_sorted {α} (s : List α) (cmp : α → α → Ordering) (po : PreorderOn s cmp) (x : α) (hx : x ∈ s) :
    ∀ acc : List α, (∀ q ∈ acc, q ∈ s) → acc.Pairwise (fun a b => cmp b a ≠ .gt) →
      (insLeft (fun a b => cmp a b == .lt) x acc).Pairwise (fun a b => cmp b a ≠ .gt) := by
  intro acc
  induction acc with
  | nil => intro _ _; exact List.pairwise_singleton _ _
  | cons p ps ih =>
    intro hs hp
    obtain ⟨hpS, hpsS⟩ := List.forall_mem_cons.1 hs
    obtain ⟨hp1, hp2⟩ := List.pairwise_cons.1 hp
    rw [insLeft]
    by_cases hlt : cmp x p = .lt
    · rw [if_pos (beq_iff_eq.2 hlt)]
      refine List.pairwise_cons.2 ⟨fun q hq => ?_, ih hpsS hp2⟩
      rcases mem_insLeft hq with rfl | hm
      · rw [hlt]; decide
      · exact hp1 q hm
    · rw [if_neg fun h => hlt (beq_iff_eq.1 h)]
      have hpx : cmp p x ≠ .gt := by
        rw [po.swap x hx p hpS]; revert hlt; cases cmp x p <;> decide
      refine List.pairwise_cons.2 ⟨fun q hq => ?_, hp⟩
      rcases List.mem_cons.1 hq with rfl | hm
      · exact hpx
      · exact po.trans q (hpsS q hm) p hpS x hx (hp1 q hm) hpx

theorem foldl_insLeft_sorted {α} (s : List α) (cmp : α → α → Ordering) (po : PreorderOn s cmp) :
    ∀ (l acc : List α), (∀ q ∈ l, q ∈ s) → (∀ q ∈ acc, q ∈ s) → acc.Pairwise (fun a b => cmp b a ≠ .gt) →
      (l.foldl (fun acc x => insLeft (fun a b => cmp a b == .lt) x acc) acc).Pairwise (fun a b => cmp b a ≠ .gt) := by
  intro l
  induction l with
  | nil => intro acc _ _ h; exact h
  | cons x xs ih =>
    intro acc hl ha hp
    simp only [List.foldl_cons]
    have hx : x ∈ s := hl x (by simp)
    apply ih
    · intro q hq; exact hl q (by simp [hq])
    · intro q hq
      rcases mem_insLeft hq with e | hm
      · subst e; exact hx
      · exact ha q hm
    · exact insLeft_sorted s cmp po x hx acc ha hp

theorem stdInsertionSort_sorted {α} (l : List α) (cmp : α → α → Ordering) (po : PreorderOn l cmp) :
    (stdInsertionSort (fun a b => cmp a b == .lt) l).Pairwise (fun a b => cmp a b ≠ .gt) := by
  unfold stdInsertionSort
  rw [List.pairwise_reverse]
  exact foldl_insLeft_sorted l cmp po l [] (fun _ h => h) (by simp) List.Pairwise.nil

theorem preorderOn_of_lawfulRows (keys : List SortKey) (rows : List WRow) (h : lawfulRows keys rows = true) :
    PreorderOn rows (rowCmp keys) := by
  have h' := fun a ha b hb => Bool.and_eq_true_iff.1 (List.all_eq_true.1 (List.all_eq_true.1 h a ha) b hb)
  refine ⟨fun a ha b hb => beq_iff_eq.1 (h' a ha b hb).1, fun a ha b hb c hc h1 h2 => ?_⟩
  have h3 := List.all_eq_true.1 (h' a ha b hb).2 c hc
  rw [bne_iff_ne.2 h1, bne_iff_ne.2 h2] at h3
  exact bne_iff_ne.1 h3

def WVal.isI64 : WVal → Bool
  | .i64 _ => true | _ => false
def WVal.isF64 : WVal → Bool
  | .f64 _ => true | _ => false

/-- no sort-key column holds both an Int64 and a Float64. -/
def noIntFloatMix (keys : List SortKey) (rows : List WRow) : Bool :=
  keys.all (fun (c, _) =>
    !((rows.any (fun r => match r[c]? with | some v => v.isI64 | none => false)) &&
      (rows.any (fun r => match r[c]? with | some v => v.isF64 | none => false))))

theorem cmpI64F64_of_not_nan (a : Int) {b : Nat} (h : f64IsNaN b = false) : cmpI64F64 a b = cmpIntF a b := by
  rw [cmpI64F64, h]; rfl

theorem specCmpV_eq (a b : WVal)
    (h : ∀ x y, (a = .i64 x ∧ b = .f64 y) ∨ (a = .f64 y ∧ b = .i64 x) → f64IsNaN y = false) :
    specCmpV a b = compareWV a b := by
  unfold specCmpV
  split
  · exact (cmpI64F64_of_not_nan _ (h _ _ (.inl ⟨rfl, rfl⟩))).symm
  · exact congrArg revOrd (cmpI64F64_of_not_nan _ (h _ _ (.inr ⟨rfl, rfl⟩))).symm
  · rfl

theorem specCmpO_eq (x y : Option WVal)
    (h : ∀ v w, x = some v → y = some w → specCmpV v w = compareWV v w) : specCmpO x y = compareWire x y := by
  cases x <;> cases y <;> first | rfl | exact h _ _ rfl rfl

theorem specRowCmp_eq_of (keys : List SortKey) (a b : WRow)
    (h : ∀ k ∈ keys, specCmpO a[k.1]? b[k.1]? = compareWire a[k.1]? b[k.1]?) :
    specRowCmp keys a b = rowCmp keys a b := by
  induction keys with
  | nil => rfl
  | cons k ks ih =>
    obtain ⟨col, desc⟩ := k
    simp only [specRowCmp, rowCmp, h (col, desc) (List.mem_cons_self ..),
      ih fun k hk => h k (List.mem_cons_of_mem _ hk)]

theorem rowCmp_eq_spec (keys : List SortKey) (rows : List WRow) (hm : noIntFloatMix keys rows = true)
    (a b : WRow) (ha : a ∈ rows) (hb : b ∈ rows) : specRowCmp keys a b = rowCmp keys a b := by
  refine specRowCmp_eq_of keys a b fun k hk => specCmpO_eq _ _ fun v w hv hw => specCmpV_eq v w ?_
  obtain ⟨col, desc⟩ := k
  have hmix := List.all_eq_true.1 hm (col, desc) hk
  dsimp only at hmix
  -- an Int64/Float64 pair in column `col` would make both `any`s true
  have hi {r : WRow} {x : Int} (hr : r ∈ rows) (e : r[col]? = some (.i64 x)) :
      rows.any (fun r => match r[col]? with | some v => v.isI64 | none => false) = true :=
    List.any_eq_true.2 ⟨r, hr, by rw [e]; rfl⟩
  have hf {r : WRow} {y : Nat} (hr : r ∈ rows) (e : r[col]? = some (.f64 y)) :
      rows.any (fun r => match r[col]? with | some v => v.isF64 | none => false) = true :=
    List.any_eq_true.2 ⟨r, hr, by rw [e]; rfl⟩
  rintro x y (⟨rfl, rfl⟩ | ⟨rfl, rfl⟩)
  · rw [hi ha hv, hf hb hw] at hmix; cases hmix
  · rw [hi hb hw, hf ha hv] at hmix; cases hmix

end ILV
