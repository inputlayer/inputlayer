/-
  The real codec (`Store.realCodec` = WAL JSON line + batch-file columns) is the identity on the
  admissible tuples of homogeneous relations — the bridge from the codec-parametric theorems
  (C11, C14) to the code's codec (C12).
-/
import ILV.Lemmas.BatchCodec
import ILV.Lemmas.StoreInv
namespace ILV.Store
open ILV ILV.Batch ILV.Props.C31

/-- admissible tuples of a relation whose columns have kinds `ks r`: that kind vector (any kinds, any
    arity), no non-finite float, 64-bit float patterns. -/
def Admissible (ks : String → List DType) (r : String) (t : Tuple) : Prop :=
  t.map dataType = ks r ∧ t.all jsonSafe = true ∧ TupleWF t

instance (ks : String → List DType) (r : String) (t : Tuple) : Decidable (Admissible ks r t) := by
  unfold Admissible; infer_instance

theorem walCodec_safe (u : Update) (h : u.data.all jsonSafe = true) : walCodec u = some u := by
  simp [walCodec, h]

theorem realCodec_ok (ks : String → List DType) : CodecOk realCodec (Admissible ks) where
  wal := fun _ u h => walCodec_safe u h.2.1
  batch := fun r us h => batchCodec_homog (ks r) us (fun v hv => (h v hv).1)

theorem Admissible_wf (ks : String → List DType) : ∀ r t, Admissible ks r t → TupleWF t := fun _ _ h => h.2.2

end ILV.Store
