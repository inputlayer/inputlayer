/-
  Invariants of the persist-layer step system (ILV.Model.PStep) used by Props/C15.
-/
import ILV.Model.PStep
namespace ILV.PStep

@[simp] theorem setThread_same (ts : Tid → Thread) (t : Tid) (v : Thread) : setThread ts t v t = v := by
  simp [setThread]
theorem setThread_other (ts : Tid → Thread) {t i : Tid} (v : Thread) (h : i ≠ t) : setThread ts t v i = ts i := by
  simp [setThread, h]
@[simp] theorem setShard_same (f : Shard → ShardSt) (s : Shard) (v : ShardSt) : setShard f s v s = v := by
  simp [setShard]
theorem setShard_other (f : Shard → ShardSt) {s x : Shard} (v : ShardSt) (h : x ≠ s) : setShard f s v x = f x := by
  simp [setShard, h]

/-- the update is held by the shard (buffer or a batch) -/
def StoredIn (sh : Shard → ShardSt) (s : Shard) (u : Upd) : Prop :=
  u ∈ (sh s).buffer ∨ u ∈ (sh s).batches.flatten

abbrev Stored (st : State) (s : Shard) (u : Upd) : Prop := StoredIn st.shards s u

theorem mem_walRemove {wal : List (Shard × Upd)} {s s' : Shard} {u : Upd} :
    (s, u) ∈ walRemove wal s' ↔ (s, u) ∈ wal ∧ s ≠ s' := by
  simp [walRemove]

theorem ackedOf_finish {th : Thread} {op : Op} {rest : List Op} (h : th.todo = op :: rest) (ok : Bool) (s : Shard) :
    ackedOf (th.finish ok) s = ackedOf th s ++ ackNew s (op, ok) := by
  simp [Thread.finish, h, ackedOf]

theorem mem_ackNew {s : Shard} {u : Upd} {op : Op} {ok : Bool} (h : u ∈ ackNew s (op, ok)) :
    ∃ us, op = .append s us ∧ ok = true ∧ u ∈ us := by
  cases op with
  | flush s' => simp [ackNew] at h
  | compactOnly s' => simp [ackNew] at h
  | append s' us =>
    cases ok with
    | false => simp [ackNew] at h
    | true =>
      simp only [ackNew] at h
      by_cases hs : s' = s
      · subst hs; simp at h; exact ⟨us, rfl, rfl, h⟩
      · simp [hs] at h

theorem finish_pc {th : Thread} {op : Op} {rest : List Op} (h : th.todo = op :: rest) (ok : Bool) :
    (th.finish ok).pc = .start := by
  unfold Thread.finish; rw [h]

/-- `P` holds of the successor state, if the step yields one -/
def Res.All (P : State → Prop) : Res → Prop
  | .ok s => P s
  | _ => True

theorem Res.All.of_eq {P : State → Prop} {r : Res} {s : State} (h : r.All P) (e : r = .ok s) : P s := by
  subst e; exact h

theorem Res.All.ite {P : State → Prop} {c : Prop} [Decidable c] {a b : Res} (ha : c → a.All P) (hb : ¬ c → b.All P) :
    (if c then a else b).All P := by
  split
  · exact ha ‹_›
  · exact hb ‹_›

theorem step_of_ge {cfg : Cfg} {st : State} {t : Tid} (h : t ≥ st.n) : step cfg st t = .skip := by
  unfold step; exact if_pos h

/-- `mid`: a thread between its WAL section and its buffer section has its lines in the WAL (the clause a hazardous
    WAL rewrite breaks); `buf`: what is buffered is in the WAL; `pushed`, `ack`: the updates of an append past its
    buffer section, and of every acknowledged append, are stored; `hold`: a thread parked inside `flush` holds the
    lock and has emptied the buffer of its shard. `buf` and `ack` give durability (`inv_durable`). -/
structure Inv (st : State) : Prop where
  mid : ∀ i s us rest, i < st.n → (st.threads i).pc = .appAfterWal →
          (st.threads i).todo = .append s us :: rest → ∀ u ∈ us, (s, u) ∈ st.wal
  buf : ∀ s u, u ∈ (st.shards s).buffer → (s, u) ∈ st.wal
  pushed : ∀ i s us rest, i < st.n → (st.threads i).todo = .append s us :: rest →
          ((∃ b, (st.threads i).pc = .appAfterBuf b) ∨ (st.threads i).pc = .flushHold) → ∀ u ∈ us, Stored st s u
  ack : ∀ i s u, i < st.n → u ∈ ackedOf (st.threads i) s → Stored st s u
  hold : ∀ i, i < st.n → (st.threads i).pc = .flushHold →
          st.lock = some i ∧ ∃ op rest, (st.threads i).todo = op :: rest ∧ (st.shards (opShard op)).buffer = []

theorem inv_init (progs : List (List Op)) (pre : List Shard) : Inv (init progs pre) := by
  refine ⟨fun _ _ _ _ _ => nofun, fun s u h => ?_, fun _ _ _ _ _ _ hpc => ?_, fun _ _ _ _ => nofun, fun _ _ => nofun⟩
  · simp only [init] at h; split at h <;> cases h
  · rcases hpc with ⟨_, hpc⟩ | hpc <;> cases hpc

/-- what `Inv` asks of one thread, standing in thread state `th` -/
structure ThreadOk (st : State) (i : Tid) (th : Thread) : Prop where
  mid : ∀ s us rest, th.pc = .appAfterWal → th.todo = .append s us :: rest → ∀ u ∈ us, (s, u) ∈ st.wal
  pushed : ∀ s us rest, th.todo = .append s us :: rest →
    ((∃ b, th.pc = .appAfterBuf b) ∨ th.pc = .flushHold) → ∀ u ∈ us, Stored st s u
  ack : ∀ s u, u ∈ ackedOf th s → Stored st s u
  hold : th.pc = .flushHold → st.lock = some i ∧ ∃ op rest, th.todo = op :: rest ∧ (st.shards (opShard op)).buffer = []

theorem ThreadOk.atStart {st : State} {i : Tid} {th : Thread} (hpc : th.pc = .start)
    (hack : ∀ s u, u ∈ ackedOf th s → Stored st s u) : ThreadOk st i th := by
  refine ⟨fun _ _ _ h => ?_, fun _ _ _ _ h => ?_, hack, fun h => ?_⟩ <;> rw [hpc] at h
  · cases h
  · rcases h with ⟨_, h⟩ | h <;> cases h
  · cases h

theorem inv_step {st st' : State} {t : Tid} {th' : Thread} (h : Inv st) (hn : st'.n = st.n)
    (hthr : st'.threads = setThread st.threads t th')
    (hbuf : ∀ s u, u ∈ (st'.shards s).buffer → (s, u) ∈ st'.wal) (hself : ThreadOk st' t th')
    (hw : ∀ i s us rest u, i ≠ t → i < st.n → (st.threads i).pc = .appAfterWal →
      (st.threads i).todo = .append s us :: rest → (s, u) ∈ st.wal → (s, u) ∈ st'.wal)
    (hs : ∀ s u, Stored st s u → Stored st' s u)
    (hl : ∀ i, i ≠ t → i < st.n → (st.threads i).pc = .flushHold →
      st'.lock = st.lock ∧ ∀ s, (st.shards s).buffer = [] → (st'.shards s).buffer = []) : Inv st' := by
  have all : ∀ i, i < st'.n → ThreadOk st' i (st'.threads i) := by
    intro i hi
    rw [hn] at hi; rw [hthr]
    by_cases hit : i = t
    · subst hit; rw [setThread_same]; exact hself
    · rw [setThread_other _ _ hit]
      refine ⟨fun s us rest hpc htd u hu => hw i s us rest u hit hi hpc htd (h.mid i s us rest hi hpc htd u hu),
        fun s us rest htd hpc u hu => hs s u (h.pushed i s us rest hi htd hpc u hu),
        fun s u hu => hs s u (h.ack i s u hi hu), fun hpc => ?_⟩
      obtain ⟨h1, op, rest, h2, h3⟩ := h.hold i hi hpc
      exact ⟨(hl i hit hi hpc).1.trans h1, op, rest, h2, (hl i hit hi hpc).2 _ h3⟩
  exact ⟨fun i s us rest hi => (all i hi).mid s us rest, hbuf, fun i s us rest hi => (all i hi).pushed s us rest,
    fun i s u hi => (all i hi).ack s u, fun i hi => (all i hi).hold⟩

theorem no_holder {st : State} (h : Inv st) (hl : st.lock = none) (i : Tid) (hi : i < st.n) :
    (st.threads i).pc ≠ .flushHold := by
  intro hpc; have := (h.hold i hi hpc).1; rw [hl] at this; cases this

theorem storedIn_setShard {sh : Shard → ShardSt} {s : Shard} {v : ShardSt}
    (hv : ∀ u, StoredIn sh s u → u ∈ v.buffer ∨ u ∈ v.batches.flatten) (s' : Shard) (u : Upd)
    (hu : StoredIn sh s' u) : StoredIn (setShard sh s v) s' u := by
  unfold StoredIn
  by_cases hs : s' = s
  · subst hs; rw [setShard_same]; exact hv u hu
  · rw [setShard_other _ _ hs]; exact hu

theorem ack_finish {st st' : State} {t : Tid} {op : Op} {rest : List Op} {ok : Bool} (h : Inv st) (ht : t < st.n)
    (htodo : (st.threads t).todo = op :: rest) (hs : ∀ s u, Stored st s u → Stored st' s u)
    (hst : ∀ s us, op = .append s us → ok = true → ∀ u ∈ us, Stored st s u) (s : Shard) (u : Upd)
    (hu : u ∈ ackedOf ((st.threads t).finish ok) s) : Stored st' s u := by
  rw [ackedOf_finish htodo] at hu
  rcases List.mem_append.mp hu with hu | hu
  · exact hs s u (h.ack t s u ht hu)
  · obtain ⟨us, hop, hok, hmem⟩ := mem_ackNew hu
    exact hs s u (hst s us hop hok u hmem)

theorem inv_finish {st : State} {t : Tid} {op : Op} {rest : List Op} {ok : Bool} (h : Inv st) (ht : t < st.n)
    (htodo : (st.threads t).todo = op :: rest)
    (hst : ∀ s us, op = .append s us → ok = true → ∀ u ∈ us, Stored st s u) :
    Inv { st with threads := setThread st.threads t ((st.threads t).finish ok) } :=
  inv_step h rfl rfl h.buf
    (.atStart (finish_pc htodo ok) (ack_finish h ht htodo (fun _ _ hu => hu) hst))
    (fun _ _ _ _ _ _ _ _ _ hu => hu) (fun _ _ hu => hu) (fun _ _ _ _ => ⟨rfl, fun _ hb => hb⟩)

/-- append, step 1: WAL section -/
theorem inv_wal {st : State} {t : Tid} {s : Shard} {us : List Upd} {rest : List Op} (h : Inv st) (ht : t < st.n)
    (htodo : (st.threads t).todo = .append s us :: rest) :
    Inv { st with wal := st.wal ++ us.map (fun u => (s, u)),
                  threads := setThread st.threads t { st.threads t with pc := .appAfterWal } } := by
  refine inv_step h rfl rfl (fun s' u hu => List.mem_append_left _ (h.buf s' u hu)) ⟨fun s' us' rest' _ htd u hu => ?_,
    fun _ _ _ _ hpc => ?_, fun s' u hu => h.ack t s' u ht hu, nofun⟩
    (fun _ _ _ _ _ _ _ _ _ hu => List.mem_append_left _ hu) (fun _ _ hu => hu) (fun _ _ _ _ => ⟨rfl, fun _ hb => hb⟩)
  · cases htodo.symm.trans htd; exact List.mem_append_right _ (List.mem_map.mpr ⟨u, hu, rfl⟩)
  · rcases hpc with ⟨_, hb⟩ | hb <;> cases hb

/-- append, step 2: buffer section -/
theorem inv_push {st : State} {t : Tid} {s : Shard} {us : List Upd} {rest : List Op} {b : Bool}
    (h : Inv st) (ht : t < st.n)
    (htodo : (st.threads t).todo = .append s us :: rest) (hpc : (st.threads t).pc = .appAfterWal) (hl : st.lock = none) :
    Inv { st with shards := setShard st.shards s { st.shards s with present := true, buffer := (st.shards s).buffer ++ us },
                  threads := setThread st.threads t { st.threads t with pc := .appAfterBuf b } } := by
  have mono := storedIn_setShard (sh := st.shards) (s := s)
    (v := { st.shards s with present := true, buffer := (st.shards s).buffer ++ us }) fun u hu =>
    hu.imp (List.mem_append_left _) id
  refine inv_step h rfl rfl (fun s' u hu => ?_) ⟨nofun, fun s' us' rest' htd _ u hu => ?_,
    fun s' u hu => mono s' u (h.ack t s' u ht hu), nofun⟩
    (fun _ _ _ _ _ _ _ _ _ hu => hu) mono (fun i _ hi hpc' => absurd hpc' (no_holder h hl i hi))
  · by_cases hs : s' = s
    · subst hs; simp only [setShard_same] at hu
      exact (List.mem_append.mp hu).elim (h.buf s' u) (h.mid t s' us rest ht hpc htodo u)
    · simp only [setShard_other _ _ hs] at hu; exact h.buf s' u hu
  · cases htodo.symm.trans htd
    exact Or.inl (by simp only [setShard_same]; exact List.mem_append_right _ hu)

/-- the shard after `flush` moved its buffer into a new batch -/
def flushed (sh : ShardSt) : ShardSt := { sh with batches := sh.batches ++ [sh.buffer], buffer := [] }

theorem stored_flush (sh : Shard → ShardSt) (s : Shard) : ∀ s' u, StoredIn sh s' u → StoredIn (setShard sh s (flushed (sh s))) s' u :=
  storedIn_setShard fun u hu => by
    simp only [flushed, List.flatten_append, List.flatten_cons, List.flatten_nil, List.append_nil, List.mem_append]
    exact Or.inr hu.symm

/-- flush, first part, fine mode: batch + meta written, lock kept -/
theorem inv_flushFine {st : State} {t : Tid} {op : Op} {rest : List Op} (h : Inv st) (ht : t < st.n)
    (htodo : (st.threads t).todo = op :: rest)
    (hpc : ∀ s us, op = .append s us → ∃ b, (st.threads t).pc = .appAfterBuf b)
    (hl : st.lock = none) :
    Inv { st with shards := setShard st.shards (opShard op) (flushed (st.shards (opShard op))),
                  lock := some t,
                  threads := setThread st.threads t { st.threads t with pc := .flushHold } } := by
  have mono := stored_flush st.shards (opShard op)
  refine inv_step h rfl rfl (fun s' u hu => ?_) ⟨fun _ _ _ hpc' => (nomatch hpc'), fun s' us' rest' htd _ u hu => ?_,
    fun s' u hu => mono s' u (h.ack t s' u ht hu), fun _ => ⟨rfl, op, rest, htodo, by simp only [setShard_same, flushed]⟩⟩
    (fun _ _ _ _ _ _ _ _ _ hu => hu) mono (fun i _ hi hpc' => absurd hpc' (no_holder h hl i hi))
  · by_cases hs : s' = opShard op
    · subst hs; simp only [setShard_same, flushed] at hu; cases hu
    · simp only [setShard_other _ _ hs] at hu; exact h.buf s' u hu
  · obtain ⟨b, hb⟩ := hpc s' us' (by rw [htodo] at htd; cases htd; rfl)
    exact mono s' u (h.pushed t s' us' rest' ht htd (Or.inl ⟨b, hb⟩) u hu)

/-- the end of a flush of the shard of `op`: the WAL is rewritten without the shard's entries and the call
    returns; `sh'` is the shard map it leaves (flushed now, or earlier), `lk` the lock -/
theorem inv_flushEnd {st : State} {t : Tid} {op : Op} {rest : List Op} {sh' : Shard → ShardSt} {lk : Option Tid}
    (h : Inv st) (ht : t < st.n) (htodo : (st.threads t).todo = op :: rest)
    (hst : ∀ s us, op = .append s us → ∀ u ∈ us, Stored st s u)
    (hnh : ∀ i, i ≠ t → i < st.n → (st.threads i).pc ≠ .flushHold)
    (hz : ∀ i, i < st.n → midAppend (st.threads i) (opShard op) = false)
    (hs : ∀ s u, StoredIn st.shards s u → StoredIn sh' s u)
    (hb : ∀ s u, u ∈ (sh' s).buffer → s ≠ opShard op ∧ u ∈ (st.shards s).buffer) :
    Inv { st with shards := sh', wal := walRemove st.wal (opShard op), lock := lk,
                  threads := setThread st.threads t ((st.threads t).finish true) } := by
  refine inv_step h rfl rfl (fun s u hu => mem_walRemove.mpr ⟨h.buf s u (hb s u hu).2, (hb s u hu).1⟩)
    (.atStart (finish_pc htodo true) (ack_finish h ht htodo hs fun s us he _ => hst s us he))
    (fun i s us rest' u _ hi hpc' htd hu => mem_walRemove.mpr ⟨hu, fun he => ?_⟩) hs
    (fun i hit hi hpc' => absurd hpc' (hnh i hit hi))
  have := hz i hi
  simp [midAppend, hpc', htd, he] at this

theorem hazard_false_mid {cfg : Cfg} {st : State} {t : Tid} {s : Shard}
    (hr : rewritesWalOf cfg st t = some s) (hz : hazard cfg st t = false) :
    ∀ i, i < st.n → midAppend (st.threads i) s = false := by
  intro i hi
  unfold hazard at hz
  rw [hr] at hz
  simp only [List.any_eq_false, List.mem_range] at hz
  simpa using hz i hi

theorem flushEnter_inv {cfg : Cfg} {st : State} {t : Tid} {op : Op} {rest : List Op} (h : Inv st) (ht : t < st.n)
    (htodo : (st.threads t).todo = op :: rest)
    (hpc : ∀ s us, op = .append s us → ∃ b, (st.threads t).pc = .appAfterBuf b)
    (hl : st.lock = none)
    (hz : cfg.fine = false → (st.shards (opShard op)).present = true → (st.shards (opShard op)).buffer ≠ [] →
            ∀ i, i < st.n → midAppend (st.threads i) (opShard op) = false) :
    Inv (flushEnter cfg st t (st.threads t) (opShard op)) := by
  have hstored : ∀ s us, op = .append s us → ∀ u ∈ us, Stored st s u := by
    intro s us he u hu
    obtain ⟨b, hb⟩ := hpc s us he
    exact h.pushed t s us rest ht (by rw [htodo, he]) (Or.inl ⟨b, hb⟩) u hu
  unfold flushEnter
  simp only
  split
  · exact inv_finish h ht htodo (fun _ _ _ hk => nomatch hk)
  · next hpres =>
    split
    · exact inv_finish h ht htodo (fun s us he _ => hstored s us he)
    · next hbuf =>
      split
      · exact inv_flushFine h ht htodo hpc hl
      · next hfine =>
        refine inv_flushEnd (lk := st.lock) h ht htodo hstored (fun i _ hi => no_holder h hl i hi)
          (hz (by simpa using hfine) (by simpa using hpres) fun he => by simp [he] at hbuf)
          (stored_flush st.shards (opShard op)) fun s u hu => ?_
        by_cases hs : s = opShard op
        · subst hs; simp only [setShard_same] at hu; cases hu
        · rw [setShard_other _ _ hs] at hu; exact ⟨hs, hu⟩

theorem insertBy_perm {α} (le : α → α → Bool) (x : α) : ∀ l : List α, (insertBy le x l).Perm (x :: l) := by
  intro l
  induction l with
  | nil => exact List.Perm.refl _
  | cons y ys ih =>
    unfold insertBy
    split
    · exact List.Perm.refl _
    · exact ((List.Perm.cons y ih).trans (List.Perm.swap x y ys))

theorem sortBy_perm {α} (le : α → α → Bool) : ∀ l : List α, (sortBy le l).Perm l := by
  intro l
  induction l with
  | nil => exact List.Perm.refl _
  | cons a l ih =>
    simp only [sortBy, List.foldr_cons]
    exact (insertBy_perm le a _).trans (List.Perm.cons a ih)

theorem compacted_perm (bs : List (List Upd)) :
    (List.flatten (if bs.flatten.isEmpty then [] else [compactList bs.flatten])).Perm bs.flatten := by
  split
  · rename_i h; simp only [List.flatten_nil]; rw [List.isEmpty_iff.mp h]
  · simp only [List.flatten_cons, List.flatten_nil, List.append_nil]; exact sortBy_perm _ _

/-- the shard after `compactOnly` replaced its batches by one consolidated batch -/
def compacted (sh : ShardSt) : ShardSt :=
  { sh with batches := if sh.batches.flatten.isEmpty then [] else [compactList sh.batches.flatten] }

theorem inv_compact {st : State} {t : Tid} {s : Shard} {rest : List Op} (h : Inv st) (ht : t < st.n)
    (htodo : (st.threads t).todo = .compactOnly s :: rest) (hpc : (st.threads t).pc = .start) :
    Inv { st with shards := setShard st.shards s { st.shards s with batches := if (st.shards s).batches.flatten.isEmpty then [] else [compactList (st.shards s).batches.flatten] },
                  threads := setThread st.threads t ((st.threads t).finish true) } := by
  have mono := storedIn_setShard (sh := st.shards) (s := s) (v := compacted (st.shards s)) fun u hu =>
    hu.imp id (compacted_perm _).mem_iff.mpr
  have buf : ∀ s', (setShard st.shards s (compacted (st.shards s)) s').buffer = (st.shards s').buffer := by
    intro s'
    by_cases hs : s' = s
    · subst hs; rw [setShard_same]; rfl
    · rw [setShard_other _ _ hs]
  exact inv_step h rfl rfl (fun s' u hu => h.buf s' u (buf s' ▸ hu))
    (.atStart (finish_pc htodo true) (ack_finish h ht htodo mono fun _ _ he => nomatch he))
    (fun _ _ _ _ _ _ _ _ _ hu => hu) mono (fun _ _ _ _ => ⟨rfl, fun s' hb => (buf s').trans hb⟩)

theorem step_inv {cfg : Cfg} {st : State} {t : Tid} (h : Inv st) (hz : hazard cfg st t = false) :
    (step cfg st t).All Inv := by
  by_cases htn : t ≥ st.n
  · rw [step_of_ge htn]; trivial
  have ht := Nat.lt_of_not_le htn
  unfold step
  rw [if_neg htn]
  dsimp only
  split
  · trivial
  · next op rest htodo =>
    split
    · next s us hpc =>
      refine .ite (fun hemp => ?_) fun _ => inv_wal h ht htodo
      refine inv_finish h ht htodo fun s' us' he _ u hu => ?_
      cases he; rw [List.isEmpty_iff.mp hemp] at hu; cases hu
    · next s us hpc =>
      exact .ite (fun _ => trivial) fun hl => inv_push h ht htodo hpc (Option.not_isSome_iff_eq_none.mp hl)
    · next s us hpc =>
      refine inv_finish h ht htodo fun s' us' he _ u hu => ?_
      cases he; exact h.pushed t s us rest ht htodo (Or.inl ⟨false, hpc⟩) u hu
    · next s us hpc =>
      refine .ite (fun _ => trivial) fun hl => ?_
      have hl' := Option.not_isSome_iff_eq_none.mp hl
      refine flushEnter_inv (op := .append s us) h ht htodo (fun _ _ _ => ⟨true, hpc⟩) hl' ?_
      intro hfine _ (hbuf : (st.shards s).buffer ≠ [])
      exact hazard_false_mid (s := s) (by simp [rewritesWalOf, htn, htodo, hpc, hfine, hl', hbuf]) hz
    · next s hpc =>
      refine .ite (fun _ => trivial) fun hl => ?_
      have hl' := Option.not_isSome_iff_eq_none.mp hl
      refine flushEnter_inv (op := .flush s) h ht htodo (fun _ _ he => nomatch he) hl' ?_
      intro hfine (hpres : (st.shards s).present = true) (hbuf : (st.shards s).buffer ≠ [])
      exact hazard_false_mid (s := s) (by simp [rewritesWalOf, htn, htodo, hpc, hfine, hl', hpres, hbuf]) hz
    · next hpc =>
      obtain ⟨hlock, op', rest', htd, hemp⟩ := h.hold t ht hpc
      rw [htodo] at htd; cases htd
      refine inv_flushEnd (sh' := st.shards) h ht htodo
        (fun s us he => h.pushed t s us rest ht (he ▸ htodo) (Or.inr hpc)) (fun i hit hi hpc' => ?_)
        (hazard_false_mid ?_ hz) (fun _ _ hu => hu) fun s u hu => ⟨fun he => ?_, hu⟩
      · exact hit (Option.some.inj ((h.hold i hi hpc').1.symm.trans hlock))
      · simp [rewritesWalOf, htn, htodo, hpc]
      · rw [he, hemp] at hu; cases hu
    · next s hpc =>
      refine .ite (fun _ => trivial) fun _ => .ite (fun _ => ?_) fun _ => inv_compact h ht htodo hpc
      exact inv_finish h ht htodo fun _ _ he => nomatch he
    · trivial


theorem trace_inv (cfg : Cfg) : ∀ (sched : List Tid) (st : State), Inv st → hazardous cfg st sched = false →
    ∀ st' ∈ trace cfg st sched, Inv st'
  | [], st, h, _, st', hm => by rw [trace, List.mem_singleton] at hm; exact hm ▸ h
  | t :: ts, st, h, hz, st', hm => by
    rw [hazardous, Bool.or_eq_false_iff] at hz
    unfold trace at hm
    cases hs : step cfg st t <;> rw [hs] at hm hz <;> rcases List.mem_cons.mp hm with hm | hm
    · exact hm ▸ h
    · exact trace_inv cfg ts _ ((step_inv h hz.1).of_eq hs) hz.2 st' hm
    · exact hm ▸ h
    · exact nomatch hm
    · exact hm ▸ h
    · exact trace_inv cfg ts st h hz.2 st' hm

/-- an acknowledged update is served after a restart from the disk state -/
theorem inv_durable {st : State} (h : Inv st) (s : Shard) (u : Upd) (hu : u ∈ acked st s) : u ∈ recovered st s := by
  unfold acked at hu
  obtain ⟨i, hi, hu⟩ := List.mem_flatMap.mp hu
  have hi' : i < st.n := List.mem_range.mp hi
  unfold recovered diskBatches diskWal
  rcases h.ack i s u hi' hu with hb | hb
  · refine List.mem_append.mpr (Or.inr (List.mem_map.mpr ⟨(s, u), ?_, rfl⟩))
    exact List.mem_filter.mpr ⟨h.buf s u hb, by simp⟩
  · exact List.mem_append.mpr (Or.inl hb)

def lastState (cfg : Cfg) : State → List Tid → State
  | st, [] => st
  | st, t :: ts =>
    match step cfg st t with
    | .ok st' => lastState cfg st' ts
    | .skip => lastState cfg st ts
    | .blocked => st

theorem lastState_mem (cfg : Cfg) : ∀ (sched : List Tid) (st : State), lastState cfg st sched ∈ trace cfg st sched
  | [], st => List.mem_singleton.mpr rfl
  | t :: ts, st => by
    unfold lastState trace
    cases step cfg st t with
    | ok st' => exact List.mem_cons_of_mem _ (lastState_mem cfg ts st')
    | skip => exact List.mem_cons_of_mem _ (lastState_mem cfg ts st)
    | blocked => exact List.mem_singleton.mpr rfl

/-- the batch that thread `t`'s next step pushes into a buffer, if that step is a buffer section -/
def pushOf (st : State) (t : Tid) (s : Shard) : List Upd :=
  if t ≥ st.n then [] else
  match (st.threads t).pc, (st.threads t).todo with
  | .appAfterWal, .append s' us :: _ => if s' = s then us else []
  | _, _ => []

theorem served_flushEnter (cfg : Cfg) (st : State) (t : Tid) (th : Thread) (s s' : Shard) :
    served (flushEnter cfg st t th s) s' = served st s' := by
  unfold flushEnter
  simp only
  split
  · rfl
  · split
    · rfl
    · split <;>
      · unfold served
        by_cases hs : s' = s
        · subst hs; simp [setShard_same]
        · simp [setShard_other _ _ hs]

theorem served_step {cfg : Cfg} {st : State} {t : Tid} (s : Shard) :
    (step cfg st t).All fun st' => (served st' s).Perm (served st s ++ pushOf st t s) := by
  by_cases htn : t ≥ st.n
  · rw [step_of_ge htn]; trivial
  unfold step
  rw [if_neg htn]
  extract_lets th
  split
  · trivial
  · next op rest htodo =>
    -- only the buffer section of an append changes what is served
    have same : th.pc ≠ .appAfterWal → ∀ {l : List Upd}, l.Perm (served st s) → l.Perm (served st s ++ pushOf st t s) := by
      intro hpc l hl
      have : pushOf st t s = [] := by
        unfold pushOf; rw [if_neg htn]; split
        · next h _ => exact absurd h hpc
        · rfl
      rw [this, List.append_nil]; exact hl
    split
    · next hpc => exact .ite (fun _ => same (by rw [hpc]; nofun) (.refl _)) fun _ => same (by rw [hpc]; nofun) (.refl _)
    · next s' us hpc =>
      refine .ite (fun _ => trivial) fun _ => List.Perm.of_eq ?_
      have : pushOf st t s = if s' = s then us else [] := by
        simp only [pushOf, htn, show (st.threads t).todo = _ from htodo, show (st.threads t).pc = _ from hpc, if_false]
      rw [this]
      unfold served
      by_cases he : s = s'
      · subst he; simp only [setShard_same, if_true, List.append_assoc]
      · simp only [setShard_other _ _ he, if_neg (Ne.symm he), List.append_nil]
    · next hpc => exact same (by rw [hpc]; nofun) (.refl _)
    · next hpc => exact .ite (fun _ => trivial) fun _ => same (by rw [hpc]; nofun) (.of_eq (served_flushEnter ..))
    · next hpc => exact .ite (fun _ => trivial) fun _ => same (by rw [hpc]; nofun) (.of_eq (served_flushEnter ..))
    · next hpc => exact same (by rw [hpc]; nofun) (.refl _)
    · next s' hpc =>
      refine .ite (fun _ => trivial) fun _ => .ite (fun _ => same (by rw [hpc]; nofun) (.refl _)) fun _ => same (by rw [hpc]; nofun) ?_
      unfold served
      by_cases he : s = s'
      · subst he; simp only [setShard_same]; exact (compacted_perm _).append_right _
      · simp only [setShard_other _ _ he]; exact .refl _
    · trivial

/-- concatenation of the appended batches of shard `s`, in the order of their buffer sections -/
def linearized (cfg : Cfg) : State → List Tid → Shard → List Upd
  | _, [], _ => []
  | st, t :: ts, s =>
    match step cfg st t with
    | .ok st' => pushOf st t s ++ linearized cfg st' ts s
    | .skip => linearized cfg st ts s
    | .blocked => []

theorem served_linearized (cfg : Cfg) : ∀ (sched : List Tid) (st : State) (s : Shard),
    (served (lastState cfg st sched) s).Perm (served st s ++ linearized cfg st sched s) := by
  intro sched
  induction sched with
  | nil => intro st s; simp [lastState, linearized]
  | cons t ts ih =>
    intro st s
    cases hs : step cfg st t with
    | ok st' =>
      simp only [lastState, linearized, hs]
      refine (ih st' s).trans ?_
      rw [← List.append_assoc]
      exact ((served_step s).of_eq hs).append_right _
    | skip => simp only [lastState, linearized, hs]; exact ih st s
    | blocked => simp [lastState, linearized, hs]

end ILV.PStep
