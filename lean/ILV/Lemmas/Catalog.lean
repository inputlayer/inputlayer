/-
  The C16 invariant "each catalog file is a complete, synced document holding what is in memory", the shape of a
  catalog operation's effect, and a save followed step by step.
-/
import ILV.Model.Catalog
import ILV.Lemmas.FS
namespace ILV
open ILV.FS ILV.Cat

namespace Cat

theorem aDel_of_none {α} (l : List (Name × α)) (k : Name) (h : aGet l k = none) : aDel l k = l := by
  induction l with
  | nil => rfl
  | cons e rest ih =>
    obtain ⟨q, v⟩ := e
    by_cases hq : q = k
    · simp [aGet, hq] at h
    · simp only [aGet, hq, if_false] at h
      simp [aDel, hq, ih h]

theorem filter_noPrefix (l : RuleCat) (p : Name)
    (h : (l.map (·.1)).filter (fun k => p.isPrefixOf k) = []) :
    l.filter (fun e => !(p.isPrefixOf e.1)) = l := by
  induction l with
  | nil => rfl
  | cons e rest ih =>
    simp only [List.map_cons, List.filter_cons] at h
    by_cases hp : p.isPrefixOf e.1 = true
    · simp [hp] at h
    · simp only [hp] at h
      simp [hp, ih h]

/-- The FS effect of one catalog operation is nothing, one rule-catalog save, one schema-catalog save, or (for
    `drop_relation` on a name that is both) a schema-catalog save followed by a rule-catalog save; what is saved is
    the new catalog, and a catalog that is not saved has not changed (the session map is never written). -/
inductive Saves (m : Mem) : Ack × Mem × List (Op Path Doc) → Prop
  | none (a m') : m'.rules = m.rules → m'.schemas = m.schemas → Saves m (a, m', [])
  | rules (a m') : m'.schemas = m.schemas → Saves m (a, m', saveRules m'.rules)
  | schemas (a m') : m'.rules = m.rules → Saves m (a, m', saveSchemas m'.schemas)
  | both (a m') : Saves m (a, m', saveSchemas m'.schemas ++ saveRules m'.rules)

theorem Saves.ite {m : Mem} {c : Prop} [Decidable c] {a b : Ack × Mem × List (Op Path Doc)} (ha : Saves m a)
    (hb : Saves m b) : Saves m (if c then a else b) := by
  split <;> assumption

theorem step_saves (m : Mem) (o : COp) : Saves m (step m o) := by
  have err : ∀ a, Saves m (a, m, []) := fun a => .none a m rfl rfl
  cases o with
  | reg n c =>
    simp only [step]
    refine .ite (err _) (.ite (err _) ?_)
    cases aGet m.rules n with
    | none => exact .rules _ _ rfl
    | some cls =>
      dsimp only
      cases cls.head? with
      | none => exact .rules _ _ rfl
      | some f => exact .ite (err _) (.rules _ _ rfl)
  | drop n =>
    simp only [step]
    cases aGet m.rules n with
    | none => exact err _
    | some _ => exact .rules _ _ rfl
  | dropPrefix p =>
    simp only [step]
    refine .ite (err _) ?_
    split
    -- nothing was hit: the filtered catalog is the old one
    · next hhit => exact .none _ _ (filter_noPrefix _ _ hhit) rfl
    · exact .rules _ _ rfl
  | clear n =>
    simp only [step]
    cases aGet m.rules n with
    | none => exact err _
    | some _ => exact .rules _ _ rfl
  | replace n i c =>
    simp only [step]
    cases aGet m.rules n with
    | none => exact err _
    | some cls => exact .ite (err _) (.ite (err _) (.ite (err _) (.rules _ _ rfl)))
  | rmClause n i =>
    simp only [step]
    cases aGet m.rules n with
    | none => exact err _
    | some cls => exact .ite (err _) (.rules _ _ rfl)
  | sreg r s =>
    simp only [step]
    refine .ite (err _) ?_
    cases aGet m.schemas r with
    | none => exact .schemas _ _ rfl
    | some _ => exact err _
  | supd r s => exact .ite (err _) (.schemas _ _ rfl)
  | srem r =>
    simp only [step]
    cases aGet m.session r with
    | some _ => exact .schemas _ _ rfl
    | none =>
      cases aGet m.schemas r with
      | none => exact err _
      | some _ => exact .schemas _ _ rfl
  | ssupd r s => exact .ite (err _) (.none _ _ rfl rfl)
  | ssreg r s =>
    simp only [step]
    refine .ite (err _) ?_
    cases aGet m.session r with
    | none => exact .none _ _ rfl rfl
    | some _ => exact err _
  | sclear => exact .none _ _ rfl rfl
  | dropRel n =>
    simp only [step]
    cases aGet m.rules n with
    | none => refine .ite (err _) ?_; split <;> exact .schemas _ _ rfl
    | some _ => refine .ite (.rules _ _ rfl) ?_; split <;> exact .both _ _

def docFile (doc : Doc) : File Doc := { synced := [.whole doc], unsynced := [] }

def RulesOk (d : Disk) (r : RuleCat) : Prop :=
  (get d .ruleCat = none ∧ r = []) ∨ get d .ruleCat = some (docFile (.rules r))

def SchemasOk (d : Disk) (s : SchemaCat) : Prop :=
  (get d .schemaCat = none ∧ s = []) ∨ get d .schemaCat = some (docFile (.schemas s))

/-- the invariant: the catalog files are complete, fully synced documents holding what is in memory -/
structure Solid (st : St) : Prop where
  rules : RulesOk st.disk st.mem.rules
  schemas : SchemasOk st.disk st.mem.schemas

theorem solid_init : Solid {} := ⟨.inl ⟨rfl, rfl⟩, .inl ⟨rfl, rfl⟩⟩

theorem RulesOk.congr {d d' : Disk} {r : RuleCat} (h : RulesOk d r) (e : get d' .ruleCat = get d .ruleCat) :
    RulesOk d' r := by
  rwa [RulesOk, e]

theorem SchemasOk.congr {d d' : Disk} {s : SchemaCat} (h : SchemasOk d s) (e : get d' .schemaCat = get d .schemaCat) :
    SchemasOk d' s := by
  rwa [SchemasOk, e]

theorem crashFile_docFile (doc : Doc) (c : Option Cut) : crashFile (docFile doc) c = docFile doc := by
  cases c with
  | none => rfl
  | some c =>
    obtain ⟨k, fr⟩ := c
    cases fr <;> simp [crashFile, docFile, cutItems]

theorem RulesOk.crash {d : Disk} {r : RuleCat} (h : RulesOk d r) (cuts : Path → Option Cut) :
    RulesOk (crash d cuts) r := by
  rcases h with ⟨h, hr⟩ | h
  · exact .inl ⟨by rw [get_crash, h]; rfl, hr⟩
  · exact .inr (by rw [get_crash, h, Option.map_some, crashFile_docFile])

theorem SchemasOk.crash {d : Disk} {s : SchemaCat} (h : SchemasOk d s) (cuts : Path → Option Cut) :
    SchemasOk (crash d cuts) s := by
  rcases h with ⟨h, hs⟩ | h
  · exact .inl ⟨by rw [get_crash, h]; rfl, hs⟩
  · exact .inr (by rw [get_crash, h, Option.map_some, crashFile_docFile])

theorem RulesOk.load {d : Disk} {r : RuleCat} (h : RulesOk d r) : loadRules d = some r := by
  rcases h with ⟨h, hr⟩ | h
  · simp [loadRules, h, hr]
  · simp [loadRules, h, parseDoc, docFile, File.items]

theorem SchemasOk.load {d : Disk} {s : SchemaCat} (h : SchemasOk d s) : loadSchemas d = s := by
  rcases h with ⟨h, hs⟩ | h
  · simp [loadSchemas, h, hs]
  · simp [loadSchemas, h, parseDoc, docFile, File.items]

theorem recover_of_ok {d : Disk} {r : RuleCat} {s : SchemaCat} (hr : RulesOk d r) (hs : SchemasOk d s)
    (cuts : Path → Option Cut) : recover (crash d cuts) = some { rules := r, schemas := s } := by
  simp [recover, (hr.crash cuts).load, (hs.crash cuts).load]

theorem saveRules_take {d : Disk} {r : RuleCat} {s : SchemaCat} (hr : RulesOk d r) (hs : SchemasOk d s)
    (r' : RuleCat) (j : Nat) :
    RulesOk (applyAll d ((saveRules r').take j)) (if 4 ≤ j then r' else r) ∧
    SchemasOk (applyAll d ((saveRules r').take j)) s := by
  refine ⟨?_, hs.congr (by simp [saveRules, get_save_take])⟩
  split
  · next h => exact .inr (by simp [saveRules, get_save_take, h, docFile])
  · next h => exact hr.congr (by simp [saveRules, get_save_take, h])

theorem saveSchemas_take {d : Disk} {r : RuleCat} {s : SchemaCat} (hr : RulesOk d r) (hs : SchemasOk d s)
    (s' : SchemaCat) (j : Nat) :
    RulesOk (applyAll d ((saveSchemas s').take j)) r ∧
    SchemasOk (applyAll d ((saveSchemas s').take j)) (if 4 ≤ j then s' else s) := by
  refine ⟨hr.congr (by simp [saveSchemas, get_save_take]), ?_⟩
  split
  · next h => exact .inr (by simp [saveSchemas, get_save_take, h, docFile])
  · next h => exact hs.congr (by simp [saveSchemas, get_save_take, h])

theorem saveRules_prefix (d : Disk) (r r' : RuleCat) (s : SchemaCat) (hr : RulesOk d r) (hs : SchemasOk d s)
    (j : Nat) :
    (RulesOk (applyAll d ((saveRules r').take j)) r ∨ RulesOk (applyAll d ((saveRules r').take j)) r') ∧
    SchemasOk (applyAll d ((saveRules r').take j)) s ∧
    (5 ≤ j → RulesOk (applyAll d ((saveRules r').take j)) r') := by
  obtain ⟨h1, h2⟩ := saveRules_take hr hs r' j
  refine ⟨?_, h2, fun h5 => by rwa [if_pos (by omega)] at h1⟩
  split at h1
  · exact .inr h1
  · exact .inl h1

/-- here `r r'` are schema catalogs and `s` is the untouched rule catalog. -/
theorem saveSchemas_prefix (d : Disk) (s : RuleCat) (r r' : SchemaCat) (hr : SchemasOk d r) (hs : RulesOk d s)
    (j : Nat) :
    (SchemasOk (applyAll d ((saveSchemas r').take j)) r ∨ SchemasOk (applyAll d ((saveSchemas r').take j)) r') ∧
    RulesOk (applyAll d ((saveSchemas r').take j)) s ∧
    (5 ≤ j → SchemasOk (applyAll d ((saveSchemas r').take j)) r') := by
  obtain ⟨h1, h2⟩ := saveSchemas_take hs hr r' j
  refine ⟨?_, h1, fun h5 => by rwa [if_pos (by omega)] at h2⟩
  split at h2
  · exact .inr h2
  · exact .inl h2

theorem ite_old_or_new {α} (c : Prop) [Decidable c] (new old : α) :
    (if c then new else old) = old ∨ (if c then new else old) = new := by
  split <;> simp

theorem step_prefix (m : Mem) (d : Disk) (o : COp) (j : Nat) (hS : Solid { mem := m, disk := d }) :
    ∃ r s, (r = m.rules ∨ r = (step m o).2.1.rules) ∧ (s = m.schemas ∨ s = (step m o).2.1.schemas) ∧
      ((step m o).2.2.length ≤ j → r = (step m o).2.1.rules ∧ s = (step m o).2.1.schemas) ∧
      RulesOk (applyAll d ((step m o).2.2.take j)) r ∧ SchemasOk (applyAll d ((step m o).2.2.take j)) s := by
  obtain ⟨hr, hs⟩ := hS
  have h := step_saves m o
  generalize step m o = x at h
  cases h with
  | none a m' h1 h2 => exact ⟨_, _, .inl rfl, .inl rfl, fun _ => ⟨h1.symm, h2.symm⟩, by simpa [applyAll_nil] using hr, by simpa [applyAll_nil] using hs⟩
  | rules a m' h2 =>
    obtain ⟨ha, hb⟩ := saveRules_take hr hs m'.rules j
    exact ⟨_, _, ite_old_or_new .., .inl rfl, fun h5 => ⟨if_pos (by simp [saveRules] at h5; omega), h2.symm⟩, ha, hb⟩
  | schemas a m' h1 =>
    obtain ⟨ha, hb⟩ := saveSchemas_take hr hs m'.schemas j
    exact ⟨_, _, .inl rfl, ite_old_or_new .., fun h5 => ⟨h1.symm, if_pos (by simp [saveSchemas] at h5; omega)⟩, ha, hb⟩
  | both a m' =>
    obtain ⟨ha, hb⟩ := saveSchemas_take hr hs m'.schemas j
    obtain ⟨hx, hy⟩ := saveRules_take ha hb m'.rules (j - 5)
    refine ⟨if 4 ≤ j - 5 then m'.rules else m.rules, if 4 ≤ j then m'.schemas else m.schemas,
      ite_old_or_new .., ite_old_or_new .., fun h10 => ?_, ?_⟩
    · simp [saveRules, saveSchemas] at h10
      exact ⟨if_pos (by omega), if_pos (by omega)⟩
    · show RulesOk (applyAll d ((saveSchemas m'.schemas ++ saveRules m'.rules).take j)) _ ∧ _
      rw [List.take_append, applyAll_append]
      exact ⟨hx, hy⟩

theorem crashpoint_ok (m : Mem) (d : Disk) (o : COp) (j : Nat) (hS : Solid { mem := m, disk := d }) :
    ∃ r s, (r = m.rules ∨ r = (step m o).2.1.rules) ∧ (s = m.schemas ∨ s = (step m o).2.1.schemas) ∧
      RulesOk (applyAll d ((step m o).2.2.take j)) r ∧ SchemasOk (applyAll d ((step m o).2.2.take j)) s := by
  obtain ⟨r, s, h1, h2, _, h3⟩ := step_prefix m d o j hS
  exact ⟨r, s, h1, h2, h3⟩

theorem complete_ok (m : Mem) (d : Disk) (o : COp) (hS : Solid { mem := m, disk := d }) :
    Solid { mem := (step m o).2.1, disk := applyAll d (step m o).2.2 } := by
  obtain ⟨r, s, _, _, h, h3⟩ := step_prefix m d o (step m o).2.2.length hS
  obtain ⟨rfl, rfl⟩ := h (Nat.le_refl _)
  rw [List.take_length] at h3
  exact ⟨h3.1, h3.2⟩

end Cat
end ILV
