/-
  Bindings, terms and patterns: what the pattern matcher (`matchArgs`), the head unifier (`unifyArgs`) and
  the candidate filter of the enumerator (`enumMatchesPattern`, `enumNewBinds`) do to the bindings, related to
  the Spec's "instance of an atom under β" (`argsMatch`). Used by C21, C22 and C23.
-/
import ILV.Model.ProvSpec
namespace ILV.Prov
open ILV

theorem lookup_mem {α β} [BEq α] [LawfulBEq α] {l : List (α × β)} {k : α} {v : β} (h : l.lookup k = some v) :
    (k, v) ∈ l := by
  induction l with
  | nil => cases h
  | cons p l ih =>
    rw [List.lookup_cons] at h
    split at h
    · rename_i hk
      cases h; cases eq_of_beq hk; exact List.mem_cons_self
    · exact List.mem_cons_of_mem _ (ih h)

/-- `β'` agrees with `β` wherever `β` is defined. -/
def Ext (β β' : Bindings) : Prop := ∀ x v, β.lookup x = some v → β'.lookup x = some v

theorem Ext.refl (β : Bindings) : Ext β β := fun _ _ h => h
theorem Ext.trans {a b c : Bindings} (h1 : Ext a b) (h2 : Ext b c) : Ext a c := fun x v h => h2 x v (h1 x v h)

theorem Ext.isSome {β β' : Bindings} (h : Ext β β') {x : String} (hx : (β.lookup x).isSome = true) :
    (β'.lookup x).isSome = true := by
  obtain ⟨v, hv⟩ := Option.isSome_iff_exists.mp hx
  rw [h x v hv]; rfl

theorem lookup_cons_ne {α β} [BEq α] [LawfulBEq α] {x y : α} (v : β) (l : List (α × β)) (h : y ≠ x) :
    ((x, v) :: l).lookup y = l.lookup y := by
  rw [List.lookup_cons, beq_eq_false_iff_ne.mpr h]

theorem Ext.of_cons {x : String} {v : Value} {b b' : Bindings} (hx : b.lookup x = none) (h : Ext ((x, v) :: b) b') :
    Ext b b' := by
  intro y w hy
  apply h
  rw [lookup_cons_ne]; exact hy
  rintro rfl; rw [hx] at hy; cases hy

theorem Ext.cons {x : String} {v : Value} {b b' : Bindings} (hx : b'.lookup x = some v) (h : Ext b b') :
    Ext ((x, v) :: b) b' := by
  intro y w hy
  by_cases hyx : y = x
  · subst hyx; rw [List.lookup_cons_self] at hy; cases hy; exact hx
  · rw [lookup_cons_ne v b hyx] at hy; exact h y w hy

/-- keys of `nb` are unbound in `β`. -/
def Fresh (nb β : Bindings) : Prop := ∀ x, (nb.lookup x).isSome = true → β.lookup x = none

theorem Ext_append_left (nb β : Bindings) : Ext nb (nb ++ β) := by
  intro x v hx
  rw [List.lookup_append, hx]; rfl

theorem Ext_append_fresh (nb β : Bindings) (h : Fresh nb β) : Ext β (nb ++ β) := by
  intro x v hx
  rw [List.lookup_append]
  cases hn : nb.lookup x with
  | none => exact hx
  | some w => rw [h x (by rw [hn]; rfl)] at hx; cases hx

theorem Ext_append {nb β βs : Bindings} (h1 : Ext nb βs) (h2 : Ext β βs) : Ext (nb ++ β) βs := by
  intro x v hx
  rw [List.lookup_append] at hx
  cases hn : nb.lookup x with
  | none => rw [hn] at hx; exact h2 x v hx
  | some w => rw [hn] at hx; cases hx; exact h1 x _ hn

/-! values that equal themselves (no NaN inside) -/

def GoodV (v : Value) : Prop := valuesEqual v v = true
def GoodT (t : Tuple) : Prop := ∀ v ∈ t, GoodV v
def GoodB (β : Bindings) : Prop := ∀ p ∈ β, GoodV p.2
def GoodDB (db : DB) : Prop := ∀ rel, ∀ t ∈ db.get rel, GoodT t
def GoodBts (bts : List BT) : Prop := ∀ v, BT.conc v ∈ bts → GoodV v
def GoodTerm (t : Term) : Prop := ∀ v, termToValue t = some v → GoodV v
def GoodAtom (a : Atom) : Prop := ∀ t ∈ a.args, GoodTerm t

theorem GoodB_lookup (β : Bindings) (h : GoodB β) (x : String) (v : Value) (hx : β.lookup x = some v) : GoodV v :=
  h (x, v) (lookup_mem hx)

theorem GoodB_append (a b : Bindings) (ha : GoodB a) (hb : GoodB b) : GoodB (a ++ b) :=
  fun p hp => (List.mem_append.mp hp).elim (ha p) (hb p)

theorem memL_append (t : Tuple) (a b : List Tuple) : memL t (a ++ b) = (memL t a || memL t b) := by
  simp [memL, List.any_append]

theorem tupleLooseEq_refl : ∀ (t : Tuple), GoodT t → tupleLooseEq t t = true
  | [], _ => rfl
  | v :: vs, h => by
    rw [tupleLooseEq, Bool.and_eq_true]
    exact ⟨h v List.mem_cons_self, tupleLooseEq_refl vs (fun w hw => h w (List.mem_cons_of_mem _ hw))⟩

theorem memL_of_contains (t : Tuple) (ts : List Tuple) (hg : GoodT t) (h : ts.contains t = true) : memL t ts = true :=
  List.any_eq_true.mpr ⟨t, List.contains_iff_mem.mp h, tupleLooseEq_refl t hg⟩

theorem GoodT_of_goodV {t : Tuple} (h : t.all goodV = true) : GoodT t := fun v hv => List.all_eq_true.mp h v hv

theorem mem_DB_get {db : DB} {rel : String} {t : Tuple} (h : t ∈ db.get rel) : ∃ ts, (rel, ts) ∈ db ∧ t ∈ ts := by
  unfold DB.get at h
  split at h
  · rename_i ts hl; exact ⟨ts, lookup_mem hl, h⟩
  · cases h

theorem GoodDB_of_goodDB (db : DB) (h : goodDB db = true) : GoodDB db := by
  intro rel t ht v hv
  obtain ⟨ts, hm, ht⟩ := mem_DB_get ht
  exact List.all_eq_true.mp (List.all_eq_true.mp (List.all_eq_true.mp h _ hm) t ht) v hv

theorem derOnly_of (prog : Program) (M : DB) (h : derivedOnlyHeads prog M = true) (rel : String)
    (hr : prog.any (fun r => r.head.rel == rel) = false) : M.get rel = [] := by
  rw [List.eq_nil_iff_forall_not_mem]
  intro t ht
  obtain ⟨ts, hm, ht⟩ := mem_DB_get ht
  have hts : ts = [] := by simpa [hr] using List.all_eq_true.mp h _ hm
  rw [hts] at ht; cases ht

theorem argMatches_const {t : Term} {e : Value} (h : termToValue t = some e) (β : Bindings) (v : Value) :
    argMatches β t v = valuesEqual e v := by
  cases t <;> simp_all [argMatches, termToValue]

theorem resolveTerm_const {t : Term} {e : Value} (h : termToValue t = some e) (β : Bindings) :
    resolveTerm β t = .conc e := by
  cases t <;> simp_all [resolveTerm, termToValue]

theorem resolveTerm_conc {β : Bindings} {t : Term} {e : Value} (h : resolveTerm β t = .conc e) :
    (∃ x, t = .var x ∧ β.lookup x = some e) ∨ termToValue t = some e := by
  cases t with
  | var x =>
    left
    cases hx : β.lookup x <;> simp_all [resolveTerm]
  | wild => cases h
  | other => cases h
  | _ => right; simpa [resolveTerm, termToValue] using h

theorem resolveTerm_unb {β : Bindings} {t : Term} {x : String} (h : resolveTerm β t = .unb x) :
    t = .var x ∧ β.lookup x = none := by
  cases t with
  | var y =>
    simp only [resolveTerm] at h
    cases hy : β.lookup y with
    | none => rw [hy] at h; cases h; exact ⟨rfl, hy⟩
    | some e => rw [hy] at h; cases h
  | _ => simp [resolveTerm, termToValue] at h

theorem resolveTerm_anon {β : Bindings} {t : Term} (h : resolveTerm β t = .anon) : t = .wild ∨ t = .other := by
  cases t with
  | var y => cases hy : β.lookup y <;> simp_all [resolveTerm]
  | wild => exact Or.inl rfl
  | other => exact Or.inr rfl
  | _ => simp [resolveTerm, termToValue] at h

theorem resolveTerm_ext {β β' : Bindings} (h : Ext β β') {t : Term} {v : Value}
    (hr : resolveTerm β t = .conc v) : resolveTerm β' t = .conc v := by
  rcases resolveTerm_conc hr with ⟨x, rfl, hx⟩ | hc
  · simp [resolveTerm, h x v hx]
  · exact resolveTerm_const hc β'

theorem argMatches_of_conc {β β' : Bindings} (h : Ext β β') {t : Term} {e : Value}
    (hr : resolveTerm β t = .conc e) (v : Value) : argMatches β' t v = valuesEqual e v := by
  rcases resolveTerm_conc hr with ⟨x, rfl, hx⟩ | hc
  · simp [argMatches, h x e hx]
  · exact argMatches_const hc β' v

theorem argMatches_var {β : Bindings} {x : String} {v : Value} (h : argMatches β (.var x) v = true) :
    ∃ w, β.lookup x = some w ∧ valuesEqual w v = true := by
  cases hx : β.lookup x <;> simp_all [argMatches]

theorem argMatches_ext {β β' : Bindings} (h : Ext β β') {t : Term} {v : Value} (hm : argMatches β t v = true) :
    argMatches β' t v = true := by
  cases t with
  | var x =>
    obtain ⟨w, hx, hw⟩ := argMatches_var hm
    simp [argMatches, h x w hx, hw]
  | _ => exact hm

theorem argsMatch_ext {β β' : Bindings} (h : Ext β β') {args : List Term} {t : Tuple}
    (hm : argsMatch β args t = true) : argsMatch β' args t = true := by
  fun_induction argsMatch β args t with
  | case1 => rfl
  | case2 a as v vs ih =>
    rw [Bool.and_eq_true] at hm
    rw [argsMatch, Bool.and_eq_true]
    exact ⟨argMatches_ext h hm.1, ih hm.2⟩
  | case3 => cases hm

theorem headMatches_ext {β β' : Bindings} (h : Ext β β') {args : List Term} {t : Tuple}
    (hm : headMatches β args t = true) : headMatches β' args t = true := by
  rw [headMatches, Bool.and_eq_true] at hm ⊢
  exact ⟨hm.1, argsMatch_ext h hm.2⟩

theorem evalCmp_ext {β β' : Bindings} (h : Ext β β') {l r : Term} {op : CmpOp}
    (hc : evalCmp l op r β = some true) : evalCmp l op r β' = some true := by
  unfold evalCmp at hc ⊢
  cases hl : resolveTerm β l <;> cases hr : resolveTerm β r <;> simp only [hl, hr] at hc <;> try cases hc
  rw [resolveTerm_ext h hl, resolveTerm_ext h hr]
  exact hc

theorem cmpsHold_ext {β β' : Bindings} (h : Ext β β') : ∀ {ls : List Lit}, cmpsHold β ls = true → cmpsHold β' ls = true
  | [], _ => rfl
  | .cmp l op r :: ls, hc => by
    simp only [cmpsHold, Bool.and_eq_true, beq_iff_eq] at hc ⊢
    exact ⟨evalCmp_ext h hc.1, cmpsHold_ext h hc.2⟩
  | .pos _ :: ls, hc | .neg _ :: ls, hc | .other :: ls, hc => by
    simp only [cmpsHold] at hc ⊢; exact cmpsHold_ext h hc

theorem cmpsHold_append (β : Bindings) (pre ls : List Lit) :
    cmpsHold β (pre ++ ls) = (cmpsHold β pre && cmpsHold β ls) := by
  induction pre with
  | nil => rfl
  | cons l pre ih => cases l <;> simp only [List.cons_append, cmpsHold, ih, Bool.and_assoc]

theorem argsMatch_length {β : Bindings} {args : List Term} {t : Tuple} (h : argsMatch β args t = true) :
    t.length = args.length := by
  fun_induction argsMatch β args t with
  | case1 => rfl
  | case2 a as v vs ih => rw [List.length_cons, List.length_cons, ih (Bool.and_eq_true_iff.mp h).2]
  | case3 => cases h

theorem mem_varsOf {args : List Term} {x : String} : x ∈ varsOf args ↔ Term.var x ∈ args := by
  unfold varsOf
  rw [List.mem_filterMap]
  constructor
  · rintro ⟨t, ht, he⟩
    cases t <;> simp at he
    subst he; exact ht
  · intro h; exact ⟨_, h, rfl⟩

theorem argsMatch_bound {β : Bindings} {args : List Term} {t : Tuple} (h : argsMatch β args t = true) :
    ∀ x, Term.var x ∈ args → (β.lookup x).isSome = true := by
  fun_induction argsMatch β args t with
  | case1 => exact fun _ hx => absurd hx List.not_mem_nil
  | case2 a as v vs ih =>
    rw [Bool.and_eq_true] at h
    intro x hx
    rcases List.mem_cons.mp hx with rfl | hx
    · obtain ⟨w, hw, _⟩ := argMatches_var h.1
      rw [hw]; rfl
    · exact ih h.2 x hx
  | case3 => cases h

/-- all variables of the atom are bound by `β`. -/
def AtomClosed (β : Bindings) (a : Atom) : Prop := ∀ x, Term.var x ∈ a.args → (β.lookup x).isSome = true

theorem AtomClosed_ext {β β' : Bindings} (h : Ext β β') {a : Atom} (hc : AtomClosed β a) : AtomClosed β' a :=
  fun x hx => h.isSome (hc x hx)

theorem not_unb_mem_substituteAtom {β : Bindings} {a : Atom} (hc : AtomClosed β a) (x : String) :
    BT.unb x ∉ substituteAtom a β := by
  intro hx
  obtain ⟨t, ht, hr⟩ := List.mem_map.mp hx
  obtain ⟨rfl, hn⟩ := resolveTerm_unb hr
  have := hc x ht
  rw [hn] at this; cases this

theorem substituteAtom_ext {β β' : Bindings} (h : Ext β β') {a : Atom} (hc : AtomClosed β a) :
    substituteAtom a β' = substituteAtom a β := by
  apply List.map_congr_left
  intro t ht
  cases hr : resolveTerm β t with
  | conc e => exact resolveTerm_ext h hr
  | unb x => exact absurd (List.mem_map.mpr ⟨t, ht, hr⟩) (not_unb_mem_substituteAtom hc x)
  | anon => rcases resolveTerm_anon hr with rfl | rfl <;> rfl

theorem GoodBts_substitute {β : Bindings} {a : Atom} (hb : GoodB β) (ha : GoodAtom a) :
    GoodBts (substituteAtom a β) := by
  intro v hv
  obtain ⟨t, ht, hr⟩ := List.mem_map.mp hv
  rcases resolveTerm_conc hr with ⟨x, rfl, hx⟩ | hc
  · exact GoodB_lookup β hb x v hx
  · exact ha t ht v hc

theorem matchTuple_eq_some {bts : List BT} {t : Tuple} {nb : Bindings} :
    matchTuple bts t = some nb ↔ t.length = bts.length ∧ matchArgs bts t [] = some nb := by
  unfold matchTuple
  split <;> simp_all

theorem mem_findMatching {rel : String} {bts : List BT} {db : DB} {t : Tuple} {nb : Bindings} :
    (t, nb) ∈ findMatching rel bts db ↔ t ∈ db.get rel ∧ matchTuple bts t = some nb := by
  simp only [findMatching, List.mem_filterMap, Option.map_eq_some_iff, Prod.mk.injEq]
  constructor
  · rintro ⟨_, ht, _, hm, rfl, rfl⟩; exact ⟨ht, hm⟩
  · rintro ⟨ht, hm⟩; exact ⟨t, ht, nb, hm, rfl, rfl⟩

/-! The cases of `fun_induction matchArgs`: 1 pattern exhausted; 2 tuple too short; 3 / 4 `conc e`, the value
    loosely equal to `e` / not; 5 / 6 `unb x` already bound, to a loosely equal value / to another; 7 `unb x`
    unbound (the case that binds); 8 `anon`. -/

theorem matchArgs_ext {bts : List BT} {t : Tuple} {nb0 nb : Bindings} (h : matchArgs bts t nb0 = some nb) :
    Ext nb0 nb := by
  fun_induction matchArgs bts t nb0 with
  | case1 => cases h; exact Ext.refl _
  | case2 | case4 | case6 => cases h
  | case3 _ _ _ _ _ _ ih | case5 _ _ _ _ _ _ _ _ ih | case8 _ _ _ _ ih => exact ih h
  | case7 _ _ _ _ _ hx ih => exact (ih h).of_cons hx

theorem matchArgs_mem {bts : List BT} {t : Tuple} {nb0 nb : Bindings} (h : matchArgs bts t nb0 = some nb) :
    ∀ q ∈ nb, q ∈ nb0 ∨ (BT.unb q.1 ∈ bts ∧ q.2 ∈ t) := by
  have lift : ∀ {q : String × Value} {bt : BT} {bts : List BT} {v : Value} {vs : List Value} {nb0 : Bindings},
      q ∈ nb0 ∨ (BT.unb q.1 ∈ bts ∧ q.2 ∈ vs) → q ∈ nb0 ∨ (BT.unb q.1 ∈ bt :: bts ∧ q.2 ∈ v :: vs) :=
    fun h => h.imp id (fun h => ⟨List.mem_cons_of_mem _ h.1, List.mem_cons_of_mem _ h.2⟩)
  fun_induction matchArgs bts t nb0 with
  | case1 => cases h; exact fun q hq => Or.inl hq
  | case2 | case4 | case6 => cases h
  | case3 _ _ _ _ _ _ ih | case5 _ _ _ _ _ _ _ _ ih | case8 _ _ _ _ ih => exact fun q hq => lift (ih h q hq)
  | case7 _ _ _ _ _ _ ih =>
    intro q hq
    rcases ih h q hq with hq | hq
    · rcases List.mem_cons.mp hq with rfl | hq
      · exact Or.inr ⟨List.mem_cons_self, List.mem_cons_self⟩
      · exact Or.inl hq
    · exact lift (Or.inr hq)

theorem matchArgs_sound (β : Bindings) {β' : Bindings} (hβ : Ext β β') :
    ∀ (args : List Term) (t : Tuple) (nb0 nb : Bindings),
      t.length = args.length → (∀ a ∈ args, a ≠ Term.other) → GoodT t →
      matchArgs (args.map (resolveTerm β)) t nb0 = some nb → Ext nb β' → argsMatch β' args t = true
  | [], [], _, _, _, _, _, _, _ => rfl
  | [], _ :: _, _, _, hl, _, _, _, _ => nomatch hl
  | _ :: _, [], _, _, hl, _, _, _, _ => nomatch hl
  | a :: as, v :: vs, nb0, nb, hl, hs, hg, h, hn => by
    have ih := fun nb1 h1 => matchArgs_sound β hβ as vs nb1 nb (by simpa using hl)
      (fun a' ha' => hs a' (List.mem_cons_of_mem _ ha')) (fun w hw => hg w (List.mem_cons_of_mem _ hw)) h1 hn
    rw [argsMatch, Bool.and_eq_true]
    cases hr : resolveTerm β a with
    | conc e =>
      simp only [List.map_cons, hr, matchArgs] at h
      split at h
      · rename_i hev
        exact ⟨(argMatches_of_conc hβ hr v).trans hev, ih nb0 h⟩
      · cases h
    | unb x =>
      obtain ⟨rfl, _⟩ := resolveTerm_unb hr
      simp only [List.map_cons, hr, matchArgs] at h
      split at h
      · rename_i e hx
        split at h
        · rename_i hev
          exact ⟨by simp [argMatches, hn x e (matchArgs_ext h x e hx), hev], ih nb0 h⟩
        · cases h
      · have hx : β'.lookup x = some v := hn x v (matchArgs_ext h x v List.lookup_cons_self)
        exact ⟨by simp only [argMatches, hx]; exact hg v List.mem_cons_self, ih _ h⟩
    | anon =>
      simp only [List.map_cons, hr, matchArgs] at h
      rcases resolveTerm_anon hr with rfl | rfl
      · exact ⟨rfl, ih nb0 h⟩
      · exact absurd rfl (hs _ List.mem_cons_self)

/-- what is known of a candidate match `(t, nb)` of the atom `a` under `β`. -/
def CandOK (β : Bindings) (a : Atom) (p : Tuple × Bindings) : Prop :=
  GoodT p.1 ∧ Fresh p.2 β ∧ GoodB p.2 ∧ argsMatch (p.2 ++ β) a.args p.1 = true ∧ ∀ q ∈ p.2, Term.var q.1 ∈ a.args

theorem matchTuple_sound {β : Bindings} {a : Atom} {t : Tuple} {nb : Bindings}
    (hs : ∀ x ∈ a.args, x ≠ Term.other) (hg : GoodT t) (h : matchTuple (substituteAtom a β) t = some nb) :
    CandOK β a (t, nb) := by
  obtain ⟨hl, h⟩ := matchTuple_eq_some.mp h
  have hmem : ∀ q ∈ nb, (Term.var q.1 ∈ a.args ∧ β.lookup q.1 = none) ∧ q.2 ∈ t := by
    intro q hq
    rcases matchArgs_mem h q hq with hq | ⟨hq, hv⟩
    · cases hq
    · obtain ⟨s, hs, hr⟩ := List.mem_map.mp hq
      obtain ⟨rfl, hn⟩ := resolveTerm_unb hr
      exact ⟨⟨hs, hn⟩, hv⟩
  have hf : Fresh nb β := by
    intro x hx
    obtain ⟨v, hv⟩ := Option.isSome_iff_exists.mp hx
    exact (hmem _ (lookup_mem hv)).1.2
  exact ⟨hg, hf, fun q hq => hg _ (hmem q hq).2,
    matchArgs_sound β (Ext_append_fresh nb β hf) a.args t [] nb (by simpa [substituteAtom] using hl) hs hg h
      (Ext_append_left nb β),
    fun q hq => (hmem q hq).1.1⟩

theorem findMatching_cands {β : Bindings} {a : Atom} {db : DB} (hdb : GoodDB db) (hs : ∀ x ∈ a.args, x ≠ Term.other) :
    ∀ p ∈ findMatching a.rel (substituteAtom a β) db, CandOK β a p := by
  rintro ⟨t, nb⟩ hp
  obtain ⟨ht, hm⟩ := mem_findMatching.mp hp
  exact matchTuple_sound hs (hdb a.rel t ht) hm

theorem matchTuple_closed {β : Bindings} {a : Atom} (hc : AtomClosed β a) {t : Tuple} {nb : Bindings}
    (h : matchTuple (substituteAtom a β) t = some nb) : nb = [] := by
  rw [List.eq_nil_iff_forall_not_mem]
  intro q hq
  rcases matchArgs_mem (matchTuple_eq_some.mp h).2 q hq with hq | ⟨hq, _⟩
  · cases hq
  · exact not_unb_mem_substituteAtom hc _ hq

/-- the hypothesis on `u`: a value that `βs` gives to a variable still unbound in `βc` is *the* value of `u` it
    loosely equals (vacuous when `βc = βs`, true of canonical data). -/
theorem matchArgs_complete {βc βs : Bindings} (hc : Ext βc βs) (args : List Term) (u : Tuple) (nb0 : Bindings)
    (hu : ∀ v ∈ u, ∀ x w, βc.lookup x = none → βs.lookup x = some w → valuesEqual w v = true → w = v)
    (h0 : Ext nb0 βs) (h : argsMatch βs args u = true) :
    ∃ nb, matchArgs (args.map (resolveTerm βc)) u nb0 = some nb ∧ Ext nb βs := by
  fun_induction argsMatch βs args u generalizing nb0 with
  | case1 => exact ⟨nb0, rfl, h0⟩
  | case3 => cases h
  | case2 a as v vs ih =>
    rw [Bool.and_eq_true] at h
    obtain ⟨h1, h2⟩ := h
    have ih := fun nb1 => ih nb1 (fun w hw => hu w (List.mem_cons_of_mem _ hw))
    cases hr : resolveTerm βc a with
    | conc e =>
      rw [argMatches_of_conc hc hr] at h1
      simpa only [List.map_cons, hr, matchArgs, h1, if_true] using ih nb0 h0 h2
    | anon => simpa only [List.map_cons, hr, matchArgs] using ih nb0 h0 h2
    | unb x =>
      obtain ⟨rfl, hx⟩ := resolveTerm_unb hr
      obtain ⟨w, hw, hwv⟩ := argMatches_var h1
      simp only [List.map_cons, hr, matchArgs]
      cases hn : nb0.lookup x with
      | some e =>
        obtain rfl : w = e := Option.some.inj (hw.symm.trans (h0 x e hn))
        simpa only [hwv, if_true] using ih nb0 h0 h2
      | none =>
        obtain rfl : w = v := hu v List.mem_cons_self x w hx hw hwv
        exact ih _ (h0.cons hw) h2

theorem negBlockedBy_of_argsMatch (β : Bindings) (a : Atom) (t : Tuple) (h : argsMatch β a.args t = true) :
    negBlockedBy β a t = true := by
  obtain ⟨nb, hm, _⟩ := matchArgs_complete (Ext.refl β) a.args t []
    (fun v _ x w hx hw _ => by rw [hx] at hw; cases hw) (fun _ _ h => by cases h) h
  have hl : t.length = (substituteAtom a β).length := by simpa [substituteAtom] using argsMatch_length h
  rw [negBlockedBy, matchTuple_eq_some.mpr ⟨hl, hm⟩]; rfl

theorem unifyHead_eq_some {t : Tuple} {head : Atom} {b : Bindings} :
    unifyHead t head = some b ↔ t.length = head.args.length ∧ unifyArgs head.args t [] = some b := by
  unfold unifyHead
  split <;> simp_all

/-! The cases of `fun_induction unifyArgs`: 1 head exhausted; 2 tuple too short; 3 / 4 variable already bound, to
    the same value / to another; 5 unbound variable (the case that binds); 6 `_`; 7 / 8 constant, loosely equal
    to the value / not; 9 unsupported term. -/

theorem unifyArgs_spec {args : List Term} {vals : List Value} {b b' : Bindings} (h : unifyArgs args vals b = some b') :
    Ext b b' ∧ (∀ x, Term.var x ∈ args → (b'.lookup x).isSome = true) ∧
      ∀ q ∈ b', q ∈ b ∨ (Term.var q.1 ∈ args ∧ q.2 ∈ vals) := by
  have lift : ∀ {q : String × Value} {t : Term} {ts : List Term} {v : Value} {vs : List Value} {b : Bindings},
      q ∈ b ∨ (Term.var q.1 ∈ ts ∧ q.2 ∈ vs) → q ∈ b ∨ (Term.var q.1 ∈ t :: ts ∧ q.2 ∈ v :: vs) :=
    fun h => h.imp id (fun h => ⟨List.mem_cons_of_mem _ h.1, List.mem_cons_of_mem _ h.2⟩)
  fun_induction unifyArgs args vals b with
  | case1 => cases h; exact ⟨Ext.refl _, fun _ hx => absurd hx List.not_mem_nil, fun q hq => Or.inl hq⟩
  | case2 | case4 | case8 | case9 => cases h
  | case3 _ _ _ _ x e hx _ ih =>
    obtain ⟨h1, h2, h3⟩ := ih h
    refine ⟨h1, fun y hy => ?_, fun q hq => lift (h3 q hq)⟩
    rcases List.mem_cons.mp hy with hy | hy
    · cases hy; rw [h1 x e hx]; rfl
    · exact h2 y hy
  | case5 _ v _ b x hx ih =>
    obtain ⟨h1, h2, h3⟩ := ih h
    refine ⟨h1.of_cons hx, fun y hy => ?_, fun q hq => ?_⟩
    · rcases List.mem_cons.mp hy with hy | hy
      · cases hy; rw [h1 x v List.lookup_cons_self]; rfl
      · exact h2 y hy
    · rcases h3 q hq with hq | hq
      · rcases List.mem_cons.mp hq with rfl | hq
        · exact Or.inr ⟨List.mem_cons_self, List.mem_cons_self⟩
        · exact Or.inl hq
      · exact lift (Or.inr hq)
  | case6 _ _ _ _ ih =>
    obtain ⟨h1, h2, h3⟩ := ih h
    exact ⟨h1, fun y hy => h2 y ((List.mem_cons.mp hy).resolve_left Term.noConfusion), fun q hq => lift (h3 q hq)⟩
  | case7 _ _ _ _ t hvar _ _ _ _ ih =>
    obtain ⟨h1, h2, h3⟩ := ih h
    exact ⟨h1, fun y hy => h2 y ((List.mem_cons.mp hy).resolve_left (fun e => hvar y e.symm)), fun q hq => lift (h3 q hq)⟩

theorem unifyArgs_sound {args : List Term} {vals : List Value} {b b' : Bindings} (h : unifyArgs args vals b = some b')
    (hl : vals.length = args.length) (hs : ∀ a ∈ args, a ≠ Term.other) (hg : GoodT vals)
    {bF : Bindings} (hE : Ext b' bF) : argsMatch bF args vals = true := by
  fun_induction unifyArgs args vals b with
  | case1 vals => cases vals with
    | nil => rfl
    | cons => simp at hl
  | case2 | case4 | case8 | case9 => cases h
  | case3 ts v vs b x e hx hev ih =>
    rw [argsMatch, Bool.and_eq_true]
    refine ⟨?_, ih h (by simpa using hl) (fun a ha => hs a (List.mem_cons_of_mem _ ha))
      (fun w hw => hg w (List.mem_cons_of_mem _ hw))⟩
    rw [argMatches, hE x e ((unifyArgs_spec h).1 x e hx), eq_of_beq hev]
    exact hg v List.mem_cons_self
  | case5 ts v vs b x hx ih =>
    rw [argsMatch, Bool.and_eq_true]
    refine ⟨?_, ih h (by simpa using hl) (fun a ha => hs a (List.mem_cons_of_mem _ ha))
      (fun w hw => hg w (List.mem_cons_of_mem _ hw))⟩
    rw [argMatches, hE x v ((unifyArgs_spec h).1 x v List.lookup_cons_self)]
    exact hg v List.mem_cons_self
  | case6 ts v vs b ih =>
    rw [argsMatch, Bool.and_eq_true]
    exact ⟨rfl, ih h (by simpa using hl) (fun a ha => hs a (List.mem_cons_of_mem _ ha))
      (fun w hw => hg w (List.mem_cons_of_mem _ hw))⟩
  | case7 ts v vs b t _ _ e he hev ih =>
    rw [argsMatch, Bool.and_eq_true]
    exact ⟨(argMatches_const he bF v).trans hev, ih h (by simpa using hl) (fun a ha => hs a (List.mem_cons_of_mem _ ha))
      (fun w hw => hg w (List.mem_cons_of_mem _ hw))⟩

theorem unifyHead_sound {t : Tuple} {head : Atom} {β0 : Bindings}
    (hs : ∀ a ∈ head.args, a ≠ Term.other) (hw : head.args.all (fun a => a != .wild) = true) (hg : GoodT t)
    (h : unifyHead t head = some β0) :
    GoodB β0 ∧ headMatches β0 head.args t = true ∧ (∀ x, Term.var x ∈ head.args → (β0.lookup x).isSome = true) ∧
      (∀ q ∈ β0, Term.var q.1 ∈ head.args) := by
  obtain ⟨hl, h⟩ := unifyHead_eq_some.mp h
  obtain ⟨_, s2, s3⟩ := unifyArgs_spec h
  have hmem : ∀ q ∈ β0, Term.var q.1 ∈ head.args ∧ q.2 ∈ t := fun q hq => (s3 q hq).resolve_left (by simp)
  refine ⟨fun q hq => hg _ (hmem q hq).2, ?_, s2, fun q hq => (hmem q hq).1⟩
  rw [headMatches, Bool.and_eq_true]
  exact ⟨hw, unifyArgs_sound h hl hs hg (Ext.refl _)⟩

/-! the candidate filter of `enumerate_derived_candidates`: on a NaN-free tuple of the right length, the
    strict-equality variant of the matcher -/

theorem matchArgs_of_enum {bts : List BT} {t : Tuple} {nb0 nb : Bindings} (hg : GoodT t) (hl : t.length = bts.length)
    (hm : enumMatchesPattern bts t = true) (hn : enumNewBinds bts t nb0 = some nb) : matchArgs bts t nb0 = some nb := by
  fun_induction matchArgs bts t nb0 with
  | case1 => simpa [enumNewBinds] using hn
  | case2 => cases hl
  | case3 bts v vs nb0 e hev ih =>
    rw [enumMatchesPattern, Bool.and_eq_true] at hm
    exact ih (fun w hw => hg w (List.mem_cons_of_mem _ hw)) (Nat.succ.inj hl) hm.2 hn
  | case4 bts v vs nb0 e hev =>
    rw [enumMatchesPattern, Bool.and_eq_true] at hm
    exact absurd (eq_of_beq hm.1 ▸ hg v List.mem_cons_self) hev
  | case5 bts v vs nb0 x e hx hev ih =>
    simp only [enumNewBinds, hx] at hn
    split at hn
    · exact ih (fun w hw => hg w (List.mem_cons_of_mem _ hw)) (Nat.succ.inj hl) hm hn
    · cases hn
  | case6 bts v vs nb0 x e hx hev =>
    simp only [enumNewBinds, hx] at hn
    split at hn
    · rename_i h; exact absurd (eq_of_beq h ▸ hg v List.mem_cons_self) hev
    · cases hn
  | case7 bts v vs nb0 x hx ih =>
    simp only [enumNewBinds, hx] at hn
    exact ih (fun w hw => hg w (List.mem_cons_of_mem _ hw)) (Nat.succ.inj hl) hm hn
  | case8 bts v vs nb0 ih =>
    exact ih (fun w hw => hg w (List.mem_cons_of_mem _ hw)) (Nat.succ.inj hl) hm hn

/-! The cases of `fun_induction enumNewBinds`: 1 / 2 `unb x` already bound, to the same value / to another;
    3 `unb x` unbound (the case that binds); 4 any other position; 5 pattern or tuple exhausted. -/

theorem enumNewBinds_mem {bts : List BT} {t : Tuple} {nb0 nb : Bindings} (h : enumNewBinds bts t nb0 = some nb) :
    ∀ q ∈ nb, q ∈ nb0 ∨ q.2 ∈ t := by
  fun_induction enumNewBinds bts t nb0 with
  | case1 _ _ _ _ _ _ _ _ ih | case4 _ _ _ _ _ _ ih =>
    exact fun q hq => (ih h q hq).imp id (List.mem_cons_of_mem _)
  | case2 => cases h
  | case3 _ _ _ _ _ _ ih =>
    intro q hq
    rcases ih h q hq with hq | hq
    · rcases List.mem_cons.mp hq with rfl | hq
      · exact Or.inr List.mem_cons_self
      · exact Or.inl hq
    · exact Or.inr (List.mem_cons_of_mem _ hq)
  | case5 => cases h; exact fun q hq => Or.inl hq

theorem rulesFor_mem (ctx : Ctx) (rel : String) : ∀ r ∈ ctx.rulesFor rel, r ∈ ctx.rules ∧ r.head.rel = rel := by
  intro r hr
  simpa only [Ctx.rulesFor, List.mem_filter, beq_iff_eq] using hr

theorem findMatching_eq_nil {rel : String} {bts : List BT} {db : DB} :
    findMatching rel bts db = [] ↔ ∀ t ∈ db.get rel, matchTuple bts t = none := by
  simp [findMatching, List.filterMap_eq_nil_iff]

theorem mem_negMatches {ctx : Ctx} {M : DB} (hd : ctx.derived = some M) {rel : String} {bts : List BT}
    {t : Tuple} {nb : Bindings} (h : (t, nb) ∈ negMatches ctx rel bts) :
    t ∈ world ctx.base M rel ∧ matchTuple bts t = some nb := by
  simp only [negMatches, hd] at h
  split at h
  · exact (mem_findMatching.mp h).imp (List.mem_append_right _) id
  · exact (mem_findMatching.mp h).imp (List.mem_append_left _) id

theorem negMatches_eq_nil {ctx : Ctx} {M : DB} (hd : ctx.derived = some M) {rel : String} {bts : List BT}
    (h : negMatches ctx rel bts = []) : ∀ t ∈ world ctx.base M rel, matchTuple bts t = none := by
  simp only [negMatches, hd] at h
  split at h
  · rename_i hb
    intro t ht
    rcases List.mem_append.mp ht with ht | ht
    · exact findMatching_eq_nil.mp (List.isEmpty_iff.mp hb) t ht
    · exact findMatching_eq_nil.mp h t ht
  · rename_i hb
    rw [h] at hb; exact absurd rfl hb

end ILV.Prov
