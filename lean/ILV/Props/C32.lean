/-
  C32 — relations are sets and write reports are accurate.
  Models: ILV.Model.Store (`insert_in_memory` / `delete_in_memory` loops, `insertCore` / `deleteCore`)
  and ILV.Model.Writes (the handler's insert / delete / conditional delete / update statements).
  Lemmas: ILV.Lemmas.WritesLive, ILV.Lemmas.WritesSem. Sets are duplicate-free lists (`List.Nodup`);
  with `Nodup` on both sides a length is a cardinality.
-/
import ILV.Lemmas.WritesSem
namespace ILV.Props.C32
open ILV ILV.Batch ILV.Store ILV.Writes ILV.Props.C31

/-- **insert refines set union and reports exactly the absent tuples.** If `insert_tuples_into` returns
    `Ok((n, d))`: the relation stays duplicate-free, holds exactly the old tuples and the requested ones,
    `n` is the growth of the set (`= |set ts \ R|`), `n + d` the number of requested tuples, and no other
    relation changes. Any codec, any configuration. -/
theorem insert_refines (c : Codec) (e e' : Engine) (rel : String) (ts : List Tuple) (n d : Nat)
    (h : insertCore c e rel ts = (e', .ok (n, d))) (hn : (liveOf e rel).Nodup) :
    (liveOf e' rel).Nodup ∧ (∀ t, t ∈ liveOf e' rel ↔ t ∈ liveOf e rel ∨ t ∈ ts) ∧
    (liveOf e' rel).length = (liveOf e rel).length + n ∧ n + d = ts.length ∧
    (∀ r, r ≠ rel → liveOf e' r = liveOf e r) := by
  obtain ⟨h1, h2, h3, h4⟩ := insertCore_ok h
  obtain ⟨s1, s3, s4⟩ := insertLoop_spec ts (liveOf e rel) 0 0 hn
  rw [h1, h2, h3]
  exact ⟨s1, mem_insertLoop ts _ 0 0, (Nat.add_zero _).symm.trans s4, s3.trans (by rw [Nat.zero_add]), h4⟩

/-- a rejected or failed insert leaves every relation as it was. -/
theorem insert_error_no_effect (c : Codec) (e e' : Engine) (rel : String) (ts : List Tuple) (k : String)
    (h : insertCore c e rel ts = (e', .error k)) (r : String) : liveOf e' r = liveOf e r := by
  simp [liveOf, insertCore_err h]

/-- **delete refines set difference and reports exactly the removed tuples** (`n = |set ts ∩ R|`). -/
theorem delete_refines (c : Codec) (e e' : Engine) (rel : String) (ts : List Tuple) (n : Nat)
    (h : deleteCore c e rel ts = (e', .ok n)) (hn : (liveOf e rel).Nodup) (ha : ArityOk e) :
    (liveOf e' rel).Nodup ∧ (∀ t, t ∈ liveOf e' rel ↔ t ∈ liveOf e rel ∧ t ∉ ts) ∧
    (liveOf e rel).length = (liveOf e' rel).length + n ∧
    (∀ r, r ≠ rel → liveOf e' r = liveOf e r) := by
  obtain ⟨h1, h2, h3⟩ := deleteCore_ok ha h
  obtain ⟨s1, s2, s3⟩ := deleteLive_spec (liveOf e rel) ts hn
  rw [h1] at h2 ⊢
  exact ⟨s1, s2, by rw [h2, Nat.add_sub_cancel' s3], h3⟩

/-- run of handler statements from the empty store. -/
def runW (c : Codec) (ans : Answer) (cfg : Cfg) (h : List WOp) : Engine :=
  h.foldl (fun e o => (exec c ans e o).1) { cfg := cfg }

/-- **stored relations never contain a tuple twice** — after any sequence of insert / delete /
    conditional delete / update statements, for every codec, configuration and query answer, whatever
    the statements report (including errors). -/
theorem store_nodup (c : Codec) (ans : Answer) (cfg : Cfg) (h : List WOp) (r : String) :
    (liveOf (runW c ans cfg h) r).Nodup :=
  foldl_exec_inv (writeInv_nodup c) ans h { cfg := cfg } (fun _ => List.nodup_nil) r

/-- **every stored tuple has its relation's arity**, after any statement sequence (any codec, answers,
    outcomes) — the side condition of the refinement theorems below, and the reason why skipping
    wrong-arity tuples in `delete_tuples_from` is invisible. -/
theorem store_arity (c : Codec) (ans : Answer) (cfg : Cfg) (h : List WOp) : ArityOk (runW c ans cfg h) :=
  foldl_exec_inv (writeInv_arityOk c) ans h { cfg := cfg } (fun _ _ ht => nomatch ht)

/-- the tuples a conditional delete asks the store to delete, computed from the query answer `rows`. -/
def condDeleteTuples (head : List Tm) (rows : List Tuple) : List Tuple :=
  (rows.filterMap (fun row => instHead (rowBinding (addVars [] head) row) head)).filter (fun t => !t.isEmpty)

/-- **conditional delete, given the query answer**: the statement removes exactly the tuples `D`
    instantiated from the answer rows and reports the number of tuples that disappeared. -/
theorem cond_delete_exact (c : Codec) (ans : Answer) (e e' : Engine) (rel : String) (head : List Tm) (body : List Lit)
    (rows : List Tuple) (n : Nat)
    (ha : ans (dbOf e) (addVars [] head) (.pos rel head :: body) = some rows)
    (h : exec c ans e (.delc rel head body) = (e', .condDeleted n)) (hn : (liveOf e rel).Nodup) (har : ArityOk e) :
    (∀ t, t ∈ liveOf e' rel ↔ t ∈ liveOf e rel ∧ t ∉ condDeleteTuples head rows) ∧
    (liveOf e rel).length = (liveOf e' rel).length + n ∧ (liveOf e' rel).Nodup ∧
    (∀ r, r ≠ rel → liveOf e' r = liveOf e r) := by
  simp only [exec, ha] at h
  rcases hr : deleteSeq c e rel
    ((rows.filterMap (fun row => instHead (rowBinding (addVars [] head) row) head)).filter (fun t => !t.isEmpty)) 0 with ⟨e1, res⟩
  rw [hr] at h
  cases res with
  | error k => simp at h
  | ok m =>
    simp only [Prod.mk.injEq, Msg.condDeleted.injEq] at h
    obtain ⟨h1, h2⟩ := h
    subst h1; subst h2
    obtain ⟨a1, a2, a3⟩ := deleteSeq_ok c rel _ e e1 0 m har hr
    obtain ⟨s1, s2, _⟩ := deleteLive_spec (liveOf e rel) (condDeleteTuples head rows) hn
    refine ⟨by rw [a1]; exact s2, by rw [Nat.zero_add] at a2; rw [← a2, Nat.add_comm], by rw [a1]; exact s1, a3⟩

/-- corollary: if the answer is right — `D` is exactly the set of stored tuples satisfying `φ` — the
    statement removes exactly those and reports their number. (Needs a wildcard-free head: with a `_`
    in the head `D` is empty, see `C32_refuted`.) -/
theorem cond_delete_exact_right_answer (c : Codec) (ans : Answer) (e e' : Engine) (rel : String) (head : List Tm) (body : List Lit)
    (rows : List Tuple) (n : Nat) (φ : Tuple → Prop)
    (ha : ans (dbOf e) (addVars [] head) (.pos rel head :: body) = some rows)
    (hright : ∀ t, t ∈ condDeleteTuples head rows ↔ t ∈ liveOf e rel ∧ φ t)
    (h : exec c ans e (.delc rel head body) = (e', .condDeleted n)) (hn : (liveOf e rel).Nodup) (har : ArityOk e) :
    (∀ t, t ∈ liveOf e' rel ↔ t ∈ liveOf e rel ∧ ¬ φ t) := by
  obtain ⟨a, _, _, _⟩ := cond_delete_exact c ans e e' rel head body rows n ha h hn har
  intro t
  rw [a t, hright t]
  constructor
  · rintro ⟨h1, h2⟩; exact ⟨h1, fun hp => h2 ⟨h1, hp⟩⟩
  · rintro ⟨h1, h2⟩; exact ⟨h1, fun hp => h2 hp.2⟩

/-- "no tuple inserted for one binding is a delete tuple of a later binding". -/
def NoLaterDelete (vars : List String) (dels inss : List Target) : List Tuple → Prop
  | [] => True
  | row :: rows =>
    (∀ p ∈ targetPrims false (rowBinding vars row) inss, ∀ q ∈ updPrims vars dels inss rows,
      ∀ rel t, p = Prim.ins rel t → q ≠ Prim.del rel t) ∧ NoLaterDelete vars dels inss rows

/-- the model's executable test `laterDelete` (ILV.Model.Writes) is sound for `NoLaterDelete`. -/
theorem noLaterDelete_of_laterDelete (vars : List String) (dels inss : List Target) :
    ∀ rows, laterDelete vars dels inss rows = false → NoLaterDelete vars dels inss rows
  | [], _ => trivial
  | row :: rows, h => by
    rw [laterDelete, Bool.or_eq_false_iff, List.any_eq_false] at h
    refine ⟨fun p hp q hq rel t e1 e2 => ?_, noLaterDelete_of_laterDelete vars dels inss rows h.2⟩
    subst e1 e2
    exact h.1 _ hp (List.contains_iff_mem.2 hq)

/-- the update's delete set `D` and insert set `I` (as predicates on relation/tuple). -/
def inD (vars : List String) (dels inss : List Target) (rows : List Tuple) (r : String) (y : Tuple) : Prop :=
  Prim.del r y ∈ updPrims vars dels inss rows
def inI (vars : List String) (dels inss : List Target) (rows : List Tuple) (r : String) (y : Tuple) : Prop :=
  Prim.ins r y ∈ updPrims vars dels inss rows

/-- membership after the primitives of an update without a later delete of an inserted tuple:
    `(R \ D) ∪ I`. -/
theorem memAfter_update (vars : List String) (dels inss : List Target) (r : String) (y : Tuple) :
    ∀ (rows : List Tuple), NoLaterDelete vars dels inss rows → ∀ init,
    (memAfter r y (updPrims vars dels inss rows) init ↔
      (init ∧ ¬ inD vars dels inss rows r y) ∨ inI vars dels inss rows r y) := by
  intro rows
  induction rows with
  | nil => intro _ init; simp [updPrims, memAfter, inD, inI]
  | cons row rows ih =>
    intro hno init
    have hp := updPrims_cons vars dels inss row rows
    have hD := targetPrims_del (rowBinding vars row) dels
    have hI := targetPrims_ins (rowBinding vars row) inss
    rw [hp, memAfter_append, memAfter_append, ih hno.2,
      memAfter_inss r y _ hI, memAfter_dels r y _ hD]
    simp only [inD, inI, hp, List.mem_append]
    have nd1 : Prim.del r y ∉ targetPrims false (rowBinding vars row) inss := by
      intro hm; obtain ⟨rel, t, e⟩ := hI _ hm; cases e
    have ni1 : Prim.ins r y ∉ targetPrims true (rowBinding vars row) dels := by
      intro hm; obtain ⟨rel, t, e⟩ := hD _ hm; cases e
    have hcross : Prim.ins r y ∈ targetPrims false (rowBinding vars row) inss →
        Prim.del r y ∉ updPrims vars dels inss rows := by
      intro hi hd
      exact hno.1 _ hi _ hd r y rfl rfl
    constructor
    · rintro (⟨(⟨h1, h2⟩ | h1), h3⟩ | h1)
      · left
        refine ⟨h1, fun hh => ?_⟩
        rcases hh with hh | hh | hh
        · exact h2 hh
        · exact nd1 hh
        · exact h3 hh
      · right; right; left; exact h1
      · right; right; right; exact h1
    · rintro (⟨h1, h2⟩ | h1 | h1 | h1)
      · left; exact ⟨Or.inl ⟨h1, fun hh => h2 (Or.inl hh)⟩, fun hh => h2 (Or.inr (Or.inr hh))⟩
      · exact absurd h1 ni1
      · left; exact ⟨Or.inr h1, hcross h1⟩
      · right; exact h1

/-- **update, given the query answer**: when no tuple inserted for one binding is a delete tuple of a
    later binding, the statement leaves every relation as `(R \ D) ∪ I`, where `D` / `I` are the delete /
    insert tuples of all matched bindings (on the state before the update). -/
theorem update_exact (c : Codec) (ans : Answer) (e e' : Engine) (dels inss : List Target) (body : List Lit)
    (rows : List Tuple) (d i : Nat)
    (ha : ans (dbOf e) (updVars dels inss) body = some rows)
    (hno : NoLaterDelete (updVars dels inss) dels inss rows)
    (h : exec c ans e (.upd dels inss body) = (e', .updated d i)) (har : ArityOk e) (r : String) (y : Tuple) :
    (y ∈ liveOf e' r ↔ (y ∈ liveOf e r ∧ ¬ inD (updVars dels inss) dels inss rows r y) ∨
      inI (updVars dels inss) dels inss rows r y) := by
  simp only [exec, ha] at h
  rcases hr : updRows c (updVars dels inss) dels inss e rows 0 0 with ⟨e1, res⟩
  rw [hr] at h
  cases res with
  | error k => simp at h
  | ok di =>
    obtain ⟨d1, i1⟩ := di
    simp only [Prod.mk.injEq, Msg.updated.injEq] at h
    obtain ⟨h1, _, _⟩ := h
    subst h1
    rw [updRows_ok c _ dels inss rows e e1 0 0 d1 i1 har hr r y]
    exact memAfter_update _ dels inss r y rows hno _

def tm (l : List Int) : Tuple := l.map Value.i64
def dbList (l : List (String × List Tuple)) : String → List Tuple := fun r => (aget l r).getD []

/-- **C32 (state part) at full strength** for the two query-driven statements, with the reference
    evaluator as the query answer: a conditional delete removes exactly the stored tuples that match its
    head pattern (a `_` matches anything) and condition; an update leaves `(R \ D) ∪ I`. -/
def C32_statement : Prop :=
  (∀ (e : Engine) (rel : String) (head : List Tm) (body : List Lit) (t : Tuple),
      (liveOf e rel).Nodup →
      (exec realCodec refAnswer e (.delc rel head body)).2 ≠ .err "other" →
      (t ∈ liveOf (exec realCodec refAnswer e (.delc rel head body)).1 rel ↔
        t ∈ liveOf e rel ∧ ¬ (∃ b, matchArgs head t [] = some b ∧ ∃ bs, evalBody (dbOf e) body [b] = some bs ∧ bs ≠ []))) ∧
  (∀ (e : Engine) (dels inss : List Target) (body : List Lit) (rows : List Tuple) (r : String) (y : Tuple),
      refAnswer (dbOf e) (updVars dels inss) body = some rows →
      (y ∈ liveOf (exec realCodec refAnswer e (.upd dels inss body)).1 r ↔
        (y ∈ liveOf e r ∧ ¬ inD (updVars dels inss) dels inss rows r y) ∨ inI (updVars dels inss) dels inss rows r y))

/-- store holding `r = {(1,2),(2,1)}`. -/
def e0 : Engine := (exec realCodec refAnswer { cfg := {} } (.ins "r" [tm [1, 2], tm [2, 1]])).1

theorem e0_live : liveOf e0 "r" = [tm [1, 2], tm [2, 1]] := by decide +kernel

/-- `-r(X, _) <- X > 0` deletes nothing although both tuples match. -/
theorem wildcard_witness :
    liveOf (exec realCodec refAnswer e0 (.delc "r" [.var "X", .wild] [.cmp .gt (.var "X") (.const 0)])).1 "r"
      = [tm [1, 2], tm [2, 1]] := by decide +kernel

/-- `-r(X,Y), +r(Y,X) <- r(X,Y)` on `{(1,2),(2,1)}` leaves `{(1,2)}`: `(2,1)`, inserted for the first
    binding, is deleted again for the second. -/
theorem swap_witness :
    liveOf (exec realCodec refAnswer e0 (.upd [("r", [.var "X", .var "Y"])] [("r", [.var "Y", .var "X"])]
      [.pos "r" [.var "X", .var "Y"]])).1 "r" = [tm [1, 2]] := by decide +kernel

theorem C32_refuted : ¬ C32_statement := by
  intro h
  have h1 := h.1 e0 "r" [.var "X", .wild] [.cmp .gt (.var "X") (.const 0)] (tm [1, 2]) (by rw [e0_live]; decide +kernel) (by decide +kernel)
  rw [wildcard_witness, e0_live] at h1
  have := h1.1 (by simp)
  exact this.2 ⟨[("X", .i64 1)], by decide +kernel, [[("X", .i64 1)]], by decide +kernel, List.cons_ne_nil _ _⟩

/-- the hypotheses of `update_exact` are satisfiable by a non-trivial update (one-directional swap of
    the rows (0,3) and (1,2): inserts (3,0), (2,1); deletes (0,3), (1,2)). -/
example : NoLaterDelete ["X", "Y"] [("r", [.var "X", .var "Y"])] [("r", [.var "Y", .var "X"])]
    [tm [1, 2], tm [0, 3]] :=
  noLaterDelete_of_laterDelete _ _ _ _ (by decide +kernel)

/-- and `insert_refines` applies to real results: a present tuple and an in-batch duplicate give
    `Ok((1, 2))`. -/
example : (match (insertCore realCodec e0 "r" [tm [1, 2], tm [3, 3], tm [3, 3]]).2 with
    | .ok (n, d) => n == 1 && d == 2 | .error _ => false) = true := by decide +kernel

end ILV.Props.C32
