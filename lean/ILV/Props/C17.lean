/-
  C17 — Knowledge graphs are isolated and drops are final.
  Model: ILV.Model.KStep (KG lifecycle + shard naming + restart, as a step system).
-/
import ILV.Lemmas.KStep
import ILV.Gen.C17
namespace ILV.Props.C17
open ILV ILV.KStep

def n (s : String) : Name := s.toList

/-- the KG set and every KG's relation contents survive a restart unchanged -/
def RestartFaithful (st : State) : Prop :=
  (∀ k, (lookup k (restart st).kgs).isSome = (lookup k st.kgs).isSome) ∧
  (∀ k r x, x ∈ ((lookup k (restart st).kgs).bind (lookup r)).getD [] ↔ x ∈ ((lookup k st.kgs).bind (lookup r)).getD [])

/-- full statement: after any (unblocked) schedule of any programs — in particular after any
    sequential history — a restart reproduces exactly the KGs that exist, with their contents:
    nothing of a dropped KG reappears, nothing of a live KG is lost or altered by operations on others. -/
def C17_statement : Prop :=
  ∀ (progs : List (List Op)) (sched : List Tid), blockedAt (init progs) sched 0 = none →
    RestartFaithful (lastState (init progs) sched)

/-! Still refuted — by the one defect family that is deliberately left in place (`sanitize_name` cannot be
    changed without breaking on-disk compatibility): shards `a_b:c` and `a:b_c` share the metadata file
    `a_b_c.json`; whichever KG is saved last keeps its data, the other's relation is empty after restart.
    A purely sequential history (one thread). -/
def collisionHist : List Op :=
  [.create (n "a_b"), .create (n "a"), .ins (n "a_b") (n "c") 1, .ins (n "a") (n "b_c") 2, .save (n "a_b"), .save (n "a")]
def wSched : List Tid := List.replicate 40 0

theorem C17_refuted : ¬ C17_statement := by
  intro h
  have h1 := (h [collisionHist] wSched (by decide +kernel)).2 (n "a_b") (n "c") 1
  have hw : 1 ∈ ((lookup (n "a_b") (lastState (init [collisionHist]) wSched).kgs).bind (lookup (n "c"))).getD [] ∧
      ¬ 1 ∈ ((lookup (n "a_b") (restart (lastState (init [collisionHist]) wSched)).kgs).bind (lookup (n "c"))).getD [] := by
    decide +kernel
  exact hw.2 (h1.mpr hw.1)

/-- `sanitize_name` is not injective on shard names: KG `a_b`/relation `c` and KG `a`/relation `b_c`
    share the metadata file `a_b_c.json`. -/
theorem C17_names_refuted :
    shardName (n "a_b") (n "c") ≠ shardName (n "a") (n "b_c") ∧
    sanitize (shardName (n "a_b") (n "c")) = sanitize (shardName (n "a") (n "b_c")) := by decide +kernel

example : (lookup (n "a_b") (runSeq collisionHist).kgs) = some [(n "c", [1])] := by decide +kernel
example : (lookup (n "a_b") (restart (runSeq collisionHist)).kgs) = some [] := by decide +kernel

/-! ### repaired classes — the former counter-examples now behave -/

/-- `:` is rejected in KG names … -/
example : ((runSeq [.create (n "x:y")]).threads 0).done.map (·.2) = [.inv] := by decide +kernel
/-- … and for the names `create_knowledge_graph` accepts, start-up discovery (`split(':').next()`) maps every
    shard back to its own KG and the `starts_with("{kg}:")` test of load / save / drop never matches a
    shard of another accepted KG — for all names and relations. -/
theorem C17_discovery_exact (k rel : Name) (hk : validName k = true) : kgOf (shardName k rel) = k :=
  kgOf_shardName k rel (validName_no_colon k hk)

theorem C17_prefix_exact (k' k rel : Name) (hk' : validName k' = true) (hk : validName k = true)
    (h : hasPrefix k' (shardName k rel) = true) : k' = k :=
  hasPrefix_shardName k' k rel (validName_no_colon k' hk') (validName_no_colon k hk) h

example : validName (n "v1.0") = true ∧ validName (n "x:y") = false := by decide +kernel

/-- insert overtaken by a complete drop: the re-check under the tombstone guard fails the insert before
    anything is persisted; the dropped KG stays gone after restart -/
def raceProgs : List (List Op) := [[.create (n "a"), .ins (n "a") (n "r") 1], [.drop (n "a")]]
def raceSched : List Tid := [0, 0, 0, 0, 0, 1, 1, 1, 1, 1, 1, 0, 0, 0]
example : ((lastState (init raceProgs) raceSched).threads 0).done.map (·.2) = [.ok, .nf] := by decide +kernel
example : (lastState (init raceProgs) raceSched).persistedForMissing = false := by decide +kernel
example : (lookup (n "a") (restart (lastState (init raceProgs) raceSched)).kgs) = none := by decide +kernel

/-- Full for sequential histories (any operations incl. restarts, any names): no write is ever persisted for
    a KG that is not in the map — the ghost flag of the repaired class stays false. (For concurrent
    schedules the same is exercised by the scheduled correspondence; the argument — while the tombstone
    read guard is held no drop can tombstone, and a drop that tombstoned earlier has either left its
    tombstone or already removed the KG — is in fixes/C17-write_persisted_for_missing_kg.msg. It needs that
    no two drops of the same KG overlap: tombstones are a set, not a counter.) -/
theorem C17_no_write_for_missing_kg_sequential (ops : List Op) (sched : List Tid) :
    (lastState (init [ops]) sched).persistedForMissing = false :=
  (lastState_good sched _ (good_init ops)).flag

/-- a delete addressed to a dropped KG fails without creating a shard -/
def deleteHist : List Op := [.create (n "a"), .ins (n "a") (n "r") 1, .drop (n "a"), .del (n "a") (n "r") 1]
example : ((runSeq deleteHist).threads 0).done.map (·.2) = [.ok, .insd 1 0, .ok, .nf] := by decide +kernel
example : (lookup (n "a") (restart (runSeq deleteHist)).kgs) = none := by decide +kernel

/-- two metadata savers: `create b` holds the metadata mutex from collecting the KG list to writing it, so
    `drop a` cannot write in between — the schedule that used to leave a stale list is now blocked on the mutex -/
def metaProgs : List (List Op) := [[.create (n "a"), .create (n "b")], [.drop (n "a")]]
def metaSched : List Tid := [0, 0, 0, 0, 0, 0, 0, 1, 1, 1, 1, 1, 1, 0]
example : blockedAt (init metaProgs) metaSched 0 = some 9 := by decide +kernel
/-- letting `create b` finish first: the file ends up current -/
def metaSched2 : List Tid := [0, 0, 0, 0, 0, 0, 0, 1, 1, 0, 1, 1, 1, 1]
example : blockedAt (init metaProgs) metaSched2 0 = none := by decide +kernel
example : (lookup (n "a") (restart (lastState (init metaProgs) metaSched2)).kgs) = none := by decide +kernel
example : (lookup (n "b") (restart (lastState (init metaProgs) metaSched2)).kgs).isSome = true := by decide +kernel

/-- Partial result (holds for *all* names): between restarts, a step of an operation addressed to KG `a`
    never changes whether another KG `b` exists nor any of `b`'s live relations. The isolation failures
    above all pass through the persist layer's file naming and become visible at restart only. -/
theorem C17_isolation_live (st st' : State) (t : Tid) (a b : Name) (rest : List Op) (op : Op)
    (hs : step st t = .ok st') (htodo : (st.threads t).todo = op :: rest) (htarget : target op = some a) (hb : b ≠ a) :
    lookup b st'.kgs = lookup b st.kgs :=
  (step_isolated htodo htarget hb).of_eq hs

example : target (.ins (n "a") (n "r") 1) = some (n "a") := rfl

/-!
  `metaFile shard = sanitize shard ++ ".json"` is what `save_shard_meta` / `delete_shard` compute today.
  `ILV.Gen.C17.fileTable` is regenerated on every run from the *current* code: for ~600 shard names of the
  systematic alphabet (every printable ASCII punctuation character leading / trailing / between / doubled,
  names differing only after it, case variants, unicode, 128-byte names, dotted file-like names) the file
  that `FilePersist::ensure_shard` really creates. -/

def toName (l : List Nat) : Name := l.map Char.ofNat

/-- The code's file-name function *is* the model's, on the whole alphabet. A change of the path
    construction in the code (e.g. `Path::with_extension`, which cuts a name at its last dot) changes the
    regenerated table and breaks this obligation. -/
theorem C17_file_table_matches_model :
    Gen.C17.fileTable.all (fun row => metaFile (toName row.1) == toName row.2) = true := by decide +kernel

example : Gen.C17.fileTable.length ≥ 500 := by decide +kernel

/-- The model's function maps distinct shard names to distinct files whenever neither name contains
    `_` or `/` — in particular for every dotted / hyphenated / spaced / case-variant / unicode sibling
    family of the alphabet (`v1.0:r` ≠ `v1.1:r` ≠ `v1:r`). The excluded names are exactly the pre-existing
    `sanitize_name` collision family (`C17_names_refuted`). -/
theorem C17_file_names_distinct_partial (a b : Name) (ha : a.all safeChar = true) (hb : b.all safeChar = true)
    (h : metaFile a = metaFile b) : a = b := metaFile_inj a b ha hb h

example : metaFile (shardName (n "v1.0") (n "r")) ≠ metaFile (shardName (n "v1.1") (n "r")) := by decide +kernel
example : metaFile (shardName (n "v1.0") (n "r")) ≠ metaFile (shardName (n "v1") (n "r")) := by decide +kernel
example : metaFile (shardName (n "v1.0") (n "r")) = n "v1.0_r.json" := by decide +kernel
example : shardFile (n "a_b") (n "c") = shardFile (n "a") (n "b_c") := by decide +kernel

/-- Restart/isolation at the persist layer under the decidable hypothesis "file names of distinct shards
    are distinct" (`distinctFiles names`, all shards of the map and the one operated on being in `names`):
    `ensure_shard`, `append`, `flush` and `delete_shard` of one shard keep every shard the owner of the
    metadata file at its name (with its batches) — so saving or dropping one KG's shards never overwrites or
    unlinks a sibling's metadata — and start-up's `load_shards` then recovers every shard with exactly its
    flushed batches. -/
theorem C17_shard_files_partial (st : State) (names : List Name) (s : Name) (u : Upd)
    (hd : distinctFiles names = true) (hmem : ∀ s', (lookup s' st.mem).isSome = true → s' ∈ names) (hs : s ∈ names)
    (h : Owns st) :
    Owns (ensureShard st s) ∧ Owns (flushShard st s) ∧ Owns (deleteShard st s) ∧
    ((lookup s st.mem).isSome = true → Owns (appendUpd st s u)) ∧
    (∀ s' sh, lookup s' st.mem = some sh →
      (s', ({ batches := sh.batches, buffer := [] } : ShardMem)) ∈ st.files.map (fun f => (f.2.1, ({ batches := f.2.2, buffer := [] } : ShardMem)))) := by
  have hi := fileInj_of_distinct hd hmem hs
  exact ⟨owns_ensureShard h hi, owns_flushShard h hi, owns_deleteShard h hi, fun hsome => owns_appendUpd h hsome,
         fun s' sh hl => owns_load h s' sh hl⟩

/-- the hypothesis is met by dotted siblings … -/
example : distinctFiles [shardName (n "v1.0") (n "r"), shardName (n "v1.1") (n "r"), shardName (n "v1") (n "r.0"), shardName (n "v1.0") (n "r.1")] = true := by decide +kernel
/-- … and fails exactly for the known twins, where ownership is lost: after both inserts the file of
    `a_b:c` holds the metadata of `a:b_c` -/
example : distinctFiles [shardName (n "a_b") (n "c"), shardName (n "a") (n "b_c")] = false := by decide +kernel
example : lookup (metaFile (shardName (n "a_b") (n "c")))
    (runSeq [.create (n "a_b"), .create (n "a"), .ins (n "a_b") (n "c") 1, .ins (n "a") (n "b_c") 2]).files
    = some (shardName (n "a") (n "b_c"), []) := by decide +kernel

/-- `delete_shard` leaves nothing of the shard in the WAL — neither in the file nor in the writer's buffer
    (batched mode) — in every state and every mode: a dropped KG cannot come back through a later sync or a
    clean shutdown. (A `delete_shard` that skips the rewrite when the *file* shows no entry of the shard
    breaks exactly this in batched mode.) -/
theorem C17_deleted_shard_leaves_no_wal (st : State) (s : Name) :
    (∀ e ∈ (deleteShard st s).wal, e.1 ≠ s) ∧ (deleteShard st s).walBuf = [] := by
  refine ⟨?_, rfl⟩
  intro e he
  simp only [deleteShard, walRewrite, List.mem_filter, bne_iff_ne, ne_eq] at he
  exact he.2

/-- batched mode: insert, drop, re-create, clean shutdown, restart — the re-created KG is empty -/
def batchedDrop : List Op := [.create (n "a"), .ins (n "a") (n "r") 1, .drop (n "a"), .create (n "a"), .restart]
def runMode (mode : Dur) (ops : List Op) : State := lastState (initMode mode [ops]) (List.replicate (6 * ops.length + 1) 0)
example : lookup (n "a") (runMode .batched batchedDrop).kgs = some [] := by decide +kernel

/-- Known finding (batched mode, pre-existing): `remove_shard_entries` computes the survivors from the WAL
    *file*, closes the writer and replaces the file — buffered entries of *other* shards are thrown away.
    Dropping (or saving) KG `a` loses KG `b`'s acknowledged insert at the next clean restart. -/
def C17_batched_isolation_statement : Prop :=
  ∀ (ops : List Op), (runMode .batched (ops ++ [.restart])).bufDiscarded = false

def batchedWitness : List Op := [.create (n "a"), .create (n "b"), .ins (n "a") (n "r") 1, .ins (n "b") (n "r") 2, .drop (n "a")]

theorem C17_batched_isolation_refuted : ¬ C17_batched_isolation_statement := by
  intro h
  have := h batchedWitness
  revert this; decide +kernel

example : lookup (n "b") (runMode .batched batchedWitness).kgs = some [(n "r", [2])] := by decide +kernel
example : lookup (n "b") (runMode .batched (batchedWitness ++ [.restart])).kgs = some [] := by decide +kernel
/-- the same history in immediate mode keeps `b` -/
example : lookup (n "b") (runMode .immediate (batchedWitness ++ [.restart])).kgs = some [(n "r", [2])] := by decide +kernel

end ILV.Props.C17
