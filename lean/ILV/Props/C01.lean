/-
  C01 — Query answers equal the stratified least model.

  Model: `Engine.run` (ILV.Model.Engine — `IQLEngine::execute_tuples_profiled`, src/lib.rs:1532, at
  head granularity, switches off). Spec: `pmEval` (ILV.Model.Datalog — stratum-wise least model
  with a whole-program supported-model check). Helper lemmas: ILV.Lemmas.Recursion / PmEval / LeastModel.

  The full statement is false of the faithful model (the code has defects): `C01_refuted` (mutual
  recursion) and `C01_refuted_dropped_equality` (the one always-on clause-level defect left; the
  push-down defect is repaired on the `ir` branch, fixes/C05-pushdown_right_past_join_key.diff, the
  wildcard-naming defect by fixes/C01-same_relation_wildcard_position.diff).
  Proved: `C01_partial_rec` — aggregate-free programs whose only dependency cycles are self-loops and
  whose execution order (the code's own topological sort) respects the other dependencies;
  `C01_partial` is its case without recursion.
-/
import ILV.Lemmas.Faithful
import ILV.Lemmas.LeastModel
import ILV.Drv.C01
namespace ILV.Props.C01
open ILV ILV.DL ILV.Engine

/-- The property at full strength: whenever the engine answers and the Spec defines the least
    model, the answer is the query relation of that model. -/
def C01_statement : Prop :=
  ∀ (p : Program) (edb : DB) (hash : Tuple → Nat) (ord : String → List Tuple → List Tuple) (fuel fuel' : Nat)
    (A : List Tuple) (acc M : DB),
    Engine.run allOff hash ord fuel p edb = .ok A acc →
    pmEval fuel' p edb = some M →
    MemEq A (M.get (queryRel p))

def a1 (r x : String) : Lit := .pos ⟨r, [.var x]⟩
def a2 (r x y : String) : Lit := .pos ⟨r, [.var x, .var y]⟩

/-- even/odd over a 2-edge chain: `a` and `b` are mutually recursive. -/
def evenOdd : Program := [
  { hrel := "a", hargs := [.var "X"], body := [a1 "n" "X"] },
  { hrel := "a", hargs := [.var "Y"], body := [a1 "b" "X", a2 "e" "X" "Y"] },
  { hrel := "b", hargs := [.var "Y"], body := [a1 "a" "X", a2 "e" "X" "Y"] },
  { hrel := "q", hargs := [.var "X"], body := [a1 "a" "X"] } ]
def chain : DB := [("n", [[.i64 0]]), ("e", [[.i64 0, .i64 1], [.i64 1, .i64 2]])]

def noHash : Tuple → Nat := fun _ => 0
def anyOrd : String → List Tuple → List Tuple := fun _ ts => ts

/-- The code evaluates each head of a dependency cycle once, in text order: `a(2)` is lost. -/
theorem C01_refuted : ¬ C01_statement := by
  intro h
  have hrun : Engine.run allOff noHash anyOrd 8 evenOdd chain =
      .ok [[.i64 0]] [("q", [[.i64 0]]), ("b", [[.i64 1]]), ("a", [[.i64 0]])] := by decide +kernel
  have hpm : (pmEval 8 evenOdd chain).map (fun m => (m.get (queryRel evenOdd)).contains [Value.i64 2]) = some true := by
    decide +kernel
  obtain ⟨M, hM, h2⟩ := Option.map_eq_some_iff.1 hpm
  have := (h evenOdd chain noHash anyOrd 8 8 _ _ M hrun hM [.i64 2]).2 (List.contains_iff_mem.1 h2)
  revert this; decide

/-- the witness is in the identifying class of the known finding. -/
example : Drv.C01.hasMutualRecursiveScc evenOdd = true := by decide +kernel

/-- `q(X) <- e(X,Y), Z = Y + 1, Z = X`: the second equality is neither computed nor filtered. -/
def dropEq : Program := [
  { hrel := "q", hargs := [.var "X"],
    body := [a2 "e" "X" "Y", .cmp .eq (.var "Z") (.bin .add (.var "Y") (.const 1)), .cmp .eq (.var "Z") (.var "X")] } ]
def dropEqDb : DB := [("e", [[.i64 1, .i64 0], [.i64 5, .i64 0]])]

theorem C01_refuted_dropped_equality :
    ∃ A acc M, Engine.run allOff noHash anyOrd 8 dropEq dropEqDb = .ok A acc ∧
      pmEval 8 dropEq dropEqDb = some M ∧ [Value.i64 5] ∈ A ∧ [Value.i64 5] ∉ M.get (queryRel dropEq) := by
  have hpm : (pmEval 8 dropEq dropEqDb).map (fun m => (m.get (queryRel dropEq)).contains [Value.i64 5]) = some false := by
    decide +kernel
  obtain ⟨M, hM, h5⟩ := Option.map_eq_some_iff.1 hpm
  exact ⟨[[.i64 1], [.i64 5]], [("q", [[.i64 1], [.i64 5]])], M, by decide +kernel, hM, by decide,
    fun hc => by rw [List.contains_iff_mem.2 hc] at h5; cases h5⟩

example : dropEq.any Drv.C01.droppedEquality = true := by decide +kernel

/-- **C01 with self-recursive heads.** Aggregate-free programs whose only dependency cycles are
    self-loops (`inFragmentRec`: decidable, computed with the code's own `topoOrder`), clauses
    evaluated faithfully. Termination is an explicit hypothesis in the form "the run answers": the
    engine's fix-point loop has returned within its fuel (for arithmetic-free recursive clauses the
    iterates live in the finite set of tuples over the active domain, so some fuel suffices; that
    bound is not formalised). Then the answer is the query relation of `pmEval`'s stratified least
    model. Proof: `lfpSelf_least` (Kleene iterate from ∅ = least closed set, by monotonicity),
    `execLoop_least`, `pmEval_least` (the Spec's run is below every closed database, stratum by
    stratum), `engine_eq_pm`. -/
theorem C01_partial_rec (p : Program) (edb : DB) (hash : Tuple → Nat) (ord : String → List Tuple → List Tuple)
    (fuel fuel' : Nat) (A : List Tuple) (acc M : DB)
    (hfrag : inFragmentRec p edb = true) (hcf : ClauseFaithful p)
    (hrun : Engine.run allOff hash ord fuel p edb = .ok A acc)
    (hpm : pmEval fuel' p edb = some M) :
    MemEq A (M.get (queryRel p)) := by
  obtain ⟨hdep, hheads, hall, hno, hagg, hlastq⟩ := inFragmentRec_parts hfrag
  obtain ⟨hleast, hnon, hA⟩ := run_least p edb hash ord fuel A acc hfrag hcf (neg_not_self hpm hagg) hrun
  have hq : queryRel p ∈ heads p := hheads _ (List.mem_of_getLast? hlastq)
  have := engine_eq_pm p edb M fuel' hpm (lkOf edb acc) (execOrder p) hagg hno hnon hdep hheads hall hleast _ hq
  rw [hA] at this
  exact this

/-- **C01 for non-recursive aggregate-free programs.** If the model engine (switches off, any
    partitioner, any emission order, any fuel) answers `A`, and the Spec's least model is `M`, then
    `A` is exactly the query relation of `M` — provided the clauses are evaluated faithfully
    (`ClauseFaithful`, see `clauseFaithful_of_simple` for a decidable sufficient condition; it
    fails exactly on the clause-level defects refuted above). -/
theorem C01_partial (p : Program) (edb : DB) (hash : Tuple → Nat) (ord : String → List Tuple → List Tuple)
    (fuel fuel' : Nat) (A : List Tuple) (acc M : DB)
    (hfrag : inFragment p edb = true) (hcf : ClauseFaithful p)
    (hrun : Engine.run allOff hash ord fuel p edb = .ok A acc)
    (hpm : pmEval fuel' p edb = some M) :
    MemEq A (M.get (queryRel p)) :=
  C01_partial_rec p edb hash ord fuel fuel' A acc M (inFragmentRec_of_inFragment hfrag) hcf hrun hpm

theorem clauseFaithful_of_simple (p : Program) (h : p.all simpleRule = true) : ClauseFaithful p :=
  clauseFaithful_of_filter p (List.all_eq_true.2 fun r hr => filterRule_of_simple (List.all_eq_true.1 h r hr))


/-- `C01_partial` with every hypothesis decidable: programs of simple rules (positive and negated
    atoms with variables, constants, wildcards, repeated variables; no comparison literal) in the
    fragment. -/
theorem C01_partial_simple (p : Program) (edb : DB) (hash : Tuple → Nat) (ord : String → List Tuple → List Tuple)
    (fuel fuel' : Nat) (A : List Tuple) (acc M : DB)
    (hfrag : inFragment p edb = true) (hsimple : p.all simpleRule = true)
    (hrun : Engine.run allOff hash ord fuel p edb = .ok A acc)
    (hpm : pmEval fuel' p edb = some M) :
    MemEq A (M.get (queryRel p)) :=
  C01_partial p edb hash ord fuel fuel' A acc M hfrag (clauseFaithful_of_simple p hsimple) hrun hpm

/-- `C01_partial` with every hypothesis decidable, for the larger fragment of *filter rules*: positive
    and negated atoms with variables, constants, wildcards, repeated variables, and comparison
    literals (all six operators, arithmetic on one side) over variables bound by positive atoms. -/
theorem C01_partial_filter (p : Program) (edb : DB) (hash : Tuple → Nat) (ord : String → List Tuple → List Tuple)
    (fuel fuel' : Nat) (A : List Tuple) (acc M : DB)
    (hfrag : inFragment p edb = true) (hfilter : p.all filterRule = true)
    (hrun : Engine.run allOff hash ord fuel p edb = .ok A acc)
    (hpm : pmEval fuel' p edb = some M) :
    MemEq A (M.get (queryRel p)) :=
  C01_partial p edb hash ord fuel fuel' A acc M hfrag (clauseFaithful_of_filter p hfilter) hrun hpm

/-- the former push-down and wildcard counterexamples are inside this fragment now. -/
def joinFilter : Program := [
  { hrel := "q", hargs := [.var "X", .var "Z"],
    body := [a2 "e" "X" "Y", a2 "f" "Y" "Z", .cmp .gt (.var "Z") (.const 1)] } ]
def joinFilterDb : DB := [("e", [[.i64 1, .i64 2]]), ("f", [[.i64 2, .i64 5], [.i64 2, .i64 0]])]
def wildPair : Program := [
  { hrel := "q", hargs := [.var "X", .var "Y"],
    body := [.pos ⟨"e", [.var "X", .wild]⟩, .pos ⟨"e", [.var "Y", .wild]⟩, .cmp .le (.var "X") (.bin .add (.var "Y") (.const 0))] } ]
def wildDb : DB := [("e", [[.i64 1, .i64 2], [.i64 3, .i64 1]])]

example : inFragment joinFilter joinFilterDb = true ∧ joinFilter.all filterRule = true ∧
    (Engine.run allOff noHash anyOrd 8 joinFilter joinFilterDb).toWire = "i64:1,i64:5" ∧
    inFragment wildPair wildDb = true ∧ wildPair.all filterRule = true ∧
    (Engine.run allOff noHash anyOrd 8 wildPair wildDb).toWire = "i64:1,i64:1;i64:1,i64:3;i64:3,i64:3" := by
  decide +kernel

/-- all hypotheses decidable: filter rules. -/
theorem C01_partial_rec_filter (p : Program) (edb : DB) (hash : Tuple → Nat) (ord : String → List Tuple → List Tuple)
    (fuel fuel' : Nat) (A : List Tuple) (acc M : DB)
    (hfrag : inFragmentRec p edb = true) (hfilter : p.all filterRule = true)
    (hrun : Engine.run allOff hash ord fuel p edb = .ok A acc)
    (hpm : pmEval fuel' p edb = some M) :
    MemEq A (M.get (queryRel p)) :=
  C01_partial_rec p edb hash ord fuel fuel' A acc M hfrag (clauseFaithful_of_filter p hfilter) hrun hpm

/-- transitive closure over a 3-cycle (9 tuples), a head negating it, a comparison: the hypotheses
    of `C01_partial_rec_filter` hold, the recursive head is executed as a fix-point. -/
def tcProg : Program := [
  { hrel := "t", hargs := [.var "X", .var "Z"], body := [a2 "t" "X" "Y", a2 "e" "Y" "Z"] },
  { hrel := "t", hargs := [.var "X", .var "Y"], body := [a2 "e" "X" "Y"] },
  { hrel := "u", hargs := [.var "X", .var "Y"], body := [a1 "n" "X", a1 "n" "Y", .neg ⟨"t", [.var "X", .var "Y"]⟩, .cmp .lt (.var "X") (.var "Y")] },
  { hrel := "q", hargs := [.var "X", .var "Y"], body := [a2 "u" "X" "Y"] } ]
def tcDb : DB := [("e", [[.i64 0, .i64 1], [.i64 1, .i64 2], [.i64 2, .i64 0]]), ("n", [[.i64 0], [.i64 1], [.i64 5]])]

example : inFragmentRec tcProg tcDb = true ∧ tcProg.all filterRule = true ∧ selfRec tcProg "t" = true ∧
    (Engine.run allOff noHash anyOrd 8 tcProg tcDb).toWire = "i64:0,i64:5;i64:1,i64:5" ∧
    (pmEval 8 tcProg tcDb).map (fun m => (relToWire (m.get "q"), (m.get "t").length)) = some ("i64:0,i64:5;i64:1,i64:5", 9) := by
  decide +kernel

/-- The Spec's executable clause meaning is sound for the declarative one: every tuple derived by
    `evalRuleLk` (aggregate-free rule without comparison literals) is the head instance of a
    valuation that maps every positive atom onto a stored tuple and no negated atom onto any. -/
theorem spec_clause_sound (lk : String → List Tuple) (r : Rule) (hagg : r.hasAgg = false) (hc : r.cmps = [])
    (ts : List Tuple) (h : evalRuleLk lk r = some ts) (t : Tuple) (ht : t ∈ ts) :
    ∃ env, BodySat lk r env ∧ HeadInst r env t :=
  evalRuleLk_sound lk r hagg hc ts h t ht

/-- … and complete: for a range-restricted rule every head instance of a valuation satisfying the
    body declaratively (`BodySat`) is derived by `evalRuleLk`. Together with `spec_clause_sound`:
    for aggregate-free rules without comparison literals, `t ∈ evalRuleLk lk r` ⇔ `t` is the head
    instance of a satisfying valuation. -/
theorem spec_clause_complete (lk : String → List Tuple) (r : Rule) (hagg : r.hasAgg = false) (hc : r.cmps = [])
    (hsafeH : ∀ x, x ∈ r.hargs.flatMap HTerm.vars → x ∈ r.posVars)
    (hsafeN : ∀ a, a ∈ r.negAtoms → ∀ x, Term.var x ∈ a.args → x ∈ r.posVars)
    (ts : List Tuple) (hev : evalRuleLk lk r = some ts)
    (env : Env) (hsat : BodySat lk r env) (t : Tuple) (hhead : HeadInst r env t) : t ∈ ts :=
  evalRuleLk_complete lk r hagg hc hsafeH hsafeN ts hev env hsat t hhead

/-- A three-head chain with a join, a negation over a derived head and a constant, written in an
    order in which the code's topological sort has to move heads (`b` is defined before `a`). -/
def chain3 : Program := [
  { hrel := "b", hargs := [.var "X", .var "Z"], body := [a2 "a" "X" "Y", a2 "e" "Y" "Z", .neg ⟨"c", [.var "Z"]⟩] },
  { hrel := "c", hargs := [.var "X"], body := [.pos ⟨"e", [.var "X", .const (.i64 0)]⟩] },
  { hrel := "a", hargs := [.var "X", .var "Y"], body := [a2 "e" "X" "Y"] },
  { hrel := "a", hargs := [.var "X", .var "X"], body := [a1 "n" "X"] },
  { hrel := "q", hargs := [.var "X", .var "Y"], body := [a2 "b" "X" "Y"] } ]
def chain3Db : DB := [("e", [[.i64 0, .i64 1], [.i64 1, .i64 2], [.i64 2, .i64 0]]), ("n", [[.i64 1]])]

/-- the hypotheses of `C01_partial_simple` are met by a non-trivial input: the order is changed
    by the topological sort, and the answer has two tuples. -/
example : inFragment chain3 chain3Db = true ∧ chain3.all simpleRule = true ∧
    execOrder chain3 = ["c", "a", "b", "q"] ∧
    (Engine.run allOff noHash anyOrd 8 chain3 chain3Db).toWire = "i64:1,i64:0;i64:2,i64:1" ∧
    (pmEval 8 chain3 chain3Db).map (fun m => relToWire (m.get (queryRel chain3))) = some "i64:1,i64:0;i64:2,i64:1" := by
  decide +kernel

end ILV.Props.C01
