/-
  C28 — Role permissions form a lattice and viewers are read-only.
  Model: ILV.Gen.C28 — the *complete* graphs of `authorize_statement` (src/auth.rs:347) and
  `authorize_kg_operation` (src/auth.rs:183), regenerated from /repo on every run (T-gen).
  Spec: ILV.Spec.Auth (`mutatesKg`, `mutatesSystem`, `adminOnly`, `permitted`).
  Every theorem quantifies over all statement kinds and roles. A clause that is a fact about the
  table is decided by evaluating it on every member of the regenerated enumeration `StmtKind.all`
  (complete by `kinds_complete`), whatever the rows are, so a changed table row re-opens it; the
  two-layer clauses follow from those.
-/
import ILV.Spec.Auth
namespace ILV.Props.C28
open ILV.Gen.C28 ILV.Spec.Auth

/-- the enumeration the harness printed really lists every constructor (no row can be missing) -/
theorem kinds_complete (k : StmtKind) : k ∈ StmtKind.all := by
  cases k <;> decide +kernel

instance (p : StmtKind → Prop) [DecidablePred p] : Decidable (∀ k, p k) :=
  decidable_of_iff (∀ k ∈ StmtKind.all, p k) ⟨fun h k => h k (kinds_complete k), fun h k _ => h k⟩

theorem kinds_nodup : StmtKind.all.Nodup := by decide +kernel

/-- kind names are distinct, so the driver's `ofName` inverts `name` -/
theorem ofName_name (k : StmtKind) : StmtKind.ofName k.name = some k := by
  revert k; decide +kernel

/-- The table is the whole function: the source-shape check of src/auth.rs passed (the gates bind
    no payload and have no guard besides the enumerated role test), and the sampled payloads agree. -/
theorem table_is_whole_function : sourceShapeOk = true ∧ payloadIndependent = true := by decide

/-- per-KG roles: viewer ≤ editor ≤ owner, for every statement kind -/
theorem C28_kg_lattice (k : StmtKind) :
    (kgOk .viewer k = true → kgOk .editor k = true) ∧ (kgOk .editor k = true → kgOk .owner k = true) := by
  revert k; decide +kernel

/-- global roles: viewer ≤ editor ≤ admin, for every statement kind -/
theorem C28_global_lattice (k : StmtKind) :
    (globalOk .viewer k = true → globalOk .editor k = true) ∧
    (globalOk .editor k = true → globalOk .admin k = true) := by
  revert k; decide +kernel

/-- owners and admins are top elements: they are refused nothing -/
theorem C28_top (k : StmtKind) : kgOk .owner k = true ∧ globalOk .admin k = true := by
  revert k; decide +kernel

/-- a KG viewer is never permitted a statement that changes persistent state of the KG -/
theorem C28_kg_viewer_readonly (k : StmtKind) (h : kgOk .viewer k = true) : mutatesKg k = false := by
  revert k; decide +kernel

/-- a global viewer is never permitted a statement that changes system-level state -/
theorem C28_global_viewer_readonly (k : StmtKind) (h : globalOk .viewer k = true) :
    mutatesSystem k = false := by
  revert k; decide +kernel

theorem adminOnly_editor_refused (k : StmtKind) (hk : adminOnly k = true) : ¬globalOk .editor k = true := by
  revert k; decide +kernel

/-- user management, API keys and compaction: only admins pass the global gate -/
theorem C28_admin_only (r : Role) (k : StmtKind) (hk : adminOnly k = true) (h : globalOk r k = true) :
    r = .admin := by
  cases r with
  | admin => rfl
  | editor => exact absurd h (adminOnly_editor_refused k hk)
  | viewer => exact absurd ((C28_global_lattice k).1 h) (adminOnly_editor_refused k hk)

theorem permitted_iff (r : Role) (kr : KgRole) (k : StmtKind) :
    permitted r kr k = true ↔ globalOk r k = true ∧ (r = .admin ∨ kgOk kr k = true) := by
  simp [permitted]

/-- the effective two-layer permission is monotone in both roles -/
theorem C28_permitted_monotone (k : StmtKind) :
    (∀ kr, permitted .viewer kr k = true → permitted .editor kr k = true) ∧
    (∀ kr, permitted .editor kr k = true → permitted .admin kr k = true) ∧
    (∀ r, permitted r .viewer k = true → permitted r .editor k = true) ∧
    (∀ r, permitted r .editor k = true → permitted r .owner k = true) := by
  simp only [permitted_iff]
  exact ⟨fun _ ⟨hg, hk⟩ => ⟨(C28_global_lattice k).1 hg, hk.imp (nomatch ·) id⟩,
    fun _ ⟨hg, _⟩ => ⟨(C28_global_lattice k).2 hg, .inl trivial⟩,
    fun _ ⟨hg, hk⟩ => ⟨hg, hk.imp_right (C28_kg_lattice k).1⟩,
    fun _ ⟨hg, hk⟩ => ⟨hg, hk.imp_right (C28_kg_lattice k).2⟩⟩

/-- whoever is only a viewer of the KG and not an admin can, through both layers, change nothing:
    neither the KG (`mutatesKg`) nor — if also a global viewer — the system. -/
theorem C28_viewer_effective_readonly (r : Role) (k : StmtKind) (hr : r ≠ .admin)
    (h : permitted r .viewer k = true) : mutatesKg k = false :=
  C28_kg_viewer_readonly k (((permitted_iff r .viewer k).1 h).2.resolve_left hr)

/-- **C28** — the property as one statement over all kinds and roles. -/
theorem C28 (k : StmtKind) :
    ((kgOk .viewer k = true → kgOk .editor k = true) ∧ (kgOk .editor k = true → kgOk .owner k = true)) ∧
    ((globalOk .viewer k = true → globalOk .editor k = true) ∧ (globalOk .editor k = true → globalOk .admin k = true)) ∧
    (kgOk .viewer k = true → mutatesKg k = false) ∧
    (globalOk .viewer k = true → mutatesSystem k = false) ∧
    (adminOnly k = true → ∀ r, globalOk r k = true → r = .admin) :=
  ⟨C28_kg_lattice k, C28_global_lattice k, C28_kg_viewer_readonly k, C28_global_viewer_readonly k,
   fun hk r h => C28_admin_only r k hk h⟩

/-- The Spec oracle the driver runs on the implementation's rows finds no violation on any table row
    (ties the executable oracle to the theorems above). -/
theorem rowViolation_none (k : StmtKind) :
    rowViolation k (globalOk .admin k) (globalOk .editor k) (globalOk .viewer k)
      (kgOk .owner k) (kgOk .editor k) (kgOk .viewer k) = none := by
  revert k; decide +kernel

-- non-vacuity: the hypotheses are met by concrete kinds, and the classes are inhabited both ways
example : kgOk .viewer .query = true ∧ mutatesKg .query = false := by decide +kernel
example : kgOk .viewer .insert = false ∧ mutatesKg .insert = true := by decide +kernel
example : kgOk .viewer .fact = false ∧ kgOk .viewer .sessionRule = true := by decide +kernel
example : kgOk .editor .insert = true ∧ kgOk .editor .kgDrop = false ∧ kgOk .owner .kgDrop = true := by decide +kernel
example : globalOk .editor .kgCreate = true ∧ globalOk .viewer .kgCreate = false := by decide +kernel
example : adminOnly .userCreate = true ∧ globalOk .admin .userCreate = true ∧ globalOk .editor .userCreate = false := by decide +kernel
example : permitted .viewer .owner .insert = true ∧ permitted .editor .viewer .insert = false := by decide +kernel
example : StmtKind.all.length = 60 := by decide +kernel

end ILV.Props.C28
