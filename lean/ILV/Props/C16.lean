/-
  C16 — rule and schema catalogs are durable and crash-safe.
  Model: ILV.Model.Catalog over ILV.Model.FS, after the `fix:` commit (catalog saves = temp file + fsync + rename +
  directory fsync; `drop_relation` saves the schema catalog).  Helper lemmas: ILV.Lemmas.Catalog.
  FS assumption (Model/FS.lean, strict model): `rename` is atomic and durable in program order — on a real POSIX
  file system it is durable once the parent directory is fsynced, which the repaired `save` does right after the
  rename; unsynced file data may be torn at any byte.
-/
import ILV.Lemmas.Catalog
namespace ILV.Props.C16
open ILV ILV.FS ILV.Cat

/-- a crash + reopen is acceptable iff the engine opens, each persistent catalog (rules, persistent schemas) is the
    one of before or of after the operation in flight (for a crash between operations both are the acknowledged
    catalogs), and no session schema survives. -/
def okOut : Out → Bool
  | .reboot old new (some m) =>
    (decide (m.rules = old.rules) || decide (m.rules = new.rules)) &&
    (decide (m.schemas = old.schemas) || decide (m.schemas = new.schemas)) && decide (m.session = [])
  | .reboot _ _ none => false
  | .ack _ _ => true

theorem rebootFrom_ok {old new : Mem} {d : Disk} {r : RuleCat} {s : SchemaCat} (hr : RulesOk d r) (hs : SchemasOk d s)
    (h1 : r = old.rules ∨ r = new.rules) (h2 : s = old.schemas ∨ s = new.schemas) (cuts : Path → Option Cut) :
    okOut (rebootFrom old new (crash d cuts)).1 = true ∧
      ∀ st', (rebootFrom old new (crash d cuts)).2 = some st' → Solid st' := by
  simp only [rebootFrom, recover_of_ok hr hs cuts, Option.map_some, Option.some.injEq]
  exact ⟨by simpa [okOut] using And.intro h1 h2, fun st' e => e ▸ ⟨hr.crash _, hs.crash _⟩⟩

theorem runItem_solid (st : St) (it : HItem) (hS : Solid st) :
    okOut (runItem st it).1 = true ∧ ∀ st', (runItem st it).2 = some st' → Solid st' := by
  cases it with
  | op o => exact ⟨rfl, fun st' e => Option.some.inj e ▸ complete_ok st.mem st.disk o hS⟩
  | restart cuts => exact rebootFrom_ok hS.rules hS.schemas (.inl rfl) (.inl rfl) _
  | opCrash o j cuts =>
    obtain ⟨r, s, hr1, hs1, hR, hSc⟩ := crashpoint_ok st.mem st.disk o j hS
    exact rebootFrom_ok hR hSc hr1 hs1 _

/-- **C16** (full statement). For every history of catalog operations, every crash point — between operations or
    after any file-system step inside one — and every way the unsynced data of every file (the temp files included)
    may be torn: the engine reopens, and each catalog is the old or the new one. -/
theorem C16 (h : List HItem) : (run {} h).all okOut = true := by
  have key : ∀ (h : List HItem) (st : St), Solid st → (run st h).all okOut = true := by
    intro h
    induction h with
    | nil => intro st _; rfl
    | cons it rest ih =>
      intro st hS
      obtain ⟨hok, hnext⟩ := runItem_solid st it hS
      simp only [run]
      cases hr : runItem st it with
      | mk o st? =>
        rw [hr] at hok hnext
        cases st? with
        | none => simp [hok]
        | some st' => simp [hok, ih st' (hnext st' rfl)]
  exact key h {} solid_init

/-- every reopen in every history succeeds ("a crash never makes the KG unopenable"). -/
theorem C16_always_reopens (h : List HItem) : ∀ o ∈ run {} h, ∀ old new got, o = .reboot old new got → got ≠ none := by
  intro o ho old new got he hn
  have := List.all_eq_true.1 (C16 h) o ho
  subst he; subst hn
  simp [okOut] at this

def plain : HItem → Bool
  | .op _ => true
  | .restart _ => true
  | _ => false

/-- **C16, durability of acknowledgements.** Operations (persistent *and* session-schema operations, in any order,
    with any shadowing) and crashes *between* operations (with arbitrary tearing of unsynced data) only: the engine
    always reopens, and after any such history memory is exactly the reference state `specRunH` — operations applied
    in order, every restart forgetting the session schemas and nothing else — and what a further restart reloads is
    that state's rules and persistent schemas (acknowledged registrations minus acknowledged removals), with no
    session schema. -/
theorem C16_acked_durable (h : List HItem) (hp : h.all plain = true) (cuts : List (Path × Cut)) :
    ∃ st, finalSt {} h = some st ∧ st.mem = specRunH {} h ∧
      recover (crash st.disk (cutsOf cuts)) =
        some { rules := (specRunH {} h).rules, schemas := (specRunH {} h).schemas, session := [] } := by
  have key : ∀ (h : List HItem) (st : St), Solid st → h.all plain = true →
      ∃ st', finalSt st h = some st' ∧ st'.mem = specRunH st.mem h ∧ Solid st' := by
    intro h
    induction h with
    | nil => intro st hS _; exact ⟨st, rfl, rfl, hS⟩
    | cons it rest ih =>
      intro st hS hp
      simp only [List.all_cons, Bool.and_eq_true] at hp
      cases it with
      | op o =>
        obtain ⟨_, hnext⟩ := runItem_solid st (.op o) hS
        have hst : (runItem st (.op o)).2 = some { mem := (step st.mem o).2.1, disk := applyAll st.disk (step st.mem o).2.2 } := rfl
        obtain ⟨st', h1, h2, h3⟩ := ih _ (hnext _ hst) hp.2
        exact ⟨st', by simp only [finalSt, hst]; exact h1, by simpa [specRunH] using h2, h3⟩
      | restart c =>
        obtain ⟨_, hnext⟩ := runItem_solid st (.restart c) hS
        have hrec := recover_of_ok hS.rules hS.schemas (cutsOf c)
        have hst : (runItem st (.restart c)).2 =
            some { mem := { rules := st.mem.rules, schemas := st.mem.schemas, session := [] }, disk := crash st.disk (cutsOf c) } := by
          simp [runItem, rebootFrom, hrec]
        obtain ⟨st', h1, h2, h3⟩ := ih _ (hnext _ hst) hp.2
        exact ⟨st', by simp only [finalSt, hst]; exact h1, by simpa [specRunH] using h2, h3⟩
      | opCrash o j c => simp [plain] at hp
  obtain ⟨st', h1, h2, h3⟩ := key h {} solid_init hp
  refine ⟨st', h1, h2, ?_⟩
  have := recover_of_ok h3.rules h3.schemas (cutsOf cuts)
  rw [this, ← h2]

def a : Name := [97]
def r : Name := [114]
def s : Name := [115]
def c0 : Clause := { id := 0, arity := 2, bad := false }
def c1 : Clause := { id := 1, arity := 2, bad := false }
def s0 : Schema := { id := 0, bad := false }
def s1 : Schema := { id := 1, bad := false }

/-- former witness 1 (crash inside the rule-catalog write, file torn mid-way): the tear now hits the temp file and
    the engine reopens with the old catalog; one step later (after the rename) with the new one. -/
example :
    run {} [.op (.reg a c0), .opCrash (.reg a c1) 2 [(.ruleTmp, ⟨0, .part⟩)]] =
      [.ack .ok [0, 2, 6, 8, 4], .reboot { rules := [(a, [c0])] } { rules := [(a, [c0, c1])] } (some { rules := [(a, [c0])] })] ∧
    run {} [.op (.reg a c0), .opCrash (.reg a c1) 4 [(.ruleTmp, ⟨0, .part⟩), (.ruleCat, ⟨0, .clean⟩)]] =
      [.ack .ok [0, 2, 6, 8, 4], .reboot { rules := [(a, [c0])] } { rules := [(a, [c0, c1])] } (some { rules := [(a, [c0, c1])] })] := by
  decide +kernel

/-- former witnesses 2-4: torn schema write, `drop_relation` + restart, torn catalog after the acknowledgement. -/
example :
    (run {} [.op (.sreg r s0), .opCrash (.sreg s s1) 2 [(.schemaTmp, ⟨0, .clean⟩)]]).all okOut = true ∧
    run {} [.op (.sreg r s0), .op (.dropRel r), .restart []] =
      [.ack .ok [1, 3, 7, 9, 5], .ack .ok [1, 3, 7, 9, 5], .reboot {} {} (some {})] ∧
    run {} [.op (.reg a c0), .restart [(.ruleCat, ⟨0, .nonl⟩)]] =
      [.ack .ok [0, 2, 6, 8, 4], .reboot { rules := [(a, [c0])] } { rules := [(a, [c0])] } (some { rules := [(a, [c0])] })] := by
  decide +kernel

/-- `drop_relation` on a name that is both a rule and a schema touches both catalogs; a crash between the two
    saves leaves the new schema catalog and the old rule catalog — each catalog old or new, as stated. -/
example :
    run {} [.op (.reg a c0), .op (.sreg a s0), .opCrash (.dropRel a) 6 []] =
      [.ack .ok [0, 2, 6, 8, 4], .ack .ok [1, 3, 7, 9, 5],
       .reboot { rules := [(a, [c0])], schemas := [(a, s0)] } {} (some { rules := [(a, [c0])] })] := by
  decide +kernel

/-- a crash-free history with restarts that exercises every kind of operation is admitted by `C16_acked_durable`. -/
example :
    let h : List HItem := [.op (.reg a c0), .op (.reg a c1), .restart [], .op (.sreg r s0), .op (.clear a),
      .op (.reg a { id := 3, arity := 1, bad := false }), .op (.srem r), .op (.sreg s s1), .op (.dropRel s)]
    h.all plain = true ∧
      specRunH {} h = { rules := [(a, [{ id := 3, arity := 1, bad := false }])], schemas := [] } := by
  decide +kernel

/-- session schemas and shadowing, in every order (persistent then session, session then persistent, remove then
    re-register).  `remove_schema` under a shadowing session schema removes the *session* entry only: the persistent
    schema is still registered in memory and is what the restart reloads; a second `remove_schema` removes it for
    good.  All of it is inside `C16_acked_durable`. -/
example :
    let h1 : List HItem := [.op (.supd r s0), .op (.ssupd r s1), .op (.srem r), .restart []]
    let h2 : List HItem := [.op (.ssupd r s1), .op (.supd r s0), .op (.srem r), .op (.srem r), .restart []]
    let h3 : List HItem := [.op (.supd r s0), .op (.ssupd r s1), .op (.srem r), .op (.srem r), .op (.ssupd r s1),
      .op (.sreg r s1), .restart []]
    h1.all plain = true ∧ h2.all plain = true ∧ h3.all plain = true ∧
    run {} h1 = [.ack .ok [1, 3, 7, 9, 5], .ack .ok [], .ack (.okBool true) [1, 3, 7, 9, 5],
      .reboot { schemas := [(r, s0)] } { schemas := [(r, s0)] } (some { schemas := [(r, s0)] })] ∧
    (run {} h2).getLast? = some (.reboot {} {} (some {})) ∧
    (run {} h3).getLast? = some (.reboot { schemas := [(r, s1)], session := [(r, s1)] } { schemas := [(r, s1)], session := [(r, s1)] }
      (some { schemas := [(r, s1)] })) := by
  decide +kernel

end ILV.Props.C16
