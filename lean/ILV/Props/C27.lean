/-
  C27 — Authorization holds for every (multi-statement) program.
  Model: ILV.Model.Handler.execProgram = the repaired `Handler::execute_program`: `authorize_program`
  applies the global gate, the `_internal` gate and the per-KG gate to every logical line — the same
  `parse_statement(line)` the executor uses, with the running KG followed through `.kg use/create/drop` —
  before anything runs. Spec: ILV.Spec.Access.allowed (C28 tables + ACL rows of the state before the call).
-/
import ILV.Lemmas.C27
namespace ILV.Props.C27
open ILV ILV.Text ILV.Handler ILV.Gen.C28 ILV.Spec.Access

/-- **C27.** Whatever the program text (any number of statements, comments, continuation lines, graph
    switches), the identity, the ACLs, the session binding and the KG argument: every statement a request
    of identity `(u, r)` runs is permitted to `(u, r)` on the KG it acts on at the moment it runs. -/
theorem C27 (P : Parser) (w : World) (rq : Req) (u : String) (r : Role)
    (hid : identityOf w rq.user = some (some (u, r))) :
    ∀ e ∈ (execProgram P w rq).trace, allowed w u r e = true := by
  intro e he
  rcases exec_gated P w rq e he with ⟨role, hrole, hg⟩
  rw [hid] at hrole
  cases hrole
  exact gates_allowed w u r e.stmt e.kg hg

/-- the executed statement is a statement of the program, gated with the running KG: the gates of the
    pre-pass and the executor agree on statement and KG (`exec_gated`, by induction over the lines) -/
theorem C27_gates_agree (P : Parser) (w : World) (rq : Req) :
    ∀ e ∈ (execProgram P w rq).trace, ∃ role, identityOf w rq.user = some role ∧
      gates w role (some e.stmt) (some e.kg) = none :=
  exec_gated P w rq

/-! the former counterexamples (now corpus files) are refused without effect -/
def witP : Parser := fun k =>
  if k = "+m1(7)" then some ⟨.insert, .insert "m1" [[.i64 7]]⟩
  else if k = "?m1(X)" then some ⟨.query, .query "m1" 1⟩
  else if k = ".kg use kga" then some ⟨.kgUse, .name "kga"⟩ else none
def witW : World :=
  ⟨[⟨"_internal", [("users", [[strVal "vi", strVal "h", strVal "viewer"]]),
                   ("kg_acls", [[strVal "default", strVal "vi", strVal "viewer"], [strVal "kga", strVal "vi", strVal "editor"]])], [], []⟩,
    ⟨"default", [("m1", [[.i64 0]])], [], []⟩, ⟨"kga", [("m1", [[.i64 0]])], [], []⟩, ⟨"kgb", [("m1", [[.i64 0]])], [], []⟩],
   [⟨"vi", "kgb", [], [], false⟩]⟩
example : (execProgram witP witW ⟨some "vi", false, some "default", "+m1(7)\n?m1(X)".toList⟩).res = .err "denied-kgviewer" ∧
    (execProgram witP witW ⟨some "vi", false, some "default", "+m1(7)\n?m1(X)".toList⟩).w = witW := by decide +kernel
example : (execProgram witP witW ⟨some "vi", false, some "default", "?m1(X) // hi\n+m1(7)".toList⟩).res = .err "denied-kgviewer" := by decide +kernel
example : (execProgram witP witW ⟨some "vi", true, some "default", "?m1(X)".toList⟩).res = .err "denied-noacl" := by decide +kernel   -- session on kgb: gated there
example : (execProgram witP witW ⟨some "vi", false, none, "+m1(7)".toList⟩).res = .err "denied-kgviewer" := by decide +kernel       -- gated on the default KG
-- the theorem is not vacuous: a permitted multi-statement program with a graph switch runs, in order
example : identityOf witW (some "vi") = some (some ("vi", .viewer)) ∧
    (execProgram witP witW ⟨some "vi", false, some "default", "?m1(X)\n.kg use kga\n+m1(7)".toList⟩).trace =
      [⟨⟨.query, .query "m1" 1⟩, "default"⟩, ⟨⟨.kgUse, .name "kga"⟩, "default"⟩, ⟨⟨.insert, .insert "m1" [[.i64 7]]⟩, "kga"⟩] ∧
    (findKg (execProgram witP witW ⟨some "vi", false, some "default", "?m1(X)\n.kg use kga\n+m1(7)".toList⟩).w "kga").map (relOf · "m1")
      = some [[.i64 0], [.i64 7]] := by decide +kernel

end ILV.Props.C27
