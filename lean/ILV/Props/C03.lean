/-
  C03 — Worker count never changes answers.

  Model: `Engine.run` with `cfg.workers = n` (ILV.Model.Engine — `execute_with_config`,
  code_generator:1261): a non-recursive head whose tree has no join / antijoin / aggregate
  (`parSafe`, = `contains_join` after fixes/C03-aggregate_under_partitioning.diff) is evaluated once
  per hash partition of *all* its inputs and the results are merged; every other head — in
  particular every self-recursive head (lib.rs:1667 dispatches those to `execute_recursive`
  before looking at `num_workers`) — runs on one worker. The partitioner `hash` is a parameter:
  the theorem is for all `hash` (the driver instantiates it with SipHash-1-3, the real
  `DefaultHasher`). The merged `HashSet` has no order; the model lists it in the order of the
  whole-relation evaluation.
-/
import ILV.Lemmas.Workers
import ILV.Drv.C03
namespace ILV.Props.C03
open ILV ILV.DL ILV.Engine

/-- full statement: whenever the one-worker run answers, the run with any worker count `n ≥ 1` and
    any partitioner gives the same outcome (answer and every accumulated relation). -/
def C03_statement : Prop :=
  ∀ (p : Program) (edb : DB) (n : Nat) (hash hash' : Tuple → Nat) (ord : String → List Tuple → List Tuple)
    (fuel : Nat) (A : List Tuple) (acc : DB),
    0 < n →
    Engine.run (cfgW 1) hash' ord fuel p edb = .ok A acc →
    Engine.run (cfgW n) hash ord fuel p edb = .ok A acc

/-- **C03, for all programs** — recursion, negation, aggregates, joins included. Heads that are
    partitioned distribute over every partition (`evalRulesM_dist`: Scan / Filter / Compute / Map /
    Distinct / Union); all other heads take the very same single-worker path. -/
theorem C03 : C03_statement :=
  fun p edb n hash hash' ord fuel A acc hn h1 => run_workers p edb n hn hash hash' ord fuel A acc h1

/-- every tuple of every relation lies in exactly one partition (any partitioner, any n > 0). -/
theorem C03_part_cover (hash : Tuple → Nat) (n : Nat) (hn : 0 < n) (lk : String → List Tuple) (r : String) (t : Tuple) :
    t ∈ lk r ↔ ∃ w, w ∈ List.range n ∧ t ∈ partLk hash n w lk r :=
  part_cover hash n hn lk r t

/-- the former counterexample (`c(count<X>) <- r(X)`, two facts in different partitions) now
    counts 2 with two workers: the aggregate head is no longer partitioned. -/
def countProg : Program := [
  { hrel := "c", hargs := [.agg .count "X"], body := [.pos ⟨"r", [.var "X"]⟩] } ]
def twoFacts : DB := [("r", [[.i64 0], [.i64 1]])]
def parity : Tuple → Nat
  | [.i64 n] => n.toNat
  | _ => 0

example : Engine.run (cfgW 2) parity (fun _ ts => ts) 4 countProg twoFacts = .ok [[.i64 2]] [("c", [[.i64 2]])] := by decide +kernel

/-- a union of two projections over 5 facts, 3 workers: both heads are partitioned, 2-tuple
    answer; the hypothesis of `C03` (the one-worker run answers) holds. -/
def projProg : Program := [
  { hrel := "a", hargs := [.var "Y"], body := [.pos ⟨"e", [.var "X", .var "Y"]⟩] },
  { hrel := "a", hargs := [.var "X"], body := [.pos ⟨"e", [.var "X", .var "X"]⟩] },
  { hrel := "q", hargs := [.var "X"], body := [.pos ⟨"a", [.var "X"]⟩] } ]
def projDb : DB := [("e", [[.i64 1, .i64 2], [.i64 3, .i64 2], [.i64 4, .i64 4], [.i64 5, .i64 2], [.i64 0, .i64 4]])]

example : (heads projProg).all (fun h => parSafe (clausesOf projProg h)) = true ∧
    (Engine.run (cfgW 1) Drv.C03.parity3 (fun _ ts => ts) 4 projProg projDb).toWire = "i64:2;i64:4" ∧
    (Engine.run (cfgW 3) Drv.C03.parity3 (fun _ ts => ts) 4 projProg projDb).toWire = "i64:2;i64:4" := by
  decide +kernel

end ILV.Props.C03
