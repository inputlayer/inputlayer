/-
  C19 — Incremental arrangements mirror the base relations.
  Model: ILV.Model.EStep with the incremental engine on (`Inc`): shadow writes carry the logical time
  taken in step 1 of the write, consistent reads advance every input session past `max_write_time`.
-/
import ILV.Lemmas.EInc
namespace ILV.Props.C19
open ILV ILV.EStep

/-- a consistent read of `r` in state `st` succeeds and returns exactly the live facts of `r` -/
def ReadMirrors (st : State) (r : Rel) : Prop :=
  ∃ i, st.inc = some i ∧ ∃ l, (i.readc r).2 = .rows l ∧ ∀ k, k ∈ l ↔ k ∈ st.live r

/-- full statement: after any schedule of any programs of any number of threads, a consistent read
    of any relation mirrors the live relation. -/
def C19_concurrent_statement : Prop :=
  ∀ (progs : List (List Op)) (sched : List Tid) (r : Rel), ReadMirrors (lastState (init progs true) sched) r

/-! Refuted: writer 0 takes logical time 1 and persists; writer 1 takes time 2, persists and applies;
    a reader advances the input sessions to 3; writer 0 applies at time 1 < 3 — `update_at`'s
    assertion kills the worker: writer 0's insert returns an error (although it is persisted and in
    the live Vec, unpublished) and every later read fails. The KG write lock serialises the
    *applications*, not the *time assignment*. -/
def witnessProgs : List (List Op) := [[.insert 0 [1]], [.insert 0 [2]], [.readc 0]]
def witnessSched : List Tid := [0, 0, 1, 1, 1, 2, 0]

theorem C19_concurrent_refuted : ¬ C19_concurrent_statement := by
  intro h
  obtain ⟨i, hi, l, hl, _⟩ := h witnessProgs witnessSched 0
  have hdead : (lastState (init witnessProgs true) witnessSched).inc.map (·.dead) = some true := by decide +kernel
  rw [hi] at hdead
  simp [Inc.readc, Option.some.inj hdead] at hl

/-- what the three calls returned in the witness run -/
example : ((lastState (init witnessProgs true) witnessSched).threads 0).done.map (·.2.1) = [.err] := by decide +kernel
example : ((lastState (init witnessProgs true) witnessSched).threads 2).done.map (·.2.1) = [.rows [2]] := by decide +kernel
example : (lastState (init witnessProgs true) witnessSched).live 0 = [2, 1] := by decide +kernel
example : (lastState (init witnessProgs true) witnessSched).snap 0 = [2] := by decide +kernel

/-- Partial: for every single-threaded history (any program of inserts with duplicates inside a batch,
    re-inserts, deletes of present and absent tuples, snapshot queries and consistent reads, any
    schedule of that one thread) the worker stays alive and a consistent read of any relation returns
    exactly the live relation. Since any prefix of a program is a program, this covers a read at every
    moment of every sequential history. Proof: invariant `InvS` — per (relation, tuple) the diffs sent to
    the arrangement sum to 1 if the tuple is live and 0 otherwise; logical times strictly increase, so every
    shadow write is at or above every input-session time. -/
theorem C19_sequential (p : List Op) (sched : List Tid) (r : Rel) :
    ReadMirrors (lastState (init [p] true) sched) r := by
  obtain ⟨i, hi⟩ := lastState_invS sched _ _ (invS_init p)
  obtain ⟨l, hl, hm⟩ := invS_read hi r
  exact ⟨i, hi.hinc, l, hl, hm⟩

/-- a non-trivial sequential history: duplicate inside a batch, re-insert, absent delete, read in between -/
def seqProg : List Op := [.insert 0 [1, 1, 2], .readc 0, .delete 0 [2, 7], .insert 0 [2], .insert 1 [5], .delete 0 [1]]
example : (lastState (init [seqProg] true) (List.replicate 20 0)).live 0 = [2] := by decide +kernel
example : ((lastState (init [seqProg] true) (List.replicate 20 0)).inc.map (fun i => (i.readc 0).2)) = some (.rows [2]) := by decide +kernel

end ILV.Props.C19
