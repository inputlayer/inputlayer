/-
  C34 — Programs with recursion through negation are never evaluated.

  Model: ILV.Model.Strat (decision of `validate_rules_stratification` / `stratify_with_negation` as
  mutual reachability over the all-edges dependency graph; `validate_rule`; the catalog operations;
  the handler's request kinds and the engine's safety-only gate).
  Spec:  ILV.Spec.Strat (`Reach`, `NegCycle`, `IsStratification`).
  Only property theorems here; the Warshall-closure and catalog lemmas are in ILV.Lemmas.Strat*.
-/
import ILV.Lemmas.StratCatalog
namespace ILV.Props.C34
open ILV.Strat

/-- The code's decision (a negative edge with both ends in one SCC) holds exactly when some negative
    edge lies on a cycle. -/
theorem check_iff_neg_cycle (g : Graph) : rejects g = true ↔ NegCycle g := rejects_iff

example : rejects [⟨2, 3, true⟩, ⟨3, 4, false⟩, ⟨4, 2, false⟩] = true := by decide +kernel
example : rejects [⟨2, 3, true⟩, ⟨3, 4, false⟩, ⟨4, 3, false⟩] = false := by decide +kernel

/-- Bridge between the SCC formulation and paths: two nodes are put in one component iff each
    reaches the other. -/
theorem scc_eq_mutual_reach (g : Graph) (a b : Nat) :
    sameScc (tc g) a b = true ↔ (Reach g a b ∧ Reach g b a) := sameScc_iff

example : sameScc (tc [⟨2, 3, true⟩, ⟨3, 2, false⟩, ⟨3, 4, false⟩]) 2 3 = true
    ∧ sameScc (tc [⟨2, 3, true⟩, ⟨3, 2, false⟩, ⟨3, 4, false⟩]) 2 4 = false := by decide +kernel

/-- On rule sets: `validate_rules_stratification` rejects iff the rules recurse through negation. -/
theorem validate_iff_neg_cycle (rs : List Rule) : stratRejects rs = true ↔ NegCycle (graphOf rs) := rejects_iff

/-- Accepted rule sets really are the ones no stratification excludes: if a rank function with
    `pos ⇒ ≤`, `neg ⇒ <` exists, the check accepts. -/
theorem stratified_accepted (g : Graph) (rank : Nat → Nat) (h : IsStratification g rank) : rejects g = false := by
  have mono : ∀ a b, Reach g a b → rank b ≤ rank a := by
    intro a b hr
    induction hr with
    | refl _ => exact Nat.le_refl _
    | step e _ he _ ih => exact Nat.le_trans ih (h e he).1
  refine rejects_eq_false_iff.2 fun ⟨e, he, hn, hreach⟩ => ?_
  have h1 := (h e he).2 hn
  have h2 := mono _ _ hreach
  omega

/-- "No negative edge on a cycle" is exactly the textbook notion: a stratification (rank function with
    pos ⇒ ≤, neg ⇒ <) exists.  (⇐ is `stratified_accepted`; ⇒ ranks a relation by the number of relations
    it transitively depends on.) -/
theorem no_neg_cycle_iff_stratifiable (g : Graph) : ¬ NegCycle g ↔ ∃ rank, IsStratification g rank := by
  constructor
  · intro h; exact ⟨rankOf g, rankOf_stratifies g h⟩
  · rintro ⟨rank, hr⟩
    exact rejects_eq_false_iff.1 (stratified_accepted g rank hr)

/-- the code rejects exactly the rule sets that have no stratification. -/
theorem check_iff_not_stratifiable (g : Graph) : rejects g = true ↔ ¬ ∃ rank, IsStratification g rank := by
  rw [← no_neg_cycle_iff_stratifiable, Classical.not_not]
  exact rejects_iff

example : IsStratification [⟨3, 2, true⟩, ⟨2, 2, false⟩] (fun n => if n = 3 then 1 else 0) := by
  intro e he
  simp only [List.mem_cons, List.not_mem_nil, or_false] at he
  rcases he with rfl | rfl <;> simp

/-- Invariant: over every history — registrations through the protocol or the storage-engine API,
    clause replacement, drops, prefix drops, clears, clause removals, session traffic, queries, restarts —
    the stored rule set never recurses through negation. -/
theorem C34_persistent (ops : List Op) :
    ¬ NegCycle (graphOf (catRules (runSt {} ops).cat)) := by
  have hc : CatOK (runSt {} ops).cat := runSt_preserves (by unfold CatOK; decide)
  exact rejects_eq_false_iff.1 hc

def exA : Rule := ⟨⟨2, [.var 0]⟩, [.pos ⟨0, [.var 0]⟩, .neg ⟨3, [.var 0]⟩]⟩
def exB : Rule := ⟨⟨3, [.var 0]⟩, [.pos ⟨0, [.var 0]⟩, .neg ⟨2, [.var 0]⟩]⟩
def exC : Rule := ⟨⟨3, [.var 0]⟩, [.pos ⟨0, [.var 0]⟩]⟩

/-- a non-trivial history: the closing rule is rejected however it arrives (registration or clause
    replacement); a drop makes room for it -/
example : (run {} [.persist exA, .persist exB, .persist exC, .replace 3 0 exB, .drop 2, .replace 3 0 exB, .persist exA]).2
    = [.ok, .err .unstrat, .ok, .err .unstrat, .ok, .ok, .err .unstrat] := by decide +kernel

/-- No false rejections: a clause that passes `validate_rule`, whose arity matches the stored clauses
    of its head, and that closes no negative cycle with the stored rules is registered. -/
theorem safe_stratified_accepted (c : Catalog) (r : Rule)
    (hv : validateRule r = none)
    (hs : ¬ NegCycle (graphOf (catRules c ++ [r])))
    (ha : ∀ rs f, catGet c r.head.pred = some rs → rs.head? = some f → f.head.args.length = r.head.args.length) :
    (register c r).2 = .ok := by
  have hs' : stratRejects (catRules c ++ [r]) = false := rejects_eq_false_iff.2 hs
  unfold register
  simp only [hv, hs', Bool.false_eq_true, if_false]
  split
  · rename_i rs hget
    split
    · rename_i f hf
      have := ha rs f hget hf
      simp [this]
    · rfl
  · rfl

example : validateRule exB = none ∧ ¬ NegCycle (graphOf (catRules [(3, [exC])] ++ [exB])) := by
  refine ⟨by decide +kernel, fun h => ?_⟩
  have := rejects_iff.mpr h
  revert this
  decide +kernel

/-- The decision taken for a query over the rules in force (persistent ∪ session ∪ request-local):
    rejected as unstratified ⇔ a negative edge lies on a cycle of the union; evaluated ⇔ no such edge and
    every rule safe. -/
theorem query_rejected_iff_neg_cycle (rs : List Rule) :
    runQuery rs = .err .unstrat ↔ NegCycle (graphOf rs) := by
  unfold runQuery
  constructor
  · intro h
    cases hr : stratRejects rs with
    | true => exact rejects_iff.mp hr
    | false =>
      simp only [hr, Bool.false_eq_true, if_false] at h
      split at h <;> cases h
  · intro h
    have : stratRejects rs = true := rejects_iff.mpr h
    simp [this]

theorem query_evaluated_iff (rs : List Rule) :
    runQuery rs = .eval ↔ (¬ NegCycle (graphOf rs) ∧ engineAccepts rs = true) := by
  unfold runQuery
  cases hr : stratRejects rs with
  | true =>
    have hn : NegCycle (graphOf rs) := rejects_iff.mp hr
    simp [hn]
  | false =>
    have hn : ¬ NegCycle (graphOf rs) := rejects_eq_false_iff.1 hr
    cases he : engineAccepts rs <;> simp [hn]

/-- The engine's own gate is still safety only (`recursion::stratify` falls back to `basic_stratify`); the
    property rests on the handler's check above, not on the engine. -/
theorem engine_gate_is_safety_only :
    ∃ rs : List Rule, engineAccepts rs = true ∧ NegCycle (graphOf rs) :=
  ⟨[exA, exB], by decide +kernel, rejects_iff.mp (by decide +kernel)⟩

/-- **C34.** In every history of requests — persistent registration by either path, clause replacement,
    drops, clears, removals, session rules, session clears, restarts, queries with or without session and
    with request-local rules — whatever query is evaluated, the rules in force for it (persistent ∪
    session ∪ request-local) do not recurse through negation. -/
theorem C34 (pre : List Op) (op : Op) : badEval (runSt {} pre) op = false := by
  -- whatever the rules, a query over them is not both evaluated and rejected by the check
  have key : ∀ rs, (runQuery rs == Out.eval && stratRejects rs) = false := fun rs => by
    cases h : stratRejects rs with
    | false => exact Bool.and_false _
    | true => rw [runQuery, h]; rfl
  cases op <;> simp only [badEval, inForce]
  case querySess n => simp only [step]; exact key _
  case queryPlain n => simp only [step]; exact key _
  case queryLocal n rs =>
    simp only [step]
    cases hacc : acceptLocals [] rs with
    | error e => rfl
    | ok acc =>
      rw [show acc = rs by simpa using acceptLocals_ok rs [] acc hacc]
      dsimp only
      exact key _

/-- the old counterexamples, now rejected: persistent + session rule, request-local pair, replaced clause -/
example : (step (runSt {} [.persist exA, .sessRule exB]) (.querySess 2)).2 = .err .unstrat
    ∧ (step (runSt {} []) (.queryLocal 2 [exA, exB])).2 = .err .unstrat
    ∧ (run {} [.persist exA, .persist exC, .replace 3 0 exB]).2 = [.ok, .ok, .err .unstrat]
    ∧ (step (runSt {} [.persist exA, .sessRule exB, .sessClear]) (.querySess 2)).2 = .eval := by decide +kernel

end ILV.Props.C34
