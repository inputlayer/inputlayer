/-
  C14 — maintenance operations are invisible.
  Model: ILV.Model.Store (buffer-full flush, WAL-size `flush_all`, `save_all`, `save_knowledge_graph`,
  `compact_all`, `compact_if_needed`, three durability modes, clean shutdown = `save_all` + reopen).
  Lemmas: ILV.Lemmas.StoreInv (`flush_spec`, `compactShard_spec`, `saveAll_spec`, …), ILV.Lemmas.Maintenance.
-/
import ILV.Lemmas.Maintenance
import ILV.Lemmas.RealCodec
namespace ILV.Props.C14
open ILV ILV.Batch ILV.Store ILV.Props.C31

/-- the history consists of writes, maintenance steps and observations (restarts are added at the end). -/
def NoRestart (h : List Op) : Prop := ∀ o ∈ h, isRestart o = false
/-- every tuple named by a request is admissible (codec is the identity on it, C12). -/
def AllGood (G : String → Tuple → Prop) (h : List Op) : Prop := ∀ o ∈ h, opGood G o

/-- **one maintenance step changes neither what is served nor what a restart would recover**: live
    relations and arities are literally equal, and the update log keeps every per-tuple sum — for flush
    by `save`, `savekg`, `compact`, `compactif n`, any configuration. -/
theorem C14_step (c : Codec) (G : String → Tuple → Prop) (hc : CodecOk c G) (e : Engine) (o : Op) (hP : PInv G e)
    (hw : isWrite o = false) (hr : isRestart o = false) :
    (step c e o).live = e.live ∧ (step c e o).arity = e.arity ∧
    ∀ r t, sumOf t (logOf (step c e o) r) = sumOf t (logOf e r) := by
  obtain ⟨_, m⟩ := step_maint hc e o hP hw hr
  exact ⟨m.live, m.arity, m.sums⟩

/-- **C14.** Two histories with the same writes — maintenance steps (flush by save, compaction, and
    the implicit buffer-full and WAL-size flushes) inserted anywhere, under *any* two configurations
    (buffer size, WAL limit, durability mode) — serve the same relations while running (equal vectors)
    and, after a clean shutdown, reopen successfully with the same contents. For every codec that is the
    identity on the admissible tuples (C12), relative to C31 through `mem_recover_iff`. -/
theorem C14 (c : Codec) (G : String → Tuple → Prop) (hc : CodecOk c G) (hwf : ∀ r t, G r t → TupleWF t)
    (cfg1 cfg2 : Cfg) (h1 h2 : List Op) (hw : writesOf h1 = writesOf h2)
    (hr1 : NoRestart h1) (hr2 : NoRestart h2) (hg1 : AllGood G h1) (hg2 : AllGood G h2) (r : String) :
    liveOf (run c cfg1 h1) r = liveOf (run c cfg2 h2) r ∧
    (restart c (saveAll c (run c cfg1 h1)).1).2 = none ∧ (restart c (saveAll c (run c cfg2 h2)).1).2 = none ∧
    ∀ t, t ∈ liveOf (restart c (saveAll c (run c cfg1 h1)).1).1 r ↔ t ∈ liveOf (restart c (saveAll c (run c cfg2 h2)).1).1 r := by
  have i0 : ∀ cfg : Cfg, PInv G ({ cfg := cfg } : Engine) := fun cfg => (Inv_init G cfg).p
  have a0 : AbsEq ({ cfg := cfg1 } : Engine) { cfg := cfg1 } := AbsEq.refl _
  obtain ⟨p1, q1, e1, _⟩ := run_vs_writes hc h1 { cfg := cfg1 } { cfg := cfg1 } (i0 cfg1) (i0 cfg1) a0 hr1 hg1
  have a12 : AbsEq ({ cfg := cfg2 } : Engine) { cfg := cfg1 } := ⟨rfl, rfl, fun _ _ => rfl⟩
  obtain ⟨p2, q2, e2, _⟩ := run_vs_writes hc h2 { cfg := cfg2 } { cfg := cfg1 } (i0 cfg2) (i0 cfg1) a12 hr2 hg2
  rw [← hw] at e2
  have ab : AbsEq (run c cfg1 h1) (run c cfg2 h2) := e1.trans e2.symm
  have p1' : PInv G (run c cfg1 h1) := p1
  have p2' : PInv G (run c cfg2 h2) := p2
  refine ⟨by simp [liveOf, ab.live], (shutdown_live hc hwf (run c cfg1 h1) p1' r []).1,
    (shutdown_live hc hwf (run c cfg2 h2) p2' r []).1, ?_⟩
  intro t
  rw [(shutdown_live hc hwf (run c cfg1 h1) p1' r t).2, (shutdown_live hc hwf (run c cfg2 h2) p2' r t).2, ab.sums]

/-- **C14 for the code's own codec**: relations with homogeneous safe-kind columns `ks` (C12). -/
theorem C14_real (ks : String → List DType) (cfg1 cfg2 : Cfg) (h1 h2 : List Op) (hw : writesOf h1 = writesOf h2)
    (hr1 : NoRestart h1) (hr2 : NoRestart h2) (hg1 : AllGood (Admissible ks) h1) (hg2 : AllGood (Admissible ks) h2) (r : String) :
    liveOf (run realCodec cfg1 h1) r = liveOf (run realCodec cfg2 h2) r ∧
    (restart realCodec (saveAll realCodec (run realCodec cfg1 h1)).1).2 = none ∧
    (restart realCodec (saveAll realCodec (run realCodec cfg2 h2)).1).2 = none ∧
    ∀ t, t ∈ liveOf (restart realCodec (saveAll realCodec (run realCodec cfg1 h1)).1).1 r ↔
         t ∈ liveOf (restart realCodec (saveAll realCodec (run realCodec cfg2 h2)).1).1 r :=
  C14 realCodec (Admissible ks) (realCodec_ok ks) (Admissible_wf ks) cfg1 cfg2 h1 h2 hw hr1 hr2 hg1 hg2 r

instance (h : List Op) : Decidable (NoRestart h) := by unfold NoRestart; infer_instance
instance (ks : String → List DType) (o : Op) : Decidable (opGood (Admissible ks) o) := by cases o <;> simp only [opGood] <;> infer_instance
instance (ks : String → List DType) (h : List Op) : Decidable (AllGood (Admissible ks) h) := by unfold AllGood; infer_instance

def ks2 : String → List DType := fun _ => [.i64, .i64]

def t12 : Tuple := [.i64 1, .i64 2]
def t13 : Tuple := [.i64 1, .i64 3]
def hA : List Op := [.ins "r" [t12, t13], .save, .ins "r" [t12], .del "r" [t13], .compact, .del "r" [t13], .compactIf 1, .ins "s" [t12]]
def hB : List Op := [.ins "r" [t12, t13], .ins "r" [t12], .del "r" [t13], .del "r" [t13], .ins "s" [t12]]

/-- the hypotheses are met by a non-trivial pair (duplicate insert, absent delete, flushes at buffer
    size 1 with a 1-byte WAL limit in batched mode versus the plain history in async mode). -/
example : writesOf hA = writesOf hB ∧ NoRestart hA ∧ NoRestart hB := by decide +kernel
example : AllGood (Admissible ks2) hA ∧ AllGood (Admissible ks2) hB := by decide +kernel
/-- and the conclusion is visible on the executable model. -/
example : liveOf (run realCodec { buffer := 1, walMax := 1, mode := .batched } hA) "r" = [t12] ∧
    liveOf (run realCodec { mode := .async } hB) "r" = [t12] := by decide +kernel

end ILV.Props.C14
