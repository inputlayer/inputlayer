/-
  C13 — acknowledged writes survive any crash and recovery always succeeds (Immediate durability).
  Model: ILV.Model.Persist over ILV.Model.FS; Spec: ILV.Spec.C13.  Helper lemmas: ILV.Lemmas.FS and
  ILV.Lemmas.Persist, PersistFS, PersistSpec, PersistImg, PersistRun, PersistRecover.
-/
import ILV.Lemmas.PersistRecover
namespace ILV.Props.C13
open ILV ILV.FS ILV.Persist ILV.Spec.C13

/-- **C13 at full strength**: for every buffer size, every history, every crash point (inside an operation or
    inside a recovery) and every way unsynced data may be torn, every reopen succeeds and serves the acknowledged
    state or that plus the operation in flight. -/
def C13_statement : Prop :=
  ∀ (b : Nat) (h : List HItem), specJudge [] none (h ++ [.restart]) (run b h) = true

def r : Name := [107, 58, 114]    -- shard `k:r`

/-- (1) `flush` renames the shard metadata into place before it rewrites the WAL.  A crash in between leaves the
    flushed updates in a batch *and* in the WAL; recovery writes them into a second batch.  The doubled `+1` of
    tuple 0 outlives the acknowledged delete: after the next restart tuple 0 is back. -/
def witnessDouble : List HItem := [.op (.ins r [0]), .opCrash (.ins r [1]) 8 none, .op (.del r [0])]

theorem witnessDouble_resurrects :
    (run 2 witnessDouble).getLast? = some (.opened [(r, [0, 1])] [.persistNewMkdir, .walNewMkdir, .batchTmpwrite, .batchFsync,
      .batchRename, .metaTmpwrite, .metaFsync, .metaRename, .walRewriteUnlink]) ∧
    specJudge [] none (witnessDouble ++ [.restart]) (run 2 witnessDouble) = false := by decide +kernel

/-- (2) a three-tuple insert is three WAL lines in one unsynced write: torn after the first line plus a fragment, the
    reopened engine serves exactly one of the three tuples. -/
def witnessTorn : List HItem := [.opCrash (.ins r [0, 1, 2]) 5 (some ⟨1, .part⟩)]

theorem witnessTorn_partial_operation :
    (run 100 witnessTorn).take 2 = [.crashed [], .opened [(r, [0])] [.persistNewMkdir, .walNewMkdir, .batchTmpwrite,
      .batchFsync, .batchRename, .metaTmpwrite, .metaFsync, .metaRename, .walRewriteUnlink]] ∧
    specJudge [] none (witnessTorn ++ [.restart]) (run 100 witnessTorn) = false := by decide +kernel

/-- (3) the same write torn inside a multi-byte character: `read_all` fails, the engine does not open. -/
def witnessMidchar : List HItem := [.opCrash (.ins r [1]) 5 (some ⟨0, .midchar⟩)]

theorem witnessMidchar_unopenable : run 100 witnessMidchar = [.crashed [], .openFailed] := by decide +kernel

/-- (4) a WAL that holds only a torn line is kept by recovery; the next acknowledged insert is glued onto that line
    and is lost at the following restart. -/
def witnessTail : List HItem := [.opCrash (.ins r [0]) 5 (some ⟨0, .part⟩), .op (.ins r [2])]

theorem witnessTail_loses_acked_write :
    run 100 witnessTail = [.crashed [], .opened [] [.persistNewMkdir, .walNewMkdir], .ack true [.walOpen, .walAppendWrite, .walAppendFsync] [],
      .crashed [], .opened [] [.persistNewMkdir, .walNewMkdir]] ∧
    specJudge [] none (witnessTail ++ [.restart]) (run 100 witnessTail) = false := by decide +kernel

/-- (5) `delete_shard` unlinks the batch files one at a time before it touches WAL and metadata: a crash after the
    second unlink leaves the part of the relation that was not yet flushed. -/
def witnessDrop : List HItem :=
  [.op (.ins r [0]), .op (.ins r [1]), .op (.ins r [2]), .op (.ins r [3]), .op (.ins r [6]), .opCrash (.dropRel r) 2 none]

theorem witnessDrop_partial_relation :
    ((run 2 witnessDrop).drop 6).head? = some (.opened [(r, [6])] [.persistNewMkdir, .walNewMkdir, .batchTmpwrite, .batchFsync,
      .batchRename, .metaTmpwrite, .metaFsync, .metaRename, .walRewriteUnlink]) ∧
    specJudge [] none (witnessDrop ++ [.restart]) (run 2 witnessDrop) = false := by decide +kernel

theorem C13_refuted : ¬ C13_statement := by
  intro h
  have h1 := h 2 witnessDouble
  rw [witnessDouble_resurrects.2] at h1
  exact absurd h1 (by decide)

/-! What does hold at the WAL layer, for all file contents, all requests, all cuts: the durability core of `append`
in Immediate mode and the exact shape of what tearing can do.  The end-to-end invariant "recover(crash image) lies
between acked and attempted" is proved further down for the append + flush + recovery paths of one shard
(`C13_partial_flush`); it is *not* proved for compaction, relation drop and torn cuts (where the refutations live). -/

/-- **C13_partial (fsync is a barrier).** After `fsync` of the WAL no cut anywhere changes what replay reads. -/
theorem C13_partial_fsync_barrier (d : Disk) (f : File Rec) (hf : get d .wal = some f) (cuts : Path → Option Cut) :
    readAll (crash (apply d (.fsync .wal)) cuts) = walParse false f.items := by
  simp only [readAll, apply, hf, get_crash_wal, FS.get_put, if_true, Option.map_some]
  cases hc : cuts .wal with
  | none => simp [crashFile, File.items]
  | some c =>
    obtain ⟨k, fr⟩ := c
    cases fr <;> simp [crashFile, cutItems, File.items]

/-- **C13_partial (acknowledged appends are durable at the WAL).** For every disk whose WAL is clean with entries
    `ws`, every request `es`: after the append's `write` + `fsync` (the point where `append` returns and the engine
    acknowledges), *every* crash image — whatever is torn in whatever file — yields exactly `ws ++ es` on replay. -/
theorem C13_partial_acked_append_survives (d : Disk) (ws es : List (Name × Update))
    (hf : get d .wal = some { synced := ws.map mk, unsynced := [] }) (cuts : Path → Option Cut) :
    readAll (crash (applyAll d [.append .wal (es.map (fun e => .wal e.1 e.2)), .fsync .wal]) cuts) = some (ws ++ es) := by
  simp only [applyAll, List.foldl_cons, List.foldl_nil]
  rw [C13_partial_fsync_barrier _ _ (get_append_wal es hf) cuts]
  simp only [File.items, ← List.map_append]
  exact walParse_mk _

/-- **before the fsync**: a crash that cuts the unsynced write after `k` lines (at the boundary, or leaving a
    fragment of line `k+1`) makes replay see the old entries and the first `k` entries of the request: never
    anything that was not attempted, but for `0 < k < |es|` a strict prefix of *one* operation. -/
theorem C13_partial_torn_append_is_prefix (d : Disk) (ws es : List (Name × Update)) (k : Nat)
    (hf : get d .wal = some { synced := ws.map mk, unsynced := [] }) :
    readAll (crash (apply d (.append .wal (es.map (fun e => .wal e.1 e.2)))) (cutAt .wal ⟨k, .clean⟩)) = some (ws ++ es.take k) ∧
    (k < es.length →
      readAll (crash (apply d (.append .wal (es.map (fun e => .wal e.1 e.2)))) (cutAt .wal ⟨k, .part⟩)) = some (ws ++ es.take k)) := by
  have h1 := get_append_wal es hf
  refine ⟨?_, fun hk => ?_⟩
  · simp only [readAll, get_crash_wal, h1, Option.map_some, cutAt, if_true, crashFile, cutItems, File.items,
      List.append_nil, take_map_mk, ← List.map_append]
    exact walParse_mk _
  · -- the fragment of line `k+1` yields nothing: its CRC check fails
    obtain ⟨e, rest, hd⟩ : ∃ e rest, es.drop k = e :: rest := by
      cases h : es.drop k with
      | nil => simp [List.drop_eq_nil_iff] at h; omega
      | cons e rest => exact ⟨e, rest, rfl⟩
    have hdrop : (es.map mk).drop k = mk e :: rest.map mk := by
      rw [← List.map_drop, hd]; rfl
    simp only [readAll, get_crash_wal, h1, Option.map_some, cutAt, if_true, crashFile, File.items, List.append_nil]
    have hcut : cutItems (es.map mk) ⟨k, .part⟩ = (es.take k).map mk ++ [.torn .part (.wal e.1 e.2)] := by
      simp only [cutItems, hdrop, mk, take_map_mk]
    rw [hcut, ← List.append_assoc, ← List.map_append, walParse_mk_append]
    simp [walParse]

/-- the general form of witness (4): a WAL ending in a fragment loses the first entry appended after it (the
    fragment stays in the file; both end up on one line whose CRC check fails). -/
theorem C13_torn_tail_swallows_next (ws es : List (Name × Update)) (x : Rec) (e : Name × Update) :
    walParse false ((ws.map mk ++ [.torn .part x]) ++ (e :: es).map mk) = some (ws ++ es) := by
  rw [List.append_assoc, walParse_mk_append]
  simp only [List.singleton_append, List.map_cons, walParse, walParse_garb_mk, walParse_mk]
  simp

/-- the general form of witness (3): a fragment that stops inside a multi-byte character makes the whole read fail. -/
theorem C13_midchar_unreadable (ws : List (Name × Update)) (s : Name) (u : Update) (hm : multibyte u.t = true)
    (rest : List (Item Rec)) : walParse false (ws.map mk ++ .torn .midchar (.wal s u) :: rest) = none := by
  rw [walParse_mk_append]
  simp [walParse, hm]

/-- the hypotheses are met by a non-trivial state: the disk after two acknowledged inserts has a clean WAL with two
    entries, and a third, two-tuple request torn after its first line yields three entries. -/
example :
    let w := runOp 100 (runOp 100 {} (.ins r [0])) (.ins r [1])
    get w.disk .wal = some { synced := [((r, { t := 0, time := 1, diff := 1 }) : Name × Update), (r, { t := 1, time := 2, diff := 1 })].map mk,
                             unsynced := [] } ∧
    readAll (crash (apply w.disk (.append .wal [.wal r { t := 2, time := 3, diff := 1 }, .wal r { t := 3, time := 3, diff := 1 }]))
      (cutAt .wal ⟨1, .clean⟩)) =
      some [(r, { t := 0, time := 1, diff := 1 }), (r, { t := 1, time := 2, diff := 1 }), (r, { t := 2, time := 3, diff := 1 })] := by
  decide +kernel

/-- crash-free and boundary-crash histories do satisfy the Spec (the statement is not vacuous or everywhere false):
    two relations, auto-flush, delete, compaction, a crash inside an insert before its fsync and one after. -/
example :
    let h : List HItem := [.op (.ins r [0]), .op (.ins [107, 58, 115] [1]), .op (.ins r [2]), .op (.del r [0]), .op (.compactAll []),
      .opCrash (.ins r [3]) 1 none, .opCrash (.ins r [4]) 3 none]
    specJudge [] none (h ++ [.restart]) (run 2 h) = true ∧
      (run 2 h).getLast? = some (.opened [(r, [2, 4]), ([107, 58, 115], [1])] [.persistNewMkdir, .walNewMkdir]) := by
  decide +kernel

/-- histories of the fragment, judged along the run: inserts / deletes on shard `s` (any tuples, any buffer size,
    so with and without auto-flush; a delete only when the engine knows the relation — otherwise the repaired
    `delete_tuples_from` acknowledges `Ok(0)` without touching the store), crashes between operations, and crashes inside an operation after *any* of its
    file-system steps with the as-is image — except an image recognised by `imageDoubled` (the flush window between
    the metadata rename and the WAL rewrite: finding `flush_crash_between_meta_and_wal`), and crashes inside a recovery
    after any of *its* steps (same exception, for the drain flush).  Torn cuts, relation drops, compaction and
    explicit flush-all are outside the fragment. -/
def admissible (b : Nat) (s : Name) : Sys → List HItem → Bool
  | _, [] => true
  | .down d, .openCrash j none [] :: rest =>
    -- a crash inside the recovery itself, after any of its FS steps (orphan cleanup, drain flush)
    match openEngine d with
    | none => true
    | some w =>
      !imageDoubled (imageAt d w.trace j none) && admissible b s (.down (imageAt d w.trace j none)) rest
  | sys, it :: rest =>
    match bringUp sys with
    | (_, none) => true
    | (_, some w) =>
      match it with
      | .op o => onShard s o && delKnown w o && admissible b s (.up (runOp b w o)) rest
      | .opCrash o j none =>
        onShard s o && delKnown w o && !imageDoubled (imageAt w.disk (runOp b w o).trace j none) &&
          admissible b s (.down (imageAt w.disk (runOp b w o).trace j none)) rest
      | .restart => admissible b s (.down (crash w.disk noCut)) rest
      | _ => false

theorem imageAt_none (d : Disk) (trace : List Step) (j : Nat) :
    imageAt d trace j none = crash (applyAll d ((trace.map (·.2)).take j)) noCut := by
  simp [imageAt, List.map_take]

theorem c11_ok {s : Name} {w : World} {C : List Update} (o : EOp) (ho : onShard s o = true) (hb : Bin C)
    (hc : c11Shape (visOf s C) o = false) :
    specApply (visOf s C) o = visOf s (C ++ opUpdates w o) ∧ Bin (C ++ opUpdates w o) := by
  cases o with
  | ins r ts => simp only [onShard, decide_eq_true_eq] at ho; subst ho; exact ins_ok r C ts w.mem.clock hb hc
  | del r ts => simp only [onShard, decide_eq_true_eq] at ho; subst ho; exact del_ok r C ts w.mem.clock hb hc
  | _ => simp [onShard] at ho

/-- the invariant of the run: a running engine whose durable content `C` agrees with the Spec state, or a crash image
    whose content is the acknowledged state or the state with the operation in flight. -/
def RunInv (s : Name) : Sys → SpecSt → Option SpecSt → Prop
  | .up w, S, P => ∃ C, Run s w C ∧ Bin C ∧ S = visOf s C ∧ P = none
  | .down d, S, P => ∃ md X es, Img s d md X es ∧ Bin (X ++ es) ∧
      (S = visOf s (X ++ es) ∨ P = some (visOf s (X ++ es)))

/-- bringing the system up: a running engine is there; a crash image reopens, and what it serves is accepted by
    the Spec, which goes on from there -/
theorem bringUp_ok {s : Name} {sys : Sys} {S : SpecSt} {P : Option SpecSt} (h : RunInv s sys S P) :
    ∃ w outs C, bringUp sys = (outs, some w) ∧ Run s w C ∧ Bin C ∧
      ∀ items more, specJudge S P items (outs ++ more) = specJudge (visOf s C) none items more := by
  cases sys with
  | up w =>
    obtain ⟨C, hrun, hb, rfl, rfl⟩ := h
    exact ⟨w, [], C, rfl, hrun, hb, fun _ _ => rfl⟩
  | down d =>
    obtain ⟨md, X, es, himg, hb, hS⟩ := h
    obtain ⟨w, hopen, hrun, hvis⟩ := recover_img himg
    refine ⟨w, [.opened (visible w) (w.trace.map (·.1))], _, by simp [bringUp, hopen], hrun, hb, fun _ _ => ?_⟩
    rcases hS with rfl | rfl <;> simp [specJudge, hvis]

/-- **C13_partial_flush.**  For every buffer size, every shard name and every admissible history — inserts and
    deletes of arbitrary tuple lists on one shard, through `ensure_shard`, WAL append + fsync, auto-flush (batch file,
    metadata, WAL rewrite) and full recovery (load_shards, orphan cleanup, WAL replay, drain flush), over any number
    of crash / recovery epochs, crashing after any file-system step outside the recognised flush window — every reopen
    succeeds and serves the state of the acknowledged operations or that plus the operation in flight. -/
theorem C13_partial_flush (b : Nat) (s : Name) (h : List HItem)
    (hadm : admissible b s (.up {}) (h ++ [.restart]) = true) :
    specJudge [] none (h ++ [.restart]) (run b h) = true := by
  have key : ∀ (items : List HItem) (sys : Sys) (S : SpecSt) (P : Option SpecSt), RunInv s sys S P →
      admissible b s sys items = true → specJudge S P items (runItems b sys items) = true := by
    intro items
    induction items with
    | nil =>
      intro sys S P hinv _
      obtain ⟨w, outs, C, hbu, _, _, hj⟩ := bringUp_ok hinv
      simpa [runItems, hbu, specJudge] using hj [] []
    | cons it rest ih =>
      intro sys S P hinv hadm
      -- a crash inside the recovery of a crash image
      by_cases hoc : ∃ d j, sys = .down d ∧ it = .openCrash j none []
      · obtain ⟨d, j, rfl, rfl⟩ := hoc
        obtain ⟨md, X, es, himg, hb, hS⟩ := hinv
        obtain ⟨w, hopen, hpre⟩ := recover_pre himg
        simp only [admissible, hopen, Bool.and_eq_true, Bool.not_eq_true'] at hadm
        obtain ⟨hnd, hadm'⟩ := hadm
        have hri : runItems b (.down d) (.openCrash j none [] :: rest) =
            .crashed (metaOrder w.trace) :: runItems b (.down (imageAt d w.trace j none)) rest := by
          simp [runItems, hopen]
        rw [hri]
        simp only [specJudge]
        rw [imageAt_none] at hnd hadm' ⊢
        rcases hpre j with ⟨md', X', es', himg', hcont⟩ | hd
        · have hcont' : X' ++ es' = X ++ es := by rcases hcont with h | h <;> exact h
          exact ih _ _ _ ⟨md', X', es', himg'.crash, hcont' ▸ hb, hcont' ▸ hS⟩ hadm'
        · rw [hd.crash.doubled] at hnd
          cases hnd
      -- otherwise first bring the engine up; a crash image is reopened and judged
      obtain ⟨w, outs, C, hbu, hrun, hbin, hjudge⟩ := bringUp_ok hinv
      cases it with
      | op o =>
        simp only [admissible, hbu, Bool.and_eq_true] at hadm
        obtain ⟨⟨ho, hdk⟩, hadm'⟩ := hadm
        obtain ⟨hfail, hrun', _⟩ := op_ok b o ho hdk hrun
        have hri : runItems b sys (.op o :: rest) =
            outs ++ .ack (!(runOp b w o).failed) ((runOp b w o).trace.map (·.1)) (loopOrder o (runOp b w o).trace) ::
              runItems b (.up (runOp b w o)) rest := by
          simp [runItems, hbu]
        rw [hri, hjudge, hfail]
        simp only [Bool.not_false, specJudge]
        by_cases hc : c11Shape (visOf s C) o = true
        · simp [hc]
        · simp only [hc, Bool.false_eq_true, if_false, if_true]
          obtain ⟨hsa, hbin'⟩ := c11_ok (w := w) o ho hbin (by simpa using hc)
          rw [hsa]
          exact ih _ _ _ ⟨_, hrun', hbin', rfl, rfl⟩ hadm'
      | opCrash o j cut =>
        cases cut with
        | some c => simp [admissible, hbu] at hadm
        | none =>
          simp only [admissible, hbu, Bool.and_eq_true, Bool.not_eq_true'] at hadm
          obtain ⟨⟨⟨ho, hdk⟩, hnd⟩, hadm'⟩ := hadm
          obtain ⟨_, _, hpre⟩ := op_ok b o ho hdk hrun
          have hri : runItems b sys (.opCrash o j none :: rest) =
              outs ++ .crashed (loopOrder o (runOp b w o).trace) ::
                runItems b (.down (imageAt w.disk (runOp b w o).trace j none)) rest := by
            simp [runItems, hbu]
          rw [hri, hjudge]
          simp only [specJudge]
          by_cases hc : c11Shape (visOf s C) o = true
          · simp [hc]
          · simp only [hc, Bool.false_eq_true, if_false]
            obtain ⟨hsa, hbin'⟩ := c11_ok (w := w) o ho hbin (by simpa using hc)
            rw [imageAt_none] at hnd hadm' ⊢
            rcases hpre j with ⟨md, X, es, himg, e | e⟩ | hd
            · exact ih _ _ _ ⟨md, X, es, himg.crash, e ▸ hbin, .inl (by rw [e])⟩ hadm'
            · exact ih _ _ _ ⟨md, X, es, himg.crash, e ▸ hbin', .inr (by rw [e, hsa])⟩ hadm'
            · rw [hd.crash.doubled] at hnd
              cases hnd
      | restart =>
        simp only [admissible, hbu] at hadm
        have hri : runItems b sys (.restart :: rest) = outs ++ .crashed [] :: runItems b (.down (crash w.disk noCut)) rest := by
          simp [runItems, hbu]
        rw [hri, hjudge]
        simp only [specJudge]
        obtain ⟨md, X, es, himg, hC⟩ := hrun.img
        exact ih _ _ _ ⟨md, X, es, himg.crash, hC ▸ hbin, .inl (by rw [hC])⟩ hadm
      | openCrash j cut ord =>
        cases sys with
        | up w0 => simp [admissible, hbu] at hadm
        | down d =>
          cases cut with
          | some c => simp [admissible, hbu] at hadm
          | none =>
            cases ord with
            | nil => exact absurd ⟨d, j, rfl, rfl⟩ hoc
            | cons o os => simp [admissible, hbu] at hadm
  have hinit : Run s {} [] :=
    ⟨rfl, .inl ⟨rfl, ⟨fun _ => ⟨fun f => rfl, rfl, rfl⟩, nofun, .inl ⟨rfl, rfl⟩, rfl⟩, rfl⟩⟩
  exact key _ _ _ _ ⟨[], hinit, fun x => .inl rfl, by simp [visOf, positive], rfl⟩ hadm

/-- the fragment is not empty and not trivial: auto-flush, delete, crashes before / after the WAL fsync, inside the
    batch write, after the WAL rewrite; the window image is what `imageDoubled` rejects. -/
example :
    let h : List HItem := [.op (.ins r [0]), .opCrash (.ins r [1, 2]) 2 none, .openCrash 5 none [], .op (.del r [0]),
      .opCrash (.ins r [3]) 4 none, .restart, .opCrash (.ins r [4]) 9 none, .openCrash 3 none [], .openCrash 4 none [],
      .op (.ins r [5])]
    admissible 2 r (.up {}) (h ++ [.restart]) = true ∧
    admissible 2 r (.up {}) ([.op (.ins r [0]), .opCrash (.ins r [1]) 8 none] ++ [.restart]) = false := by
  decide +kernel

end ILV.Props.C13
