/-
  C15 — Concurrent writes are serializable and durable (persist layer).
  Model: ILV.Model.PStep — one atomic step per lock-protected region of `FilePersist::append` / `flush` / `compact`
  (src/storage/persist/mod.rs:400-462, 581-620), any number of threads, any programs, any schedule;
  a crash may happen at any step boundary (`trace` lists every visited state).
-/
import ILV.Lemmas.PStep
namespace ILV.Props.C15
open ILV ILV.PStep

/-- every update of an append that has returned Ok is served after a restart from the disk state -/
def Durable (st : State) : Prop := ∀ s u, u ∈ acked st s → u ∈ recovered st s

/-- full statement: for all buffer sizes, programs, thread counts and schedules, at every step
    boundary (= every possible crash point) no acknowledged update is lost. -/
def C15_statement : Prop :=
  ∀ (cfg : Cfg) (progs : List (List Op)) (pre : List Shard) (sched : List Tid),
    ∀ st ∈ trace cfg (init progs pre) sched, Durable st

/-! The code violates it: thread 0 appends update 1 (complete), starts appending update 2 and stops
    after its WAL section; thread 1 flushes the shard — `remove_shard_entries` rewrites the WAL without
    *any* entry of the shard, including the line of update 2; thread 0 pushes 2 into the buffer and
    returns Ok. Update 2 is now in no file. -/
def witnessCfg : Cfg := { bufSize := 100, fine := false }
def witnessProgs : List (List Op) := [[.append 0 [1], .append 0 [2]], [.flush 0]]
def witnessSched : List Tid := [0, 0, 0, 0, 1, 0, 0]

theorem C15_refuted : ¬ C15_statement := by
  intro h
  have h1 := h witnessCfg witnessProgs [] witnessSched _ (lastState_mem _ _ _) 0 2
  have hacked : 2 ∈ acked (lastState witnessCfg (init witnessProgs []) witnessSched) 0 := by decide +kernel
  have hlost : ¬ 2 ∈ recovered (lastState witnessCfg (init witnessProgs []) witnessSched) 0 := by decide +kernel
  exact hlost (h1 hacked)

/-- the witness is of the known-finding class -/
example : hazardous witnessCfg (init witnessProgs []) witnessSched = true := by decide +kernel

/-- Partial result: the only way to lose an acknowledged update is the hazard "a flush rewrites the
    WAL of shard `s` while another thread stands between its WAL append and its buffer push for `s`"
    (`hazardous`, a decidable predicate of the schedule). For every other schedule — any number of
    threads, any programs, any buffer size, either granularity — every state visited is durable. -/
theorem C15_partial (cfg : Cfg) (progs : List (List Op)) (pre : List Shard) (sched : List Tid)
    (hz : hazardous cfg (init progs pre) sched = false) :
    ∀ st ∈ trace cfg (init progs pre) sched, Durable st := by
  intro st hst s u hu
  exact inv_durable (trace_inv cfg sched _ (inv_init progs pre) hz st hst) s u hu

/-- hypotheses are satisfiable by an interleaved, non-trivial schedule: the same programs, but the
    flush runs before thread 0 starts its second append; an auto-flush (buffer size 1) is included. -/
example : hazardous { bufSize := 1, fine := true } (init witnessProgs []) [0, 0, 1, 1, 0, 0, 0, 0, 0] = false := by decide +kernel
example : acked (lastState { bufSize := 1, fine := true } (init witnessProgs []) [0, 0, 1, 1, 0, 0, 0, 0, 0]) 0 = [1, 2] := by decide +kernel

/-- Served state (no crash): what `read` returns for a shard holds exactly the initial updates and the appended
    batches in the order of their buffer sections, each exactly once (a permutation: a compaction re-sorts the
    flushed part by (tuple, time)) — every append takes effect atomically, exactly once, and flushes and
    compactions never change the multiset that is served. Holds for every schedule (including hazardous ones). -/
theorem C15_served_serializable (cfg : Cfg) (st : State) (sched : List Tid) (s : Shard) :
    (served (lastState cfg st sched) s).Perm (served st s ++ linearized cfg st sched s) :=
  served_linearized cfg sched st s

example : served (lastState witnessCfg (init witnessProgs []) witnessSched) 0 = [1, 2] := by decide +kernel
example : linearized witnessCfg (init witnessProgs []) witnessSched 0 = [1, 2] := by decide +kernel

/-- compaction (`compact(s,0)` = `flush s ; compactOnly s`) between an append and a delete of the same tuple:
    one consolidated batch, sorted by (tuple, time); the invariant of `C15_partial` covers these steps too -/
def cmpProg : List Op := [.append 0 [5, 3]] ++ expandCompact 0 ++ [.append 0 [1005]] ++ expandCompact 0
example : ((lastState { bufSize := 100, fine := false } (init [cmpProg] [0]) (List.replicate 12 0)).shards 0).batches = [[3, 5, 1005]] := by decide +kernel
example : hazardous { bufSize := 100, fine := true } (init [cmpProg] [0]) (List.replicate 14 0) = false := by decide +kernel
example : recovered (lastState { bufSize := 100, fine := true } (init [cmpProg] [0]) (List.replicate 14 0)) 0 = [3, 5, 1005] := by decide +kernel

end ILV.Props.C15
