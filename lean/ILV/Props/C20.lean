/-
  C20 — Reads observe a committed prefix.
  Model: ILV.Model.EStep (storage-engine step system: time assignment / persist / ⟨KG write lock:
  apply + publish_snapshot⟩ as separate atomic steps; snapshot queries load the published pointer),
  any number of threads, programs and schedules, incremental engine off (with it on the same holds
  until its worker dies — that is C19's finding).
  `applied` is the ghost list of in-memory applications in KG-lock order; `replay` folds whole
  operations, so a prefix state never contains part of a batch.
-/
import ILV.Lemmas.EStep
namespace ILV.Props.C20
open ILV ILV.EStep

/-- At every step boundary of every schedule the published snapshot — its facts *and* its rule list —
    is exactly the state after the operations applied so far (whole operations, in lock order), and
    that list is a prefix of the final application order. -/
theorem C20_snapshot_prefix (progs : List (List Op)) (sched : List Tid) :
    ∀ st ∈ trace (init progs false) sched,
      st.snap = replay st.applied ∧ st.snapRules = replayR st.applied ∧
      st.applied <+: (lastState (init progs false) sched).applied := by
  intro st hst
  have hinv := trace_inv sched _ (inv_init progs) st hst
  exact ⟨hinv.snap.trans hinv.live, hinv.snapR.trans hinv.rulesI, trace_applied_prefix sched _ st hst⟩

/-- Every answer returned to a query — a relation scan, or a view query evaluated through the
    snapshot's rules — is computed from the facts and rules as they were after one and the same
    prefix of the final application order. -/
theorem C20_query_prefix (progs : List (List Op)) (sched : List Tid) (t : Tid) (ht : t < progs.length) :
    ∀ e ∈ ((lastState (init progs false) sched).threads t).done,
      ∃ pre, pre <+: (lastState (init progs false) sched).applied ∧
        (∀ r, e.1 = .query r → e.2.1 = .rows (replay pre r)) ∧
        (∀ v, e.1 = .queryV v → e.2.1 = .rows (evalView (replay pre) (replayR pre) v)) := by
  intro e he
  have hinv := trace_inv sched _ (inv_init progs) _ (lastState_mem sched _)
  obtain ⟨_, h2, _⟩ := (hinv.done t).1 e he
  exact ⟨_, List.take_prefix _ _, h2.1, h2.2⟩

/-- Read-your-writes, for facts and rules: if a thread's write `w` (insert, delete, rule registration or
    rule drop; other than a delete that removed nothing) returned before its later query `q`, the query's answer is computed from a prefix of the
    application order that contains `w` — e.g. a client that registered a view and then queries it is
    answered through a rule list containing that view. -/
theorem C20_read_your_writes (progs : List (List Op)) (sched : List Tid) (st : State)
    (hst : st ∈ trace (init progs false) sched) (t : Tid) (ht : t < st.n)
    (d1 d2 d3 : List (Op × Out × Nat)) (w q : Op) (out res : Out) (kw kq : Nat)
    (hd : (st.threads t).done = d1 ++ (w, out, kw) :: (d2 ++ (q, res, kq) :: d3))
    (hw : isWrite w = true) (hout : out ≠ .del 0) :
    (t, w) ∈ st.applied.take kq ∧
    (∀ r, q = .query r → res = .rows (replay (st.applied.take kq) r)) ∧
    (∀ v, q = .queryV v → res = .rows (evalView (replay (st.applied.take kq)) (replayR (st.applied.take kq)) v)) := by
  have hinv := trace_inv sched _ (inv_init progs) st hst
  have hmw : (w, out, kw) ∈ (st.threads t).done := by rw [hd]; simp
  have hmq : (q, res, kq) ∈ (st.threads t).done := by rw [hd]; simp
  obtain ⟨_, _, h3⟩ := (hinv.done t).1 _ hmw
  obtain ⟨_, h5, _⟩ := (hinv.done t).1 _ hmq
  dsimp only at h3 h5
  obtain ⟨h1, hget⟩ := h3 hw hout
  have hle : kw ≤ kq := by
    have hp := (hinv.done t).2
    rw [hd] at hp
    have hp2 := (List.pairwise_append.mp hp).2.1
    exact (List.pairwise_cons.mp hp2).1 (q, res, kq) (by simp)
  refine ⟨?_, h5.1, h5.2⟩
  have : (st.applied.take kq)[kw - 1]? = some (t, w) := by
    rw [List.getElem?_take, if_pos (by omega)]; exact hget
  exact List.mem_of_getElem? this

/-- the hypotheses are met by a non-trivial interleaving: thread 1's insert is applied between the
    time assignment and the application of thread 0's insert; thread 0 then reads its own write. -/
def exProgs : List (List Op) := [[.insert 0 [1, 2], .query 0], [.insert 0 [1]]]
def exSched : List Tid := [0, 1, 1, 0, 1, 0, 0]
example : (lastState (init exProgs false) exSched).applied = [(1, .insert 0 [1]), (0, .insert 0 [1, 2])] := by decide +kernel
example : ((lastState (init exProgs false) exSched).threads 0).done =
    [(.insert 0 [1, 2], .ins 1 1, 2), (.query 0, .rows [1, 2], 2)] := by decide +kernel
example : lastState (init exProgs false) exSched ∈ trace (init exProgs false) exSched := lastState_mem _ _

/-- a rule registration racing an insert: thread 0's insert has taken its time and persisted, thread 1
    registers `v0(X) <- r0(X)`, is acknowledged and queries the view (empty: the insert is not applied yet,
    but the rule is there), then the insert is applied and publishes facts *with* the rule. -/
def ruleProgs : List (List Op) := [[.insert 0 [1]], [.regRule 0 0, .queryV 0]]
def ruleSched : List Tid := [0, 0, 1, 1, 0]
example : (lastState (init ruleProgs false) ruleSched).snapRules = [(0, [0])] := by decide +kernel
example : ((lastState (init ruleProgs false) ruleSched).threads 1).done = [(.regRule 0 0, .created, 1), (.queryV 0, .rows [], 1)] := by decide +kernel
example : evalView (lastState (init ruleProgs false) ruleSched).snap (lastState (init ruleProgs false) ruleSched).snapRules 0 = [1] := by decide +kernel

end ILV.Props.C20
