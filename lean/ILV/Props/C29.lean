/-
  C29 — The internal knowledge graph `_internal` is unreachable for non-admins.
  Model: the repaired `execute_program` (see Props/C27.lean). Spec: ILV.Spec.Access.touchesInternal.
-/
import ILV.Lemmas.C27
namespace ILV.Props.C29
open ILV ILV.Text ILV.Handler ILV.Gen.C28 ILV.Spec.Access ILV.Props.C27

/-- **C29.** For every program text, session binding and KG argument: no statement of a request by a
    non-admin identity runs with `_internal` as the current KG, acts on it (`.kg use/drop`, `.kg acl …`)
    or creates it — provided no ACL row grants that identity a role on `_internal` itself. -/
theorem C29 (P : Parser) (w : World) (rq : Req) (u : String) (r : Role)
    (hid : identityOf w rq.user = some (some (u, r))) (hr : r ≠ Role.admin)
    (hacl : kgRoleFor w INTERNAL u r = none) :
    ∀ e ∈ (execProgram P w rq).trace, touchesInternal e = false := by
  intro e he
  rcases exec_gated P w rq e he with ⟨role, hrole, hg⟩
  rw [hid] at hrole
  cases hrole
  exact gates_no_internal w u r e.stmt e.kg hr hacl hg

/-! the former counterexamples (now corpus files) are refused -/
def witP : Parser := fun k =>
  if k = "?m1(X)" then some ⟨.query, .query "m1" 1⟩
  else if k = ".kg use _internal" then some ⟨.kgUse, .name "_internal"⟩
  else if k = ".kg list" then some ⟨.kgList, .none⟩
  else if k = "?users(A, B, C)" then some ⟨.query, .query "users" 3⟩
  else none
def users0 : List Tuple := [[strVal "adm", strVal "h", strVal "admin"], [strVal "vi", strVal "h", strVal "viewer"]]
def witW : World :=
  ⟨[⟨"_internal", [("users", users0), ("kg_acls", [[strVal "default", strVal "vi", strVal "viewer"]])], [], []⟩,
    ⟨"default", [("m1", [[.i64 0]])], [], []⟩],
   [⟨"vi", "default", [], [], false⟩]⟩
/-- a session that (by whatever means) is bound to `_internal` -/
def witWbound : World := { witW with sess := [⟨"vi", "_internal", [], [], false⟩] }
example : (execProgram witP witW ⟨some "vi", false, some "default", "?m1(X)\n.kg use _internal\n?users(A, B, C)".toList⟩).res = .err "denied-internal" := by decide +kernel
example : (execProgram witP witW ⟨some "vi", true, none, ".kg list\n.kg use _internal".toList⟩).res = .err "denied-internal" ∧
    (execProgram witP witW ⟨some "vi", true, none, ".kg list\n.kg use _internal".toList⟩).w = witW := by decide +kernel
example : (execProgram witP witWbound ⟨some "vi", true, some "default", "?users(A, B, C)".toList⟩).res = .err "denied-internal" := by decide +kernel
example : (execProgram witP witWbound ⟨some "vi", true, none, "?users(A, B, C)".toList⟩).res = .err "denied-internal" := by decide +kernel
-- hypotheses are satisfiable with a non-empty trace
example : identityOf witW (some "vi") = some (some ("vi", .viewer)) ∧ kgRoleFor witW INTERNAL "vi" .viewer = none ∧
    (execProgram witP witW ⟨some "vi", false, some "default", ".kg list\n?m1(X)".toList⟩).trace =
      [⟨⟨.kgList, .none⟩, "default"⟩, ⟨⟨.query, .query "m1" 1⟩, "default"⟩] := by decide +kernel

end ILV.Props.C29
