/-
  C07 — Answer tuples are well-formed sets: no duplicates, the arity of the queried head, head
  constants in their positions.

  Model: `Engine.run` (ILV.Model.Engine), every configuration without a row limit (any worker
  count, any partitioner), including the recursive min/max "aggregation in loop" path
  (code_generator:1039-1187) as repaired by fixes/C07-recursive_minmax_head.diff: the recursive
  body is projected onto the head columns before it is concatenated with the base case. Before
  the repair the loop variable carried tuples of the clause *body's* arity and the answer of the
  shortest-path program mixed tuples of length 3 and 6 (old finding `recursive_minmax_head`,
  witness kept in corpus/C07/). Other aggregates inside a recursive clause are outside the model
  (`err:fragment`): the statement is about every run on which the model answers.
-/
import ILV.Lemmas.WellFormed
import ILV.Drv.C07
import ILV.Drv.C03
namespace ILV.Props.C07
open ILV ILV.DL ILV.Engine

/-- Spec of C07 for an answer `A` to a query on head `h` of program `p`. -/
def WellFormedAnswer (p : Program) (h : String) (A : List Tuple) : Prop :=
  A.Nodup ∧ ∀ t, t ∈ A → ∃ r, r ∈ clausesOf p h ∧ Fits r t

/-- **C07 on the model's domain.** Whenever the model engine answers (which excludes exactly the
    programs with an aggregate in a recursive clause), under any switches-off configuration
    without row limit, any worker count, partitioner, emission order and fuel, and heads without
    stored facts: the answer is duplicate-free and every tuple has the arity of a clause of the
    executed head, with that clause's head constants in place. -/
theorem C07_partial (cfg : Cfg) (hlim : cfg.limit = 0) (hash : Tuple → Nat) (ord : String → List Tuple → List Tuple)
    (fuel : Nat) (p : Program) (edb : DB) (A : List Tuple) (acc : DB)
    (hno : ∀ h, h ∈ heads p → edb.get h = [])
    (hexec : (execOrder p).all (heads p).contains = true)
    (hrun : Engine.run cfg hash ord fuel p edb = .ok A acc) :
    ∀ g, (execOrder p).getLast? = some g → WellFormedAnswer p g A := by
  have hheads : ∀ g, g ∈ execOrder p → g ∈ heads p :=
    fun g hg => List.contains_iff_mem.1 (List.all_eq_true.1 hexec g hg)
  have := execLoop_wf cfg hlim hash ord fuel p edb hno (execOrder p) [] [] A acc hheads
    (fun g ts hg => by cases hg) (run_loop hrun)
  exact this.2

/-- the former counterexample: shortest paths by recursive `min`. -/
def shortestPath : Program := [
  { hrel := "a", hargs := [.var "X", .var "Y", .agg .min "D"], body := [.pos ⟨"w", [.var "X", .var "Y", .var "D"]⟩] },
  { hrel := "a", hargs := [.var "X", .var "Z", .agg .min "D"],
    body := [.pos ⟨"a", [.var "X", .var "Y", .var "U"]⟩, .pos ⟨"w", [.var "Y", .var "Z", .var "V"]⟩,
             .cmp .eq (.var "D") (.bin .add (.var "U") (.var "V"))] },
  { hrel := "q", hargs := [.var "X", .var "Y", .var "D"], body := [.pos ⟨"a", [.var "X", .var "Y", .var "D"]⟩] } ]

/-- it runs through the aggregation-in-loop path and every answer tuple has the head's arity 3.
    (The superseded tuple `(1,3,9)` stays in the answer next to `(1,3,6)`: the capture keeps
    retracted records — outside C07's statement, see notes/C07.md.) -/
example : Drv.C07.recursiveMinMaxHead shortestPath = true ∧
    (Engine.run {} (fun _ => 0) (fun _ ts => ts) 8 shortestPath
      [("w", [[.i64 1, .i64 2, .i64 5], [.i64 2, .i64 3, .i64 1], [.i64 1, .i64 3, .i64 9]])]).toWire
      = "i64:1,i64:2,i64:5;i64:1,i64:3,i64:6;i64:1,i64:3,i64:9;i64:2,i64:3,i64:1" := by
  decide +kernel

/-- a head with a constant, an aggregate head and a self-recursive head; 2 workers. The
    hypotheses hold and the answer is non-empty. -/
def mixed : Program := [
  { hrel := "t", hargs := [.var "X", .var "Y"], body := [.pos ⟨"e", [.var "X", .var "Y"]⟩] },
  { hrel := "t", hargs := [.var "X", .var "Z"], body := [.pos ⟨"t", [.var "X", .var "Y"]⟩, .pos ⟨"e", [.var "Y", .var "Z"]⟩] },
  { hrel := "c", hargs := [.var "X", .agg .count "Y"], body := [.pos ⟨"t", [.var "X", .var "Y"]⟩] },
  { hrel := "q", hargs := [.const (.i64 7), .var "X", .var "N"], body := [.pos ⟨"c", [.var "X", .var "N"]⟩] } ]
def mixedDb : DB := [("e", [[.i64 1, .i64 2], [.i64 2, .i64 3]])]

example : (heads mixed).all (fun h => (mixedDb.get h).isEmpty) = true ∧
    (execOrder mixed).all (heads mixed).contains = true ∧ (execOrder mixed).getLast? = some "q" ∧
    (Engine.run { workers := 2 } Drv.C03.parity3 (fun _ ts => ts) 8 mixed mixedDb).toWire
      = "i64:7,i64:1,i64:2;i64:7,i64:2,i64:1" := by
  decide +kernel

end ILV.Props.C07
