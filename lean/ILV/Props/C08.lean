/-
  C08 — Row limits only truncate the true answer.

  Model: `Engine.run` with `cfg.limit = n` (after fixes/C08-limit_truncates_intermediate_head.diff):
  `max_result_rows` is set on the generator of the **last executed head only** (lib.rs:1652); the
  capture keeps the first `n` records `inspect` sees (code_generator:258-266, 1203-1211), i.e.
  `(ord q ts).take n` for an emission order `ord` (a parameter: Differential Dataflow's order is
  unspecified). Intermediate heads — user views and the relations SIP introduces — are evaluated
  in full.
-/
import ILV.Lemmas.Engine
namespace ILV.Props.C08
open ILV ILV.DL ILV.Engine

/-- switches off, one worker, row limit `n`. -/
def cfgL (n : Nat) : Cfg := { limit := n }

/-- emission orders: some permutation of the result. -/
def OrdPerm (ord : String → List Tuple → List Tuple) : Prop := ∀ h ts, (ord h ts).Perm ts

def C08_statement : Prop :=
  ∀ (p : Program) (edb : DB) (n : Nat) (hash : Tuple → Nat) (ord : String → List Tuple → List Tuple) (fuel : Nat)
    (R A : List Tuple) (acc acc' : DB),
    0 < n → OrdPerm ord →
    Engine.run (cfgL n) hash ord fuel p edb = .ok R acc →
    Engine.run (cfgL 0) hash ord fuel p edb = .ok A acc' →
    (∀ t, t ∈ R → t ∈ A) ∧ R.length = min n A.length

/-- `a(X) <- n(X), X > 1.  b(X) <- n(X), !a(X).  q(X) <- b(X)` over n = {1,2,3,4}, limit 2:
    the former counterexample. -/
def negOverTruncated : Program := [
  { hrel := "a", hargs := [.var "X"], body := [.pos ⟨"n", [.var "X"]⟩, .cmp .gt (.var "X") (.const 1)] },
  { hrel := "b", hargs := [.var "X"], body := [.pos ⟨"n", [.var "X"]⟩, .neg ⟨"a", [.var "X"]⟩] },
  { hrel := "q", hargs := [.var "X"], body := [.pos ⟨"b", [.var "X"]⟩] } ]
def four : DB := [("n", [[.i64 1], [.i64 2], [.i64 3], [.i64 4]])]

example : Engine.run (cfgL 2) (fun _ => 0) (fun _ ts => ts) 4 negOverTruncated four =
    .ok [[.i64 1]] [("q", [[.i64 1]]), ("b", [[.i64 1]]), ("a", [[.i64 2], [.i64 3], [.i64 4]])] := by decide +kernel

theorem take_perm_props {ts o : List Tuple} (n : Nat) (hp : o.Perm ts) :
    (∀ t, t ∈ o.take n → t ∈ ts) ∧ (o.take n).length = min n ts.length := by
  refine ⟨fun t ht => hp.subset (List.mem_of_mem_take ht), ?_⟩
  rw [List.length_take, hp.length_eq]

theorem execLoop_limit (n : Nat) (hn : 0 < n) (hash : Tuple → Nat) (ord : String → List Tuple → List Tuple)
    (hord : OrdPerm ord) (fuel : Nat) (p : Program) (edb : DB) :
    ∀ (order : List String) (acc : DB) (last R A : List Tuple) (accn acc0 : DB), order ≠ [] →
      execLoop (cfgL n) hash ord fuel p edb order acc last = .ok R accn →
      execLoop (cfgL 0) hash ord fuel p edb order acc last = .ok A acc0 →
      (∀ t, t ∈ R → t ∈ A) ∧ R.length = min n A.length
  | [], _, _, _, _, _, _, hne, _, _ => absurd rfl hne
  | h :: rest, acc, last, R, A, accn, acc0, _, hl, hu => by
    -- the row limit does not enter `evalHead`: both runs evaluate the head to the same `ts`
    obtain ⟨ts, _, hev, rfl, hl⟩ := execLoop_cons_ok' hl
    obtain ⟨ts0, hev0, hu⟩ := execLoop_cons_ok rfl hu
    have e : ts = ts0 := Option.some.inj (hev.symm.trans (hev0 : evalHead (cfgL n) hash fuel p (lkOf edb acc) h = _))
    subst e
    cases rest with
    | nil =>
      have hlim : limited (cfgL n) p h = true := by simp [limited, cfgL, hn]
      rw [hlim] at hl
      cases hl; cases hu
      exact take_perm_props n (hord h _)
    | cons g rest => exact execLoop_limit n hn hash ord hord fuel p edb (g :: rest) _ _ R A accn acc0 (by simp) hl hu

/-- **C08, for all programs**: for every limit `n > 0`, partitioner, fuel and every emission order
    that is a permutation, the limited answer is a subset of the unlimited answer and has exactly
    `min n |A|` rows. -/
theorem C08 : C08_statement := by
  intro p edb n hash ord fuel R A acc acc' hn hord hl hu
  have hl' := run_loop hl
  have hu' := run_loop hu
  by_cases hne : execOrder p = []
  · -- no head: both runs answer the empty initial result
    rw [hne] at hl' hu'
    simp only [execLoop, Outcome.ok.injEq] at hl' hu'
    obtain ⟨rfl, _⟩ := hl'
    obtain ⟨rfl, _⟩ := hu'
    simp
  · exact execLoop_limit n hn hash ord hord fuel p edb (execOrder p) [] [] R A acc acc' hne hl' hu'

/-- a one-head query with a join and a comparison over 5 facts, limit 2, reversed emission order. -/
def oneHead : Program := [
  { hrel := "q", hargs := [.var "X", .var "Z"],
    body := [.pos ⟨"e", [.var "X", .var "Y"]⟩, .pos ⟨"e", [.var "Y", .var "Z"]⟩, .cmp .ne (.var "X") (.var "Z")] } ]
def ring : DB := [("e", [[.i64 0, .i64 1], [.i64 1, .i64 2], [.i64 2, .i64 3], [.i64 3, .i64 0], [.i64 0, .i64 2]])]

example :
    (Engine.run (cfgL 2) (fun _ => 0) (fun _ ts => ts.reverse) 4 oneHead ring).toWire = "i64:0,i64:3;i64:3,i64:2" ∧
    (Engine.run (cfgL 0) (fun _ => 0) (fun _ ts => ts.reverse) 4 oneHead ring).toWire
      = "i64:0,i64:2;i64:0,i64:3;i64:1,i64:3;i64:2,i64:0;i64:3,i64:1;i64:3,i64:2" := by
  decide +kernel

example : OrdPerm (fun _ ts => ts.reverse) := fun _ ts => List.reverse_perm ts

end ILV.Props.C08
