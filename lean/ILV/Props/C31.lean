/-
  C31 — Value comparison is a total order consistent with equality and hashing.
  Model: ILV.Model.Value (mirror of src/value/mod.rs after the `fix:` commit that switched
  `Float64` ordering to `f64::total_cmp` and `Vector` equality to bit equality).
  The order laws of values and tuples (`value_lawful`, `tuple_lawful`) are proved here, from the generic
  comparator lemmas of ILV.Lemmas.Order; other proofs cite them from here.
-/
import ILV.Lemmas.Order
import ILV.Lemmas.ConsolidateC31
namespace ILV.Props.C31
open ILV

/-- Well-formedness: a `Float64` carries a 64-bit pattern (what `f64::to_bits` can return). -/
def Value.WF : Value → Prop
  | .f64 b => b < 2^64
  | _ => True

instance : DecidablePred Value.WF := fun v => by cases v <;> simp only [Value.WF] <;> infer_instance

theorem f64TotalKey_inj (a b : Nat) (ha : a < 2^64) (hb : b < 2^64)
    (h : f64TotalKey a = f64TotalKey b) : a = b := by
  unfold f64TotalKey at h
  have hsa : a / 2^63 < 2 := Nat.div_lt_of_lt_mul ha
  have hsb : b / 2^63 < 2 := Nat.div_lt_of_lt_mul hb
  rw [← Nat.div_add_mod a (2^63), ← Nat.div_add_mod b (2^63)]
  -- sign and magnitude as variables: `omega` is slow on 64-bit numerals
  generalize a % 2^63 = ma at *
  generalize b % 2^63 = mb at *
  generalize a / 2^63 = sa at *
  generalize b / 2^63 = sb at *
  clear ha hb
  have ca : sa = 0 ∨ sa = 1 := by omega
  have cb : sb = 0 ∨ sb = 1 := by omega
  rcases ca with rfl | rfl <;> rcases cb with rfl | rfl <;> simp at h <;> omega

theorem f64_lawful : LawfulOn (fun b : Nat => b < 2^64) (fun a b => compare (f64TotalKey a) (f64TotalKey b)) :=
  int_lawful.comap f64TotalKey (fun _ _ => trivial) f64TotalKey_inj

theorem cmp_of_rank_ne (a b : Value) (h : a.rank ≠ b.rank) : Value.cmp a b = compare a.rank b.rank := by
  -- `eq_10`: the catch-all arm; each of the nine same-kind arms would make the ranks equal
  apply Value.cmp.eq_10 <;> intros <;> subst_vars <;> exact h rfl

/-- `Ord for Value` is a total order consistent with `=` on well-formed values: ranks first, and the
    values of one kind are ordered as their payloads. -/
theorem value_lawful : LawfulOn Value.WF Value.cmp := by
  have lists {α} (l : List α) : AllP (fun _ => True) l := fun _ _ => trivial
  refine LawfulOn.of_kinds Value.rank cmp_of_rank_ne (fun
    | 1 => .of bool_lawful .bool (fun _ _ _ _ => rfl) fun _ _ => Value.bool.inj
    | 2 => .of int_lawful .i32 (fun _ _ _ _ => rfl) fun _ _ => Value.i32.inj
    | 3 => .of int_lawful .i64 (fun _ _ _ _ => rfl) fun _ _ => Value.i64.inj
    | 4 => .of f64_lawful .f64 (fun _ _ _ _ => rfl) fun _ _ => Value.f64.inj
    | 5 => .of int_lawful .ts (fun _ _ _ _ => rfl) fun _ _ => Value.ts.inj
    | 6 => .of (lex_lawful nat_lawful) .str (fun _ _ _ _ => rfl) fun _ _ => Value.str.inj
    | 7 => .of (lenThenLex_lawful nat_lawful) .vec (fun _ _ _ _ => rfl) fun _ _ => Value.vec.inj
    | 8 => .of (lenThenLex_lawful int_lawful) .vec8 (fun _ _ _ _ => rfl) fun _ _ => Value.vec8.inj
    | _ => .of ((TP.const (P := fun _ : Unit => True)).lawful fun _ _ _ _ => ⟨fun _ => rfl, fun _ => rfl⟩)
        (fun _ => .null) (fun _ _ _ _ => rfl) fun _ _ _ => rfl) fun a wa => ?_
  cases a
  case null => exact ⟨(), trivial, rfl⟩
  case f64 => exact ⟨_, wa, rfl⟩
  case str => exact ⟨_, lists _, rfl⟩
  case vec => exact ⟨_, lists _, rfl⟩
  case vec8 => exact ⟨_, lists _, rfl⟩
  all_goals exact ⟨_, trivial, rfl⟩

/-- **C31, values.** For all (well-formed) values `a b c`: compare-equal ⇔ `==`; `==` ⇒ equal hasher
    input; antisymmetry; transitivity. -/
theorem C31_values (a b c : Value) (ha : Value.WF a) (hb : Value.WF b) (hc : Value.WF c) :
    ((Value.cmp a b = .eq) ↔ (Value.eq a b = true)) ∧
    (Value.eq a b = true → Value.hashKey a = Value.hashKey b) ∧
    (Value.cmp b a = (Value.cmp a b).swap) ∧
    (Value.cmp a b ≠ .gt → Value.cmp b c ≠ .gt → Value.cmp a c ≠ .gt) := by
  refine ⟨?_, ?_, value_lawful.swap a b ha hb, value_lawful.trans a b c ha hb hc⟩
  · rw [Value.eq_iff]; exact value_lawful.eq_iff a b ha hb
  · intro h; rw [(Value.eq_iff a b).1 h]

theorem tuple_eq_iff_eq : ∀ a b : Tuple, Tuple.eq a b = true ↔ a = b := Tuple.eq_iff

/-- the tuple order is lawful (this is `C31_tuples` packaged for reuse). -/
theorem tuple_lawful : LawfulOn (AllP Value.WF) Tuple.cmp := lex_lawful value_lawful

/-- **C31, tuples inherit the laws** (lexicographic lift). -/
theorem C31_tuples (a b c : Tuple) (ha : AllP Value.WF a) (hb : AllP Value.WF b) (hc : AllP Value.WF c) :
    ((Tuple.cmp a b = .eq) ↔ (Tuple.eq a b = true)) ∧
    (Tuple.eq a b = true → Tuple.hashKey a = Tuple.hashKey b) ∧
    (Tuple.cmp b a = (Tuple.cmp a b).swap) ∧
    (Tuple.cmp a b ≠ .gt → Tuple.cmp b c ≠ .gt → Tuple.cmp a c ≠ .gt) := by
  have L := tuple_lawful
  refine ⟨?_, ?_, L.swap a b ha hb, L.trans a b c ha hb hc⟩
  · rw [tuple_eq_iff_eq]; exact L.eq_iff a b ha hb
  · intro h; rw [(tuple_eq_iff_eq a b).1 h]

/-- the awkward values are inside the theorem's domain: 0.0, -0.0, a NaN, and a NaN vector. -/
example : Value.WF (.f64 0) ∧ Value.WF (.f64 (2^63)) ∧ Value.WF (.f64 0x7ff8000000000000) ∧
    Value.WF (.vec [0x7fc00000]) := by decide +kernel

/-- and the laws are not vacuous on them: -0.0 < 0.0 < NaN, none of them `==` another. -/
example : Value.cmp (.f64 (2^63)) (.f64 0) = .lt ∧ Value.cmp (.f64 0) (.f64 0x7ff8000000000000) = .lt ∧
    Value.eq (.f64 0) (.f64 (2^63)) = false ∧ Value.eq (.vec [0x7fc00000]) (.vec [0x7fc00000]) = true := by
  decide +kernel

/-- **C31, consumer of the order (consolidate.rs).** Because compare-equal and `==` coincide, sorting
    by `cmp` and merging `==` neighbours computes the exact net multiplicity of *every* tuple, emits
    no zero entries and no tuple twice — for all update lists. (On the pinned tree this failed for
    signed-zero and NaN tuples; it is what recovery after restart relies on.) -/
theorem C31_consolidate (l : List Upd) (hl : ∀ u ∈ l, AllP Value.WF u.data) :
    (∀ t, sumFor t (consolidateToCurrent l) = sumFor t l) ∧
    (∀ u ∈ consolidateToCurrent l, u.diff ≠ 0) ∧
    (consolidateToCurrent l).Pairwise (fun a b => Tuple.cmp a.data b.data = .lt) := by
  have hsorted := pairwise_stableSort leData (fun u => AllP Value.WF u.data)
    (leData_total tuple_lawful) (leData_trans tuple_lawful) l hl
  have hmem : ∀ u ∈ stableSort leData l, AllP Value.WF u.data :=
    fun u hu => hl u ((mem_stableSort leData u l).1 hu)
  have hsum : ∀ t, sumFor t (stableSort leData l) = sumFor t l := fun t => sumFor_stableSort leData t l
  unfold consolidateToCurrent
  cases hs : stableSort leData l with
  | nil =>
    rw [hs] at hsum
    exact ⟨fun t => by simpa [sumFor] using hsum t, by simp, by simp⟩
  | cons u us =>
    rw [hs] at hsorted hmem hsum
    have hu := hmem u (by simp)
    have hus : WFU (AllP Value.WF) us := fun w hw => hmem w (by simp [hw])
    obtain ⟨i1, i2, i3⟩ := mergeRun_spec tuple_lawful us u hu hus hsorted
    exact ⟨fun t => by rw [i1 t, hsum t], fun w hw => (i2 w hw).1, i3⟩

example : consolidateToCurrent [⟨[.f64 0], 1, 1⟩, ⟨[.f64 (2^63)], 2, 1⟩, ⟨[.f64 0], 3, -1⟩] = [⟨[.f64 (2^63)], 2, 1⟩] := by
  decide +kernel

end ILV.Props.C31
