/-
  C35 — Ordered and paginated results are exact slices.
  Model: ILV.Model.WireSort (`compare_wire_values`, `sort_rows`, `apply_pagination` and their call
  site in src/protocol/handler.rs).  Spec: the page is `take limit (drop offset s)` for some permutation
  `s` of the answer that is sorted in the exact order the annotations denote (ties in any order; rows
  with a NaN sort key may stand anywhere), and `total = |answer|`.
  After the repair of `compare_wire_values` (NaN after every number; Int64 against Float64 compared
  exactly) the comparator is a total preorder on all values and the full statement holds.
-/
import ILV.Lemmas.PageSpec
import ILV.Gen.C35
namespace ILV.Props.C35
open ILV

/-- `apply_pagination` is `take limit ∘ drop offset` (no limit: everything from `offset` on). -/
theorem paginate_spec (rows : List WRow) (limit offset : Option Nat) :
    applyPagination rows limit offset =
      match limit with
      | some n => (rows.drop (offset.getD 0)).take n
      | none => rows.drop (offset.getD 0) :=
  applyPagination_eq rows limit offset

/-- `sort_rows` returns a permutation of its input, whatever the comparator does. -/
theorem sort_perm (a : List WRow) (keys : List SortKey) : (sortRows a keys).Perm a := by
  unfold sortRows
  split
  · exact List.Perm.refl _
  · exact stdInsertionSort_perm _ a

/-- the reported total is the size of the full answer, for all inputs (sorting loses no row). -/
theorem total_is_answer_size (a : List WRow) (keys : List SortKey) (limit offset : Option Nat) :
    (queryPage a keys limit offset).1 = a.length :=
  (sort_perm a keys).length_eq

example : applyPagination [[.i64 1], [.i64 2], [.i64 3], [.i64 4]] (some 2) (some 1) = [[.i64 2], [.i64 3]] ∧
    applyPagination [[.i64 1], [.i64 2]] (some 5) (some 7) = [] ∧
    applyPagination [[.i64 1], [.i64 2]] none (some 1) = [[.i64 2]] := by decide +kernel

/-- **`compare_wire_values` is a total preorder** on all optional wire values (Int64 holding an `i64`):
    antisymmetric up to ties and transitive — NaN, ±0, integers beyond 2^53 against doubles included. -/
theorem compareWire_total_preorder : TP OptWF compareWire := compareWire_tp

/-- hence so is the closure `sort_rows` hands to `sort_by`, for every key list and all rows: the
    contract of `slice::sort_by` is always met, it never panics and returns the stable sorted permutation. -/
theorem sort_closure_total_preorder (keys : List SortKey) : TP RowWF (rowCmp keys) := rowCmp_tp keys

/-- 1.0 ≤ NaN ≤ 0.0 no longer "implies" 1.0 ≤ 0.0: NaN is above every number; and the integers around
    2^53 are ordered exactly against 2^53.0. -/
example :
    compareWV (.f64 0x3ff0000000000000) (.f64 0x7ff8000000000000) = .lt ∧
    compareWV (.f64 0x7ff8000000000000) (.f64 0) = .gt ∧
    compareWV (.f64 0xfff8000000000000) (.i64 5) = .gt ∧
    compareWV (.i64 9007199254740993) (.f64 0x4340000000000000) = .gt ∧
    compareWV (.f64 0x4340000000000000) (.i64 9007199254740992) = .eq ∧
    compareWV (.f64 0x8000000000000000) (.i64 0) = .eq ∧ compareWV (.f64 0) (.f64 0x8000000000000000) = .eq := by decide +kernel

/-- **C35, full statement**: for every answer (of well-formed rows), every key list, limit and offset:
    the reported total is the answer size and the page is `take limit (drop offset s)` for a permutation
    `s` of the answer that is sorted by the annotations — w.r.t. the comparator on all rows (NaN keys last
    in ascending order) and hence w.r.t. the exact Spec order on the rows without a NaN key.
    Sorting cannot fail: the closure is a total preorder (`sort_closure_total_preorder`). -/
theorem C35 (a : List WRow) (keys : List SortKey) (limit offset : Option Nat) (hw : ∀ r ∈ a, RowWF r) :
    (queryPage a keys limit offset).1 = a.length ∧
    ∃ s : List WRow, s.Perm a ∧
      (keys ≠ [] → s.Pairwise (fun x y => rowCmp keys x y ≠ .gt) ∧ SpecSorted keys s) ∧
      (keys = [] → s = a) ∧
      (queryPage a keys limit offset).2 =
        match limit with
        | some n => (s.drop (offset.getD 0)).take n
        | none => s.drop (offset.getD 0) := by
  refine ⟨total_is_answer_size a keys limit offset, sortRows a keys, sort_perm a keys, ?_, ?_, ?_⟩
  · intro hk
    have hne : keys.isEmpty = false := List.isEmpty_eq_false_iff.2 hk
    have hs := stdInsertionSort_sorted a (rowCmp keys) (preorderOn_rows keys a hw)
    have hsort : (sortRows a keys).Pairwise (fun x y => rowCmp keys x y ≠ .gt) := by
      unfold sortRows; simpa [hne] using hs
    refine ⟨hsort, ?_⟩
    unfold SpecSorted
    have hsub := List.Pairwise.sublist (List.filter_sublist (p := nfRow keys) (l := sortRows a keys)) hsort
    refine List.Pairwise.imp_of_mem ?_ hsub
    intro x y hx hy hxy
    have nx : rowHasNaNKey keys x = false := nfRow_false (List.mem_filter.1 hx).2
    have ny : rowHasNaNKey keys y = false := nfRow_false (List.mem_filter.1 hy).2
    rw [specRowCmp_eq keys x y nx ny]; exact hxy
  · intro hk; subst hk; rfl
  · unfold queryPage
    exact applyPagination_eq _ _ _

/-- **the executable Spec oracle decides the Spec of a page** (the check's verdicts on the implementation's
    output are verdicts about the proposition below, both ways). -/
theorem oracle_decides_spec (keys : List SortKey) (a : List WRow) (limit offset : Option Nat) (page : List WRow)
    (hw : ∀ r ∈ a, RowWF r) :
    specPageOk keys a limit offset page = true ↔ PageSpec keys a limit offset page :=
  specPageOk_iff keys a limit offset page hw

/-- **C35 in oracle form** (the statement that used to be refuted): the oracle accepts the model's page,
    for every answer of well-formed rows, every key list, limit and offset. -/
theorem C35_statement (a : List WRow) (keys : List SortKey) (limit offset : Option Nat) (hw : ∀ r ∈ a, RowWF r) :
    (queryPage a keys limit offset).1 = a.length ∧
    specPageOk keys a limit offset (queryPage a keys limit offset).2 = true := by
  obtain ⟨ht, s, hperm, hsorted, hnil, hpage⟩ := C35 a keys limit offset hw
  refine ⟨ht, (specPageOk_iff keys a limit offset _ hw).2 ?_⟩
  unfold PageSpec
  by_cases hk : keys = []
  · simp only [hk, if_true]
    rw [hk] at hpage
    rw [hpage, hnil hk]; rfl
  · simp only [hk, if_false]
    exact ⟨s, hperm, (hsorted hk).2, by rw [hpage]; rfl⟩

/-- without annotations the answer's own order is kept and the page is its exact slice. -/
theorem C35_no_annotations (a : List WRow) (limit offset : Option Nat) :
    (queryPage a [] limit offset).2 =
      match limit with
      | some n => (a.drop (offset.getD 0)).take n
      | none => a.drop (offset.getD 0) := by
  unfold queryPage sortRows
  exact applyPagination_eq _ _ _

/-- the former witnesses of the two defect families are now sorted (and accepted by the oracle);
    a non-trivial multi-key page. -/
example :
    sortRows [[.f64 0x4008000000000000], [.f64 0x7ff8000000000000], [.f64 0x3ff0000000000000]] [(0, false)]
      = [[.f64 0x3ff0000000000000], [.f64 0x4008000000000000], [.f64 0x7ff8000000000000]] ∧
    sortRows [[.i64 9007199254740993], [.f64 0x4340000000000000], [.i64 9007199254740992]] [(0, false)]
      = [[.f64 0x4340000000000000], [.i64 9007199254740992], [.i64 9007199254740993]] ∧
    specPageOk [(0, false)] [[.i64 9007199254740993], [.f64 0x4340000000000000], [.i64 9007199254740992]] none none
      (queryPage [[.i64 9007199254740993], [.f64 0x4340000000000000], [.i64 9007199254740992]] [(0, false)] none none).2 = true ∧
    (let a : List WRow := [[.i64 2, .str [98]], [.null, .str [97]], [.i64 1, .str [98]], [.i64 2, .str [97]], [.i64 1, .str [99]]]
     (queryPage a [(1, true), (0, false)] (some 2) (some 1)).2 = [[.i64 1, .str [98]], [.i64 2, .str [98]]]) := by decide +kernel

def rep : String → Option WVal
  | "null" => some .null | "i32" => some (.i32 1) | "i64" => some (.i64 1) | "f64" => some (.f64 0x3ff0000000000000)
  | "str" => some (.str [97]) | "bool" => some (.bool true) | "ts" => some (.ts 1) | "vec" => some (.vec [0x3f800000])
  | "vec8" => some (.vec8 [1]) | "bytes" => some (.bytes [1]) | _ => none

def ordName : Ordering → String
  | .lt => "lt" | .eq => "eq" | .gt => "gt"

/-- the model's rank function is the code's, variant by variant (table regenerated from /repo on every run). -/
theorem rank_table_ok :
    ILV.Gen.C35.wireRank.length = 10 ∧
    ILV.Gen.C35.wireRank.all (fun (k, r) => (rep k).map WVal.rank == some r) = true := by decide +kernel

/-- and so is the comparison of every ordered pair of variants (on the representatives). -/
theorem cross_table_ok :
    ILV.Gen.C35.wireCross.length = 100 ∧
    ILV.Gen.C35.wireCross.all (fun (a, b, o) =>
      match rep a, rep b with
      | some x, some y => ordName (compareWV x y) == o
      | _, _ => false) = true := by decide +kernel

end ILV.Props.C35
