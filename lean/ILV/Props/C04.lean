/-
  C04 — Answers are independent of clause order, clause repetition and engine history; queries
  never change the stored base facts.

  Model: `Engine.run` over program *lists* (ILV.Model.Engine) and the engine object
  `EngineObj` whose only state surviving a run is `input_tuples`.
  (a)+(b) are one statement: two programs with the same *set* of rules and the same final query
  clause have the same answer. False of the faithful model for mutual recursion
  (`C04_refuted_mutual`: cycles are evaluated in text order) and when reordering changes which head
  is the last one (`C04_refuted_last_head`); proved for the fragment of C01 (`C04_partial`).
  (c)+(d): `C04_reuse`, `C04_base_unchanged` (with all switches off the code never writes
  `input_tuples`; the magic-set seeds written when that switch is on are outside this model and are
  checked on the real engine by the correspondence).
-/
import ILV.Props.C01
namespace ILV.Props.C04
open ILV ILV.DL ILV.Engine

/-- order / repetition independence at full strength. -/
def C04_statement : Prop :=
  ∀ (p p' : Program) (edb : DB) (hash hash' : Tuple → Nat) (ord ord' : String → List Tuple → List Tuple)
    (fuel fuel' : Nat) (A A' : List Tuple) (acc acc' : DB),
    sameRules p p' → p.getLast? = p'.getLast? →
    Engine.run allOff hash ord fuel p edb = .ok A acc →
    Engine.run allOff hash' ord' fuel' p' edb = .ok A' acc' →
    MemEq A A'

open ILV.Props.C01 in
/-- even/odd with the two clauses of the cycle in the other order: the answer changes. -/
def evenOdd' : Program := [
  { hrel := "b", hargs := [.var "Y"], body := [a1 "a" "X", a2 "e" "X" "Y"] },
  { hrel := "a", hargs := [.var "X"], body := [a1 "n" "X"] },
  { hrel := "a", hargs := [.var "Y"], body := [a1 "b" "X", a2 "e" "X" "Y"] },
  { hrel := "q", hargs := [.var "X"], body := [a1 "b" "X"] } ]
open ILV.Props.C01 in
def evenOdd'' : Program := [
  { hrel := "a", hargs := [.var "X"], body := [a1 "n" "X"] },
  { hrel := "a", hargs := [.var "Y"], body := [a1 "b" "X", a2 "e" "X" "Y"] },
  { hrel := "b", hargs := [.var "Y"], body := [a1 "a" "X", a2 "e" "X" "Y"] },
  { hrel := "q", hargs := [.var "X"], body := [a1 "b" "X"] } ]

theorem C04_refuted_mutual : ¬ C04_statement := by
  intro h
  have h1 : Engine.run allOff C01.noHash C01.anyOrd 8 evenOdd' C01.chain =
      .ok [] [("q", []), ("a", [[.i64 0]]), ("b", [])] := by decide +kernel
  have h2 : Engine.run allOff C01.noHash C01.anyOrd 8 evenOdd'' C01.chain =
      .ok [[.i64 1]] [("q", [[.i64 1]]), ("b", [[.i64 1]]), ("a", [[.i64 0]])] := by decide +kernel
  have hs : sameRules evenOdd' evenOdd'' := sameRules_of_B (by decide +kernel)
  have := h evenOdd' evenOdd'' C01.chain _ _ _ _ 8 8 _ _ _ _ hs (by decide +kernel) h1 h2
  have := (this [.i64 1]).2 (by decide)
  revert this; decide

example : Drv.C01.hasMutualRecursiveScc evenOdd' = true := by decide +kernel

/-- `a.. ; b.. ; a..` against `b.. ; a.. ; a..` (last clause kept): the first answers `b`, the second `a`. -/
def lastHead1 : Program := [
  { hrel := "a", hargs := [.var "X"], body := [C01.a1 "n" "X"] },
  { hrel := "b", hargs := [.var "Y"], body := [C01.a1 "a" "X", C01.a2 "e" "X" "Y"] },
  { hrel := "a", hargs := [.var "Y"], body := [C01.a2 "e" "X" "Y"] } ]
def lastHead2 : Program := [
  { hrel := "b", hargs := [.var "Y"], body := [C01.a1 "a" "X", C01.a2 "e" "X" "Y"] },
  { hrel := "a", hargs := [.var "X"], body := [C01.a1 "n" "X"] },
  { hrel := "a", hargs := [.var "Y"], body := [C01.a2 "e" "X" "Y"] } ]

theorem C04_refuted_last_head :
    sameRules lastHead1 lastHead2 ∧ lastHead1.getLast? = lastHead2.getLast? ∧
    (Engine.run allOff C01.noHash C01.anyOrd 8 lastHead1 C01.chain).toWire = "i64:1;i64:2" ∧
    (Engine.run allOff C01.noHash C01.anyOrd 8 lastHead2 C01.chain).toWire = "i64:0;i64:1;i64:2" := by
  exact ⟨sameRules_of_B (by decide +kernel), by decide +kernel, by decide +kernel, by decide +kernel⟩

/-- the fragment of C01 plus "every head is executed". -/
def inFragmentAll (p : Program) (edb : DB) : Bool :=
  inFragment p edb && (heads p).all (execOrder p).contains

/-- the hypotheses are met by the chain of C01 and a reordering of it with a repeated clause. -/
def chain3' : Program := [
  { hrel := "a", hargs := [.var "X", .var "X"], body := [C01.a1 "n" "X"] },
  { hrel := "c", hargs := [.var "X"], body := [.pos ⟨"e", [.var "X", .const (.i64 0)]⟩] },
  { hrel := "a", hargs := [.var "X", .var "Y"], body := [C01.a2 "e" "X" "Y"] },
  { hrel := "b", hargs := [.var "X", .var "Z"], body := [C01.a2 "a" "X" "Y", C01.a2 "e" "Y" "Z", .neg ⟨"c", [.var "Z"]⟩] },
  { hrel := "a", hargs := [.var "X", .var "X"], body := [C01.a1 "n" "X"] },
  { hrel := "q", hargs := [.var "X", .var "Y"], body := [C01.a2 "b" "X" "Y"] } ]

example : inFragmentAll C01.chain3 C01.chain3Db = true ∧ inFragmentAll chain3' C01.chain3Db = true ∧
    queryRel C01.chain3 = queryRel chain3' ∧ C01.chain3.all simpleRule = true ∧
    execOrder chain3' ≠ execOrder C01.chain3 ∧
    (Engine.run allOff C01.noHash C01.anyOrd 8 chain3' C01.chain3Db).toWire = "i64:1,i64:0;i64:2,i64:1" := by
  decide +kernel

example : sameRules C01.chain3 chain3' := sameRules_of_B (by decide +kernel)

/-- no negated atom mentions its own head (what stratification demands of a self-loop). -/
def noNegSelf (p : Program) : Bool := p.all (fun r => r.negAtoms.all (fun a => a.rel != r.hrel))

/-- **(a)+(b) with self-recursive heads.** Same set of rules, same query relation, both programs in
    `inFragmentRec` (only self-loops, aggregate-free, exactly the heads executed), no negated
    self-reference, clauses evaluated faithfully, both runs answer: the answers are equal. Each
    run's database is, head by head, the least closed set (`run_least`); such databases are unique
    (`least_le`) and the notion only depends on the rule set (`leastFor_sameRules`). -/
theorem C04_partial_rec (p p' : Program) (edb : DB) (hash hash' : Tuple → Nat)
    (ord ord' : String → List Tuple → List Tuple) (fuel fuel' : Nat) (A A' : List Tuple) (acc acc' : DB)
    (hsame : sameRules p p') (hq : queryRel p = queryRel p')
    (hf : inFragmentRec p edb = true) (hf' : inFragmentRec p' edb = true)
    (hns : noNegSelf p = true) (hcf : ClauseFaithful p)
    (hrun : Engine.run allOff hash ord fuel p edb = .ok A acc)
    (hrun' : Engine.run allOff hash' ord' fuel' p' edb = .ok A' acc') :
    MemEq A A' := by
  have hneg : ∀ r, r ∈ p → ∀ a, a ∈ r.negAtoms → a.rel ≠ r.hrel := by
    intro r hr a ha
    have := List.all_eq_true.1 (List.all_eq_true.1 hns r hr) a ha
    simpa using this
  have hneg' : ∀ r, r ∈ p' → ∀ a, a ∈ r.negAtoms → a.rel ≠ r.hrel := fun r hr => hneg r ((hsame r).2 hr)
  obtain ⟨hL, hnon, hA⟩ := run_least p edb hash ord fuel A acc hf hcf hneg hrun
  obtain ⟨hL', hnon', hA'⟩ := run_least p' edb hash' ord' fuel' A' acc' hf' (clauseFaithful_sameRules hsame hcf) hneg' hrun'
  obtain ⟨hdep, hheads, _, _, hagg, hlastq⟩ := inFragmentRec_parts hf
  obtain ⟨_, _, hall', _, _, _⟩ := inFragmentRec_parts hf'
  have hL2 : ∀ g, g ∈ execOrder p → LeastFor p (lkOf edb acc') g := by
    intro g hg
    exact leastFor_sameRules hsame _ g (hL' g (hall' g ((sameRules_heads hsame g).1 (hheads g hg))))
  have hnon2 : ∀ r, r ∉ heads p → lkOf edb acc r = lkOf edb acc' r := by
    intro r hr
    rw [hnon r hr, hnon' r (fun hc => hr ((sameRules_heads hsame r).2 hc))]
  have hqm : queryRel p ∈ execOrder p := List.mem_of_getLast? hlastq
  have := least_le p hagg (lkOf edb acc) (lkOf edb acc') hnon2 (execOrder p) [] hdep hL hL2 (fun r hr => by cases hr) (queryRel p) hqm
  rw [hA, hq, hA'] at this
  exact this

/-- **(a)+(b)** Two programs with the same set of rules (any order, any repetition) and the same
    query relation, both in the fragment, clauses evaluated faithfully: the answers are equal. -/
theorem C04_partial (p p' : Program) (edb : DB) (hash hash' : Tuple → Nat)
    (ord ord' : String → List Tuple → List Tuple) (fuel fuel' : Nat) (A A' : List Tuple) (acc acc' : DB)
    (hsame : sameRules p p') (hq : queryRel p = queryRel p')
    (hf : inFragmentAll p edb = true) (hf' : inFragmentAll p' edb = true) (hcf : ClauseFaithful p)
    (hrun : Engine.run allOff hash ord fuel p edb = .ok A acc)
    (hrun' : Engine.run allOff hash' ord' fuel' p' edb = .ok A' acc') :
    MemEq A A' := by
  have hfr := (Bool.and_eq_true_iff.1 hf).1
  refine C04_partial_rec p p' edb hash hash' ord ord' fuel fuel' A A' acc acc' hsame hq
    (inFragmentRec_of_inFragment hfr) (inFragmentRec_of_inFragment (Bool.and_eq_true_iff.1 hf').1) ?_ hcf hrun hrun'
  exact List.all_eq_true.2 fun r hr => List.all_eq_true.2 fun a ha => by
    simpa using neg_not_self_of_inFragment hfr r hr a ha

/-- transitive closure with the recursive clause first vs. last and a repeated clause. -/
def tc1 : Program := [
  { hrel := "t", hargs := [.var "X", .var "Z"], body := [C01.a2 "t" "X" "Y", C01.a2 "e" "Y" "Z"] },
  { hrel := "t", hargs := [.var "X", .var "Y"], body := [C01.a2 "e" "X" "Y"] },
  { hrel := "q", hargs := [.var "X", .var "Y"], body := [C01.a2 "t" "X" "Y"] } ]
def tc2 : Program := [
  { hrel := "t", hargs := [.var "X", .var "Y"], body := [C01.a2 "e" "X" "Y"] },
  { hrel := "t", hargs := [.var "X", .var "Z"], body := [C01.a2 "t" "X" "Y", C01.a2 "e" "Y" "Z"] },
  { hrel := "t", hargs := [.var "X", .var "Y"], body := [C01.a2 "e" "X" "Y"] },
  { hrel := "q", hargs := [.var "X", .var "Y"], body := [C01.a2 "t" "X" "Y"] } ]

example : sameRulesB tc1 tc2 = true ∧ inFragmentRec tc1 C01.chain = true ∧ inFragmentRec tc2 C01.chain = true ∧
    noNegSelf tc1 = true ∧ tc1.all filterRule = true ∧
    (Engine.run allOff C01.noHash C01.anyOrd 8 tc2 C01.chain).toWire = "i64:0,i64:1;i64:0,i64:2;i64:1,i64:2" := by
  decide +kernel

/-- the engine object: the only state that survives a run is `input_tuples`
    (program, IR nodes, strata are overwritten by every `parse`/`build_ir`, lib.rs:600-867). -/
structure EngineObj where
  input : DB

/-- one `execute_tuples` call on the object (switches off: no write to `input_tuples`). -/
def EngineObj.exec (hash : Tuple → Nat) (ord : String → List Tuple → List Tuple) (fuel : Nat)
    (e : EngineObj) (p : Program) : EngineObj × Outcome :=
  (e, Engine.run allOff hash ord fuel p e.input)

def EngineObj.execAll (hash : Tuple → Nat) (ord : String → List Tuple → List Tuple) (fuel : Nat) :
    EngineObj → List Program → EngineObj
  | e, [] => e
  | e, p :: ps => EngineObj.execAll hash ord fuel (e.exec hash ord fuel p).1 ps

/-- **(d)** any history of queries leaves the stored base facts unchanged. -/
theorem C04_base_unchanged (hash : Tuple → Nat) (ord : String → List Tuple → List Tuple) (fuel : Nat)
    (e : EngineObj) (hist : List Program) : (EngineObj.execAll hash ord fuel e hist).input = e.input := by
  induction hist generalizing e with
  | nil => rfl
  | cons p ps ih => exact ih _

/-- **(c)** the answer on a reused engine is the answer on a fresh one. -/
theorem C04_reuse (hash : Tuple → Nat) (ord : String → List Tuple → List Tuple) (fuel : Nat)
    (e : EngineObj) (hist : List Program) (p : Program) :
    ((EngineObj.execAll hash ord fuel e hist).exec hash ord fuel p).2 = (e.exec hash ord fuel p).2 := by
  unfold EngineObj.exec
  rw [C04_base_unchanged]

example : ((EngineObj.execAll C01.noHash C01.anyOrd 8 ⟨C01.chain3Db⟩ [C01.evenOdd, chain3']).exec C01.noHash C01.anyOrd 8 C01.chain3).2.toWire
    = "i64:1,i64:0;i64:2,i64:1" := by decide +kernel

end ILV.Props.C04
