/-
  C36 — Probabilistic and hash indexes never lose keys.
  Model: ILV.Model.Index (src/bloom_filter.rs, src/hash_index.rs).  The two base hashes of a key are
  a parameter (`h1 h2 : Nat`, resp. `h : Tuple → Nat × Nat`); nothing is assumed about them.
  Helper lemmas: ILV.Lemmas.Bloom, ILV.Lemmas.Index.  Key equality of the hash map is `Tuple`'s `==`,
  which is `=` (`Tuple.eq_iff`, the fact behind C31's `tuple_eq_iff_eq`).
-/
import ILV.Lemmas.Index
namespace ILV.Props.C36
open ILV

/-- **No false negatives.**  For every well-formed filter state, every history of `insert`/`clear`,
    and every hash pair: a pair inserted since the last `clear` is reported as possibly present. -/
theorem bloom_no_false_negative (b : Bloom) (w : b.WF) (ops : List BloomOp) (h1 h2 : Nat)
    (hin : insertedSinceClear h1 h2 ops = true) : (b.runOps ops).mightContain h1 h2 = true :=
  no_false_negative ops b w h1 h2 hin

/-- … in particular for every filter `BloomFilter::with_params(num_bits, num_hashes)` can build,
    all sizes included (`num_bits < 64`, `num_hashes = 0` or `> 32`). -/
theorem bloom_no_false_negative_with_params (numBits numHashes : Nat) (ops : List BloomOp) (h1 h2 : Nat)
    (hin : insertedSinceClear h1 h2 ops = true) :
    ((Bloom.withParams numBits numHashes).runOps ops).mightContain h1 h2 = true :=
  bloom_no_false_negative _ (Bloom.withParams_WF _ _) ops h1 h2 hin

/-- … and for every filter `BloomFilter::new(n, p)` can build, whatever its two float expressions
    evaluate to. -/
theorem bloom_no_false_negative_new (rawBits rawK : Nat) (ops : List BloomOp) (h1 h2 : Nat)
    (hin : insertedSinceClear h1 h2 ops = true) :
    ((Bloom.newFrom rawBits rawK).runOps ops).mightContain h1 h2 = true :=
  bloom_no_false_negative _ (Bloom.newFrom_WF _ _) ops h1 h2 hin

/-- key-level reading: hashing is any function `hp` of the key; an inserted key is found. -/
theorem bloom_no_false_negative_keys {κ} [DecidableEq κ] (hp : κ → Nat × Nat) (b : Bloom) (w : b.WF)
    (pre post : List κ) (k : κ) :
    let ins := fun x => BloomOp.ins (hp x).1 (hp x).2
    (b.runOps ((pre ++ k :: post).map ins)).mightContain (hp k).1 (hp k).2 = true := by
  intro ins
  have hm : insertedSinceClear (hp k).1 (hp k).2 ((pre ++ k :: post).map ins) = true := by
    induction pre with
    | nil =>
      simp only [List.nil_append, List.map_cons, insertedSinceClear]
      by_cases hs : insertedSinceClear (hp k).1 (hp k).2 (post.map ins) = true
      · simp [hs]
      · have : (post.map ins).any (· == BloomOp.clear) = false := by
          simp [List.any_eq_false, ins]
        simp [hs, this, ins]
    | cons p pre ih =>
      simp only [List.cons_append, List.map_cons, insertedSinceClear, ih, if_true]
  exact bloom_no_false_negative b w _ _ _ hm

/-- the bits are monotone under `insert`: no positive answer is ever revoked without a `clear`. -/
theorem bloom_bits_monotone (b : Bloom) (h1 h2 x y : Nat) (hc : b.mightContain x y = true) :
    (b.insert h1 h2).mightContain x y = true :=
  mightContain_insert_mono b h1 h2 x y hc

/-- hypotheses are satisfiable and the statement is not vacuous: a degenerate filter
    (`with_params(0, 0)` → 64 bits, 1 hash), wrapping hashes, a `clear` in the middle. -/
example :
    let b := Bloom.withParams 0 0
    let ops := [BloomOp.ins 5 7, .clear, .ins (2^64 - 1) (2^64 - 1), .ins 12345678901234567890 9876543210987654321]
    b.WF ∧ b.numBits = 64 ∧ b.numHashes = 1 ∧
    insertedSinceClear (2^64 - 1) (2^64 - 1) ops = true ∧ insertedSinceClear 5 7 ops = false ∧
    (b.runOps ops).mightContain (2^64 - 1) (2^64 - 1) = true ∧ (b.runOps ops).mightContain 5 7 = false := by
  refine ⟨Bloom.withParams_WF 0 0, ?_⟩
  decide +kernel

/-- **The hash index refines the multiset of stored tuples.**  For every hash function, every key-column
    list (out-of-range columns included), every well-formed initial bloom filter and every history of
    insert / remove / rebuild / get / get_with_bloom / probe / might_contain_key / len, each output of
    the index is the output of the multiset machine: `get k` = the stored tuples whose key columns equal
    `k` (in insertion order, hence in particular as multisets; `None` iff there are none), `remove t`
    reports whether `t` was stored and deletes one occurrence, `len` = number of stored tuples. -/
theorem index_refines_multiset (h : Tuple → Nat × Nat) (cols : List Nat) (b0 : Bloom) (w : b0.WF)
    (ops : List IxOp) :
    outsOk ops (HIndex.run h (HIndex.new cols b0) ops).2 (specRun cols [] ops) :=
  (run_refines h ops (HIndex.new cols b0) [] (IxInv.new h cols b0 w)).1

/-- **The bloom filter covers the index keys** in every reachable state, so the bloom-guarded lookup
    equals the plain lookup (`remove` never clears bits; `build_from_tuples` clears map and filter
    together). -/
theorem bloom_covers_index_keys (h : Tuple → Nat × Nat) (cols : List Nat) (b0 : Bloom) (w : b0.WF)
    (ops : List IxOp) (k : Tuple) :
    let ix := (HIndex.run h (HIndex.new cols b0) ops).1
    ((ix.get k).isSome = true → ix.mightContainKey h k = true) ∧ ix.getWithBloom h k = ix.get k := by
  intro ix
  obtain ⟨st', inv⟩ := (run_refines h ops (HIndex.new cols b0) [] (IxInv.new h cols b0 w)).2
  refine ⟨?_, inv.getWithBloom_eq k⟩
  intro hs
  cases hg : ix.get k with
  | none => rw [hg] at hs; cases hs
  | some v => exact inv.map.covers k v hg

/-- `num_keys` is the number of map entries in every reachable state and no entry is empty (so the
    `-= 1` in `remove` never underflows). -/
theorem index_counters_exact (h : Tuple → Nat × Nat) (cols : List Nat) (b0 : Bloom) (w : b0.WF)
    (ops : List IxOp) :
    let ix := (HIndex.run h (HIndex.new cols b0) ops).1
    ix.numKeys = ix.index.length ∧ ∀ k v, ix.get k = some v → v ≠ [] := by
  intro ix
  obtain ⟨st', inv⟩ := (run_refines h ops (HIndex.new cols b0) [] (IxInv.new h cols b0 w)).2
  exact ⟨inv.nkeys, inv.map.nonempty⟩

/-- a concrete non-trivial history: duplicates, a removal that empties a key, a rebuild, an
    out-of-range key column, a constant (colliding) hash function. -/
example :
    let h : Tuple → Nat × Nat := fun _ => (3, 5)
    let t12 : Tuple := [.i64 1, .i64 2]
    let t13 : Tuple := [.i64 1, .i64 3]
    let t24 : Tuple := [.i64 2, .i64 4]
    let ops := [IxOp.ins t12, .ins t13, .ins t12, .ins t24, .get [.i64 1], .rem t24, .get [.i64 2],
                .rem t24, .build [t24, t13], .getB [.i64 1], .len]
    (HIndex.run h (HIndex.new [0, 7] (Bloom.newFrom 959 7)) ops).2 =
      [.unit, .unit, .unit, .unit, .rows (some [t12, t13, t12]), .bool true, .rows none,
       .bool false, .unit, .rows (some [t13]), .nat 2] ∧
    specRun [0, 7] [] ops = (HIndex.run h (HIndex.new [0, 7] (Bloom.newFrom 959 7)) ops).2 := by
  decide +kernel

end ILV.Props.C36
