/-
  C22 — Every answer can be explained.

  Spec   : a tuple of the perfect model whose reference derivation depth (`refDepth`: least stage of
           the staged evaluation, a stored fact having depth 1 — the depth of its shallowest proof
           tree) is within the depth limit must get a *complete* tree (`Tree.complete`: no `Truncated`
           node — in particular not the handler's fallback root — and no `Fact{Derived}` leaf).
  Model  : `whyTree` (ILV.Model.Prov), the same chainer model as C21, with `max_depth`, the cycle set
           `visited`, `max_proofs_per_tuple` and the memo table `seen` (steps resting on a truncated
           premise are not memoised).
-/
import ILV.Lemmas.ProvComplete
namespace ILV.Props.C22
open ILV ILV.Prov

/-- **C22 at full strength about the model chainer.** -/
def C22_statement : Prop :=
  ∀ (prog : Program) (base M : DB) (rel : String) (t : Tuple) (depth k : Nat),
    prog.supported = true → pmEval prog base = some M → memL t (world base M rel) = true →
    refDepth prog base M rel t = some k → k ≤ depth →
    (whyTree { rules := prog, base := base, derived := some M, maxDepth := depth } rel t).complete = true

/-! Witness 1 (known finding `cycle_cut_memoized`): left-linear closure over the chain 1→2→3→4→5,
    base clause first (the order `RuleCatalog::all_rules` produces). While proving `path(1,3)` (inside
    `path(1,5)`) the chainer meets `path(1,4)` with `path(1,3)` and `path(1,5)` on the `visited` stack:
    the only remaining candidate `path(1,2), e(2,4)` fails, no rule proof is found, the fallback
    `Fact{Derived} path(1,4)` is inserted *and memoised*; the root then uses that memoised leaf.
    `path(1,5)` has a derivation of depth 5 ≤ 50. -/
def w1Prog : Program :=
  [⟨⟨"path", [.var "X", .var "Y"]⟩, [.pos ⟨"e", [.var "X", .var "Y"]⟩]⟩,
   ⟨⟨"path", [.var "X", .var "Y"]⟩, [.pos ⟨"path", [.var "X", .var "Z"]⟩, .pos ⟨"e", [.var "Z", .var "Y"]⟩]⟩]
def w1Base : DB := [("e", [[.i64 1, .i64 2], [.i64 2, .i64 3], [.i64 3, .i64 4], [.i64 4, .i64 5]])]
def w1M : DB := [("path", [[.i64 1, .i64 2], [.i64 2, .i64 3], [.i64 3, .i64 4], [.i64 4, .i64 5],
  [.i64 1, .i64 3], [.i64 2, .i64 4], [.i64 3, .i64 5], [.i64 1, .i64 4], [.i64 2, .i64 5], [.i64 1, .i64 5]])]

theorem C22_refuted : ¬ C22_statement := by
  intro h
  have := h w1Prog w1Base w1M "path" [.i64 1, .i64 5] 50 5 (by decide +kernel) (by decide +kernel) (by decide +kernel) (by decide +kernel) (by decide +kernel)
  revert this
  decide +kernel

/-! The former second witness (finding `memo_truncated_reuse`, fixed: a rule step resting on a
    `Truncated` premise is no longer memoised): `reach(X) <- f(X)`, `reach(Y) <- reach(X), e(X,Y)`,
    `f = {1,2}`, `e = {(2,3)}`, limit 3 — `reach(3)` now gets its complete depth-3 proof. -/
def w2Prog : Program :=
  [⟨⟨"reach", [.var "X"]⟩, [.pos ⟨"f", [.var "X"]⟩]⟩,
   ⟨⟨"reach", [.var "Y"]⟩, [.pos ⟨"reach", [.var "X"]⟩, .pos ⟨"e", [.var "X", .var "Y"]⟩]⟩]
def w2Base : DB := [("e", [[.i64 2, .i64 3]]), ("f", [[.i64 1], [.i64 2]])]
def w2M : DB := [("reach", [[.i64 1], [.i64 2], [.i64 3]])]
example : (whyTree { rules := w2Prog, base := w2Base, derived := some w2M, maxDepth := 3 } "reach" [.i64 3]).complete = true := by
  decide +kernel

/-- **C22_partial (build_complete).** For every program of the fragment `c22Fragment` (decidable:
    positive bodies only, supported terms, *non-recursive* — a rank table `rk` with every body relation
    strictly below its head —, relations with rules store no facts and only they have derived tuples,
    canonical data), every derived data `M` that is a supported model (`supportedModel`, decidable: each
    derived tuple is produced by some clause over the world — true of the perfect model), every stored
    or derived tuple and every depth limit above the rank of its relation (= the height of the rule DAG
    below it), the tree `.why` returns is complete: no `Truncated` node — in particular not the fallback
    root — and no unexplained `Fact{Derived}` leaf. Proof: induction on the depth tower = on the rank;
    the cycle cut never fires (ranks strictly decrease along the `visited` stack), every true sub-goal
    is found among the candidates and has a non-empty proof list, so the derived-fact fallback and the
    truncation node are never created (ILV.Lemmas.ProvComplete.level_c). The refutation above needs recursion. -/
theorem C22_partial (prog : Program) (base M : DB) (rk : List (String × Nat)) (rel : String) (t : Tuple)
    (depth : Nat) (hf : c22Fragment prog base M rk = true) (hs : supportedModel prog base M = true)
    (hmem : t ∈ M.get rel ∨ t ∈ base.get rel) (hdepth : rankOf rk rel < depth)
    (harity : truncateToArity { rules := prog, base := base, derived := some M, maxDepth := depth } rel t = t) :
    (whyTree { rules := prog, base := base, derived := some M, maxDepth := depth } rel t).complete = true :=
  whyTree_complete prog base M rk rel t depth hf hs hmem hdepth harity

/-- the hypotheses are met by a non-trivial three-level program with joins, a head constant, a body
    constant, a wildcard and two clauses per head; the depth limit 3 is exactly rank + 1. -/
def pProg : Program :=
  [⟨⟨"a1", [.var "X", .var "Y"]⟩, [.pos ⟨"e", [.var "X", .var "Y"]⟩]⟩,
   ⟨⟨"a1", [.var "X", .var "X"]⟩, [.pos ⟨"f", [.var "X"]⟩]⟩,
   ⟨⟨"a2", [.var "X", .int 7]⟩, [.pos ⟨"a1", [.var "X", .var "Z"]⟩, .pos ⟨"a1", [.var "Z", .wild]⟩, .pos ⟨"e", [.int 1, .var "Z"]⟩]⟩]
def pBase : DB := [("e", [[.i64 1, .i64 2], [.i64 2, .i64 3]]), ("f", [[.i64 3]])]
def pM : DB := [("a1", [[.i64 1, .i64 2], [.i64 2, .i64 3], [.i64 3, .i64 3]]), ("a2", [[.i64 1, .i64 7]])]
def pRk : List (String × Nat) := [("e", 0), ("f", 0), ("a1", 1), ("a2", 2)]

example : (whyTree { rules := pProg, base := pBase, derived := some pM, maxDepth := 3 } "a2" [.i64 1, .i64 7]).complete = true :=
  C22_partial pProg pBase pM pRk "a2" [.i64 1, .i64 7] 3 (by decide +kernel) (by decide +kernel) (by decide +kernel) (by decide +kernel) (by decide +kernel)

end ILV.Props.C22
