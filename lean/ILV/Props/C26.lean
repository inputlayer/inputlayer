/-
  C26 — Vector and temporal builtins obey their laws.
  Models: ILV.Model.Lsh (probes, hyperplane cache, buckets), ILV.Model.VecOps (distances,
  quantisation) over the float parameter ILV.Model.FloatOps, ILV.Model.Temporal.
  Helper lemmas: ILV.Lemmas.Probes / Cache / Dist / Quant / Temporal.
  The float laws `FloatLaws F` are hypotheses; `toyFloat_laws` shows they are satisfiable, the
  `c26.law` correspondence samples them on Rust's arithmetic.
-/
import ILV.Lemmas.Probes
import ILV.Lemmas.Cache
import ILV.Lemmas.Dist
import ILV.Lemmas.Quant
import ILV.Lemmas.Temporal
namespace ILV.Props.C26
open ILV ILV.Lsh ILV.VecOps ILV.Temporal List

/-! ## (d) probe sequences -/

/-- For every duplicate-free order `idx` of hyperplane indices below 64 (the code's `0..n'` or the
    order produced by *any* sort of the boundary distances), bucket pattern `b` and cut `m`:
    the sequence starts at the bucket, has no duplicates, its Hamming distance to the bucket never
    decreases, and its length is `min m (1 + C(n,1) + C(n,2) + C(n,3))`. -/
theorem C26_probesOf (b : Nat) (idx : List Nat) (m : Nat) (hnd : idx.Nodup) (hlt : ∀ i ∈ idx, i < 64) :
    (probesOf b idx m).head? = (if m = 0 then none else some b) ∧
    (probesOf b idx m).Nodup ∧
    (probesOf b idx m).Pairwise (fun p q => hamming b p ≤ hamming b q) ∧
    (probesOf b idx m).length = min m (1 + idx.length + idx.length.choose 2 + idx.length.choose 3) :=
  ⟨head?_probesOf b idx m, nodup_probesOf b hnd m, pairwise_hamming_probesOf b hnd hlt m, length_probesOf b idx m⟩

/-- `lsh_probes(bucket, num_hyperplanes, num_probes)`, all arguments. -/
theorem C26_probes (b n m : Nat) :
    (probes b n m).head? = (if m = 0 then none else some b) ∧
    (probes b n m).Nodup ∧
    (probes b n m).Pairwise (fun p q => hamming b p ≤ hamming b q) ∧
    (probes b n m).length = min m (1 + min n 62 + (min n 62).choose 2 + (min n 62).choose 3) := by
  have h := C26_probesOf b (List.range (min n 62)) m nodup_range fun i hi =>
    Nat.lt_of_lt_of_le (mem_range.1 hi) (Nat.le_trans (Nat.min_le_right n 62) (by decide))
  rw [length_range] at h
  exact h

example : probes 53 8 5 = [53, 52, 55, 49, 61] := by decide +kernel

/-- `lsh_probes_ranked(bucket, distances, num_probes)` for *any* comparison `lt` of the distances
    (so also for whatever order Rust's sort leaves when NaNs make the comparator inconsistent). -/
theorem C26_probes_ranked {α} (lt : α → α → Bool) (b : Nat) (d : List α) (m : Nat) :
    let n := min d.length 62
    (probesRanked lt b d m).head? = (if m = 0 then none else some b) ∧
    (probesRanked lt b d m).Nodup ∧
    (probesRanked lt b d m).Pairwise (fun p q => hamming b p ≤ hamming b q) ∧
    (probesRanked lt b d m).length = min m (1 + n + n.choose 2 + n.choose 3) := by
  intro n
  have hp := sortIdx_perm lt (d.take 62)
  have hlen : (d.take 62).length = n := length_take.trans (Nat.min_comm _ _)
  have hnd : (sortIdx lt (d.take 62)).Nodup := hp.nodup_iff.2 nodup_range
  have hlt : ∀ i ∈ sortIdx lt (d.take 62), i < 64 := fun i hi =>
    Nat.lt_of_lt_of_le (mem_range.1 (hp.subset hi)) (hlen ▸ Nat.le_trans (Nat.min_le_right _ 62) (by decide))
  have h := C26_probesOf b (sortIdx lt (d.take 62)) m hnd hlt
  rw [hp.length_eq, length_range, hlen] at h
  exact h

example : probesRanked (fun (x y : Nat) => decide (x < y)) 5 [10, 0, 20] 8 = [5, 7, 4, 1, 6, 3, 0, 2] := by decide +kernel

/-- the repaired sort puts NaN distances last and keeps ties in index order: `none` plays the NaN. -/
example : probesRanked (fun (x y : Option Nat) => match x, y with
      | some a, some b => decide (a < b) | some _, none => true | none, _ => false)
    0 [none, some 3, some 3, none, some 1] 6 = [0, 16, 2, 4, 1, 8] := by decide +kernel

/-! ## (c) the hyperplane cache and bucket determinism -/

/-- Every atomic step of the cache preserves "cached entry = gen key". -/
theorem C26_cache_step_invariant {V} (gen : Key → V) (c : Cache V) (h : Inv gen c) (s : Step) :
    Inv gen (step gen c s).1 := step_inv h s

/-- Any sequence of atomic steps from the empty cache — in particular any interleaving of any number
    of threads running `get_or_create_hyperplanes`, `clear_lsh_cache`, `configure_lsh_cache_size` —
    hands out, for a lookup of key `k`, nothing or exactly `gen k`. -/
theorem C26_cache_any_schedule {V} (gen : Key → V) (ss : List Step) :
    ∀ p ∈ ss.zip (run gen ({} : Cache V) ss).2, ∀ v, p.2 = some v → ∃ k, Step.key? p.1 = some k ∧ v = gen k :=
  (run_inv (gen := gen) (c := ({} : Cache V)) (fun _ he => nomatch he) ss).2

/-- The read-then-upgrade window of `get_or_create_hyperplanes`: whatever other threads do (`mid`)
    between a miss under the read lock and the write-lock section, the value obtained is `gen k`. -/
theorem C26_get_or_create_interleaved {V} (gen : Key → V) (c : Cache V) (h : Inv gen c) (k : Key) (mid : List Step) :
    (∀ v, (step gen c (.probe k)).2 = some v → v = gen k) ∧
    (step gen (run gen (step gen c (.probe k)).1 mid).1 (.fill k)).2 = some (gen k) := by
  exact ⟨fun v hv => probe_ret h k hv, fill_ret (run_inv (step_inv h (.probe k)) mid).1 k⟩

/-- `lsh_bucket(v, table, n)` computed through a cache in any state reachable from the empty cache
    equals the pure function of `(v, table, n)`; the invariant is kept. -/
theorem C26_bucket_deterministic (F : FloatOps) (hash : Nat → Nat) (c : Cache (List (List F.F32)))
    (h : Inv (genHyperplanes F hash) c) (v : List F.F32) (t : Int) (n : Nat) :
    (lshBucket F hash c v t n).2 = lshBucketPure F hash v t n ∧
    Inv (genHyperplanes F hash) (lshBucket F hash c v t n).1 := by
  unfold lshBucket lshBucketPure
  split
  · exact ⟨rfl, h⟩
  · obtain ⟨c', hc', e⟩ := getOrCreate_spec h (bucketKey t n v.length)
    rewrite [e]
    dsimp only  -- reduce the `match` syntactically; left to unification, `rfl` would unfold the bucket computation
    exact ⟨rfl, hc'⟩

/-- the same for `lsh_bucket_with_distances` / `lsh_bucket_int8` (f64 accumulation). -/
theorem C26_bucket_dist_deterministic (F : FloatOps) (hash : Nat → Nat) (c : Cache (List (List F.F32)))
    (h : Inv (genHyperplanes F hash) c) (v : List F.F64) (t : Int) (n : Nat) :
    (lshBucketDist F hash c v t n).2 = lshBucketDistPure F hash v t n ∧
    Inv (genHyperplanes F hash) (lshBucketDist F hash c v t n).1 := by
  unfold lshBucketDist lshBucketDistPure
  split
  · exact ⟨rfl, h⟩
  · obtain ⟨c', hc', e⟩ := getOrCreate_spec h (bucketKey t n v.length)
    rewrite [e]
    dsimp only
    exact ⟨rfl, hc'⟩

/-- the invariant is met by a non-trivial state: one cached key after a miss, full cache. -/
example : Inv (fun k : Key => k.2.1) (step (fun k : Key => k.2.1) { max := 1 } (.fill (0, 8, 3))).1 :=
  step_inv (fun _ he => (List.not_mem_nil he).elim) _
example : ((step (fun k : Key => k.2.1) (step (fun k : Key => k.2.1) { max := 1 } (.fill (0, 8, 3))).1 (.fill (1, 9, 3))).1.entries.map (·.key))
    = [(1, 9, 3)] := by decide +kernel

/-! ## temporal predicates -/

theorem C26_overlap_symm (s1 e1 s2 e2 : Int) : intervalsOverlap s1 e1 s2 e2 = intervalsOverlap s2 e2 s1 e1 := by
  unfold intervalsOverlap; exact Bool.and_comm _ _

/-- two well-formed intervals overlap iff they share a point. -/
theorem C26_overlap_iff (s1 e1 s2 e2 : Int) (h1 : s1 ≤ e1) (h2 : s2 ≤ e2) :
    intervalsOverlap s1 e1 s2 e2 = true ↔ ∃ t, s1 ≤ t ∧ t ≤ e1 ∧ s2 ≤ t ∧ t ≤ e2 := by
  rw [intervalsOverlap_iff]
  constructor
  · exact fun h => ⟨max s1 s2, le_max_left _ _, max_le h1 h.2, le_max_right _ _, max_le h.1 h2⟩
  · exact fun ⟨t, a1, b1, a2, b2⟩ => ⟨le_trans a1 b2, le_trans a2 b1⟩

example : intervalsOverlap 0 5 5 9 = true ∧ intervalsOverlap 0 4 5 9 = false := by decide

theorem C26_contains_refl (s e : Int) : intervalContains s e s e = true :=
  (intervalContains_iff s e s e).2 ⟨le_refl s, le_refl e⟩

theorem C26_contains_trans (s1 e1 s2 e2 s3 e3 : Int)
    (h12 : intervalContains s1 e1 s2 e2 = true) (h23 : intervalContains s2 e2 s3 e3 = true) :
    intervalContains s1 e1 s3 e3 = true := by
  rw [intervalContains_iff] at *
  exact ⟨le_trans h12.1 h23.1, le_trans h23.2 h12.2⟩

example : intervalContains 0 10 1 9 = true ∧ intervalContains 1 9 2 8 = true := by decide

theorem C26_point_in_interval_iff (t s e : Int) : pointInInterval t s e = true ↔ s ≤ t ∧ t ≤ e := by
  unfold pointInInterval
  rw [Bool.and_eq_true, decide_eq_true_eq, decide_eq_true_eq, ge_iff_le]

theorem C26_between_eq_point (t s e : Int) : timeBetween t s e = pointInInterval t s e := rfl

/-- a containing interval overlaps every non-empty interval it contains. -/
theorem C26_contains_overlap (s1 e1 s2 e2 : Int) (hne : s2 ≤ e2) (h : intervalContains s1 e1 s2 e2 = true) :
    intervalsOverlap s1 e1 s2 e2 = true := by
  rw [intervalContains_iff] at h
  exact (intervalsOverlap_iff _ _ _ _).2 ⟨le_trans h.1 hne, le_trans hne h.2⟩

example : (2 : Int) ≤ 8 ∧ intervalContains 0 10 2 8 = true := by decide

/-- the saturating operations stay in the `i64` range and are exact whenever the exact result fits. -/
theorem C26_time_arith (a b : Int) :
    InI64 (timeAdd a b) ∧ InI64 (timeSub a b) ∧ InI64 (timeDiff a b) ∧
    (InI64 (a + b) → timeAdd a b = a + b) ∧ (InI64 (a - b) → timeSub a b = a - b ∧ timeDiff a b = a - b) :=
  ⟨sat_inI64 _, sat_inI64 _, sat_inI64 _, sat_of_inI64, fun h => ⟨sat_of_inI64 h, sat_of_inI64 h⟩⟩

/-- `within_last` means: the timestamp is not in the future and at most `d` old (saturated age). -/
theorem C26_within_last_iff (ts now d : Int) (h : InI64 (now - ts)) :
    withinLast ts now d = true ↔ ts ≤ now ∧ now - ts ≤ d := by
  show (decide (sat (now - ts) ≥ 0) && decide (sat (now - ts) ≤ d)) = true ↔ _
  rw [sat_of_inI64 h, Bool.and_eq_true, decide_eq_true_eq, decide_eq_true_eq, ge_iff_le, Int.sub_nonneg]

/-! ## (a) distance laws over the float parameter -/

/-- symmetry of the five float distances (bit-identical results) for NaN-free inputs. -/
theorem C26_dist_symmetric (F : FloatOps) (L : FloatLaws F) (a b : List F.F32) (ha : NoNaN F a) (hb : NoNaN F b) :
    euclid F a b = euclid F b a ∧ euclidSq F a b = euclidSq F b a ∧ cosine F a b = cosine F b a ∧
    dot F a b = dot F b a ∧ manhattan F a b = manhattan F b a :=
  ⟨euclid_symm L a b ha hb, euclidSq_symm L a b ha hb, cosine_symm L a b ha hb, dot_symm L a b ha hb, manhattan_symm L a b ha hb⟩

/-- non-negativity (IEEE `0 ≤ d`, so in particular not NaN) for finite inputs, any lengths. -/
theorem C26_dist_nonneg (F : FloatOps) (L : FloatLaws F) (a b : List F.F32) (ha : AllFin F a) (hb : AllFin F b) :
    F.ge0_64 (euclid F a b) = true ∧ F.ge0_64 (euclidSq F a b) = true ∧ F.ge0_64 (manhattan F a b) = true :=
  ⟨euclid_ge0 L a b ha hb, euclidSq_ge0 L a b ha hb, manhattan_ge0 L a b ha hb⟩

/-- zero on identical finite inputs: exactly `+0.0` (`-0.0` for the empty vector). -/
theorem C26_dist_zero_identical (F : FloatOps) (L : FloatLaws F) (a : List F.F32) (ha : AllFin F a) :
    euclid F a a = (if a.isEmpty then F.negZero64 else F.zero64) ∧
    manhattan F a a = (if a.isEmpty then F.negZero64 else F.zero64) :=
  ⟨euclid_self L a ha, manhattan_self L a ha⟩

/-- cosine distance of equally long vectors: NaN, or within `[0, 2]`. -/
theorem C26_cosine_range (F : FloatOps) (L : FloatLaws F) (a b : List F.F32) (h : a.length = b.length) :
    F.isNaN64 (cosine F a b) = true ∨
      (F.le64 F.zero64 (cosine F a b) = true ∧ F.le64 (cosine F a b) F.two64 = true) :=
  cosine_range L a b h

/-- cosine distance of a vector to itself: the three accumulators coincide, so the result is
    `1 - clamp(s / (√s·√s))`; if that float expression is within `eps` of zero for every `s`
    (hypothesis `SqrtRoundTrip`, 2^-50 for binary64), so is `cosine a a` unless it is a NaN. -/
theorem C26_cosine_identical (F : FloatOps) (a : List F.F32) (eps : F.F64) (H : SqrtRoundTrip F eps)
    (hn : F.isNaN64 (cosine F a a) = false) : F.le64 (cosine F a a) eps = true :=
  cosine_self a eps H hn

/-- the hypotheses are satisfiable, non-trivially: exact integers satisfy the laws, and the theorems
    give the expected values there. -/
example : FloatLaws toyFloat := toyFloat_laws
example : toyVal (euclid toyFloat (toyVec [3, 0]) (toyVec [0, 4])) = 5 ∧ toyVal (euclid toyFloat (toyVec [0, 4]) (toyVec [3, 0])) = 5 := by decide +kernel
example : AllFin toyFloat (toyVec [3, -4]) ∧ NoNaN toyFloat (toyVec [3, -4]) := ⟨fun _ _ => rfl, fun _ _ => rfl⟩
example : toyVal (manhattan toyFloat (toyVec [3, -4]) (toyVec [3, -4])) = 0 ∧ toyVal (cosine toyFloat (toyVec [3, 4]) (toyVec [3, 4])) = 0 := by decide +kernel

/-- int8 distances accumulate in exact integers: symmetric for all inputs, zero accumulators on identical ones. -/
theorem C26_int8_symmetric (F : FloatOps) (a b : List Int) :
    euclidI8 F a b = euclidI8 F b a ∧ dotI8 F a b = dotI8 F b a ∧ manhattanI8 F a b = manhattanI8 F b a :=
  ⟨euclidI8_symm a b, dotI8_symm a b, manhattanI8_symm a b⟩

theorem C26_int8_zero_identical (F : FloatOps) (a : List Int) :
    euclidI8 F a a = F.sqrt64 (F.ofInt64 0) ∧ manhattanI8 F a a = F.ofInt64 0 :=
  ⟨euclidI8_self a, manhattanI8_self a⟩

/-- int8 cosine distance of an all-zero vector to itself is `0.0` (after
    `fix: cosine_distance_int8 of two zero vectors is 0`), as for the f32 version. -/
theorem C26_int8_cosine_zero_identical (F : FloatOps) (n : Nat) :
    cosineI8 F (List.replicate n 0) (List.replicate n 0) = F.zero64 := cosineI8_zero_self n

example : toyVal (cosineI8 toyFloat [0, 0] [0, 0]) = 0 ∧ toyVal (cosineI8 toyFloat [0, 0] [1, 2]) = 1 := by decide +kernel

/-! ## (b) quantisation round trip, in exact arithmetic -/

/-- symmetric quantisation with scale `s` followed by division by `s` moves a value by at most
    half a quantisation step `1/s` (the code's `s` is `127 / max|v|`, its inverse `max|v| / 127`);
    the floating-point run adds the roundings of `127/m`, `x*s` and `q*(m/127)`, budgeted as
    `2^-10` step in the Spec oracle. -/
theorem C26_quant_roundtrip (x s : ℚ) (hs : 0 < s) : |x - (round (x * s) : ℚ) / s| ≤ 1 / (2 * s) :=
  quant_roundtrip x s hs

/-- the affine (linear/min-max) quantiser: `q = round((x-min)/range·255 - 128)`, inverse
    `min + (q+128)·range/255`. -/
theorem C26_quant_linear_roundtrip (x mn range : ℚ) (hr : 0 < range) :
    |x - (mn + ((round ((x - mn) / range * 255 - 128) : ℚ) + 128) * range / 255)| ≤ range / 255 / 2 :=
  quant_linear_roundtrip x mn range hr

example : |(0.3 : ℚ) - (round ((0.3 : ℚ) * 127) : ℚ) / 127| ≤ 1 / (2 * 127) := C26_quant_roundtrip _ _ (by norm_num)

end ILV.Props.C26
