/-
  C12 — every stored value kind survives restart unchanged.
  Codec model: ILV.Model.Batch (WAL JSON line, batch-file columns typed by the first update);
  engine model: ILV.Model.Store. Lemmas: ILV.Lemmas.BatchCodec, ILV.Lemmas.RealCodec
  (`Admissible`, `realCodec_ok`), ILV.Lemmas.StoreRun.
-/
import ILV.Lemmas.RealCodec
import ILV.Props.C11
namespace ILV.Props.C12
open ILV ILV.Batch ILV.Store ILV.Props.C31

def sameSet (a b : List Tuple) : Prop := ∀ t, t ∈ a ↔ t ∈ b

/-- **decode ∘ encode = id on homogeneous buffers**: all tuples share one kind vector — any kinds
    (`Null`, `Timestamp`, vectors of dimension 0 included), any arity (0 included). Bit-exact: values are
    bit patterns, `-0.0` and NaN payloads included. -/
theorem C12_homogeneous (ks : List DType) (us : List Update)
    (h : ∀ u ∈ us, u.data.map dataType = ks) : batchCodec us = .ok us :=
  batchCodec_homog ks us h

/-- a WAL line is read back unchanged iff it holds no non-finite float (the serde_json round trip of
    finite values being the trusted parameter). -/
theorem C12_wal_line (u : Update) (h : u.data.all jsonSafe = true) : walCodec u = some u := walCodec_safe u h

/-- **C12 for homogeneous relations**: with the real codec, immediate durability, any buffer size and
    WAL limit, every history of effective requests over admissible tuples (with saves, compactions and
    restarts anywhere) can be reopened and serves exactly the same tuples — same values, same kinds. -/
theorem C12_partial (ks : String → List DType) (cfg : Cfg) (hm : cfg.mode = .immediate) (h : List Op)
    (he : Effective realCodec (Admissible ks) { cfg := cfg } h) (r : String) :
    (restart realCodec (run realCodec cfg h)).2 = none ∧
    sameSet (liveOf (restart realCodec (run realCodec cfg h)).1 r) (liveOf (run realCodec cfg h) r) :=
  C11.C11_partial realCodec (Admissible ks) (realCodec_ok ks) (Admissible_wf ks) cfg hm h he r

/-- **C12 at full strength**: whatever tuples a fresh store accepts in one insert, a restart succeeds
    and serves exactly them. -/
def C12_statement : Prop :=
  ∀ (cfg : Cfg) (r : String) (ts1 ts2 : List Tuple), cfg.mode = .immediate →
    (restart realCodec (run realCodec cfg [.ins r ts1, .ins r ts2])).2 = none ∧
    sameSet (liveOf (restart realCodec (run realCodec cfg [.ins r ts1, .ins r ts2])).1 r)
            (liveOf (run realCodec cfg [.ins r ts1, .ins r ts2]) r)

/-- `[1]` then `["x"]` in one column: `"x"` comes back as `Null`. -/
theorem mixed_witness :
    liveOf (restart realCodec (run realCodec {} [.ins "m" [[.i64 1]], .ins "m" [[.str [120]]]])).1 "m" = [[.null], [.i64 1]] := by
  decide +kernel
/-- repaired: a `Timestamp`, a `Null`, an empty vector and the empty tuple now survive a restart. -/
theorem repaired_witnesses :
    liveOf (restart realCodec (run realCodec {} [.ins "m" [[.ts 9]], .ins "n" [[.null]], .ins "v" [[.vec []]], .ins "z" [[]]])).1 "m" = [[.ts 9]] ∧
    liveOf (restart realCodec (run realCodec {} [.ins "m" [[.ts 9]], .ins "n" [[.null]], .ins "v" [[.vec []]], .ins "z" [[]]])).1 "n" = [[.null]] ∧
    liveOf (restart realCodec (run realCodec {} [.ins "m" [[.ts 9]], .ins "n" [[.null]], .ins "v" [[.vec []]], .ins "z" [[]]])).1 "v" = [[.vec []]] ∧
    liveOf (restart realCodec (run realCodec {} [.ins "m" [[.ts 9]], .ins "n" [[.null]], .ins "v" [[.vec []]], .ins "z" [[]]])).1 "z" = [[]] := by
  decide +kernel
/-- a NaN that is still in the WAL is lost. -/
theorem nan_witness :
    liveOf (restart realCodec (run realCodec {} [.ins "m" [[.f64 0x7ff8000000000000]], .ins "m" []])).1 "m" = [] := by decide +kernel

theorem C12_refuted : ¬ C12_statement := by
  intro h
  have := (h {} "m" [[.i64 1]] [[.str [120]]] rfl).2 [.null]
  rw [mixed_witness] at this
  have h2 := this.1 (by simp)
  revert h2; decide +kernel

/-- columns (Int64, Float64, String, Vector[2], Timestamp, Null); `tA`, `tB` carry `-0.0`, finite floats,
    a non-ASCII string, an empty string: the example below shows that the hypotheses of `C12_partial`
    hold for a non-trivial history over them. -/
def ksEx : String → List DType := fun _ => [.i64, .f64, .str, .vec 2, .ts, .null]
def tA : Tuple := [.i64 1, .f64 0x8000000000000000, .str [195, 169], .vec [0x3f800000, 0x80000000], .ts 9, .null]
def tB : Tuple := [.i64 (-7), .f64 0x3ff8000000000000, .str [], .vec [0, 0x40000000], .ts (-1), .null]

example : Effective realCodec (Admissible ksEx) { cfg := { buffer := 1 } }
    [.ins "m" [tA], .ins "m" [tB], .restart, .del "m" [tA], .compact, .restart] := by decide +kernel

end ILV.Props.C12
