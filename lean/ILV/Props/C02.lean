/-
  C02 — optimizer settings never change answers.

  Spec: for every two switch settings the answers are equal (as sets).  The engine's pipeline is a
  sequence of optional passes (`sip?`, `magic?` on the AST; `jp?`, `ss?`, `bs?` and the always-on basic
  optimizer on the IR, lib.rs:925).  `C02_of_passes` is the composition theorem: if every pass
  preserves the denotation (on the plans the previous stages can produce, `ok`), every subset of
  enabled passes gives the same answer (an `example` instantiates it with two rules of the optimizer).
  For the passes that have a model — Boolean specialisation and the basic optimizer (C05), composed as
  `pipe` — `C02_ir_partial` is proved directly from the C05 theorems (`pipe_false`, `pipe_true`), and
  `C02_ir_refuted` shows what is excluded: under a `Distinct` root Boolean
  specialisation wraps the join below an `Aggregate` in `Distinct`, so `count` depends on the
  switch.  The remaining switches (join planning, SIP, subplan sharing, magic
  sets) have no Lean model; for them C02 is checked per instance on the real engine under all 32
  configurations (request `c02.cfgs`), i.e. at translation-validation level.
-/
import ILV.Props.C05
namespace ILV.Props.C02
open ILV ILV.IR

/-- run the passes whose switch is on, in pipeline order -/
def applyEnabled {P : Type} : List (P → P) → List Bool → P → P
  | f :: fs, b :: bs, p => applyEnabled fs bs (if b then f p else p)
  | _, _, p => p

theorem applyEnabled_preserves {P A : Type} (den : P → A) (ok : P → Prop) :
    ∀ (passes : List (P → P)), (∀ f ∈ passes, ∀ p, ok p → ok (f p) ∧ den (f p) = den p) →
    ∀ (c : List Bool) (p : P), ok p → den (applyEnabled passes c p) = den p
  | [], _, _, _, _ => by simp [applyEnabled]
  | f :: fs, h, [], p, _ => by simp [applyEnabled]
  | f :: fs, h, b :: bs, p, hp => by
    have hf := h f (by simp) p hp
    have ih := applyEnabled_preserves den ok fs (fun g hg => h g (by simp [hg])) bs
    simp only [applyEnabled]
    cases b with
    | true => simpa [hf.2] using ih (f p) hf.1
    | false => simpa using ih p hp

/-- **C02 from the pass theorems**: if every pass preserves the denotation of the plans it can be
    given, all switch settings (`2^n`, 32 for the engine's five switches) give the same answer. -/
theorem C02_of_passes {P A : Type} (den : P → A) (ok : P → Prop) (passes : List (P → P))
    (h : ∀ f ∈ passes, ∀ p, ok p → ok (f p) ∧ den (f p) = den p)
    (c₁ c₂ : List Bool) (p : P) (hp : ok p) :
    den (applyEnabled passes c₁ p) = den (applyEnabled passes c₂ p) := by
  rw [applyEnabled_preserves den ok passes h c₁ p hp, applyEnabled_preserves den ok passes h c₂ p hp]

-- the hypotheses of `C02_of_passes` can be met: the always-true-filter and identity-map eliminations
-- preserve `eval` on every well-formed tree
example (db : Db) (c₁ c₂ : List Bool) (t : Node) (h : wf db t = true) :
    eval db (applyEnabled [elimTrue, elimIdMaps] c₁ t) = eval db (applyEnabled [elimTrue, elimIdMaps] c₂ t) :=
  C02_of_passes (eval db) (fun t => wf db t = true) [elimTrue, elimIdMaps]
    (by
      intro f hf p hp
      simp only [List.mem_cons, List.mem_nil_iff, or_false] at hf
      rcases hf with rfl | rfl
      · exact ⟨(elimTrue_ok db p hp).w, (elimTrue_ok db p hp).ev⟩
      · exact ⟨(elimIdMaps_ok db p hp).w, (elimIdMaps_ok db p hp).ev⟩)
    c₁ c₂ t h

/-! ## the modelled part of `optimize_ir`: `pipe bs = optimize ∘ (specialize if bs)` -/

def C02_ir_statement : Prop :=
  ∀ (db : Db) (t : Node), wf db t = true → ∀ b₁ b₂ : Bool, SetEq (answer db (pipe b₁ t)) (answer db (pipe b₂ t))

/-- refuted: under a `Distinct` root Boolean specialisation wraps the join below the `Aggregate` in
    `Distinct`, `count` is 2 with the switch off and 1 with it on. -/
theorem C02_ir_refuted : ¬ C02_ir_statement := by
  intro h
  have := h C05.dbBS C05.tBS (by decide +kernel) false true [.i64 3, .i64 2]
  revert this
  decide +kernel

theorem pipe_false (db : Db) (t : Node) (h : wf db t = true) :
    answer db (pipe false t) = answer db t := by
  simpa [pipe] using C05.C05_opt_answer db t h

theorem pipe_true (db : Db) (t : Node) (hb : wf db (specialize t).1 = true)
    (ha : analyze t ≠ .boolean ∨ aggFree t = true) :
    SetEq (answer db (pipe true t)) (answer db t) := by
  have h1 : answer db (pipe true t) = answer db (specialize t).1 := by
    simpa [pipe] using C05.C05_opt_answer db _ hb
  rw [h1]
  rcases ha with ha | ha
  · intro x; simp only [answer, C05.C05_bs_partial_counting db t ha]
  · exact C05.C05_bs_partial_aggfree db t ha

/-- strongest restriction proved for the modelled switches: outside the excluded input class of
    C05 (`Aggregate` under a Boolean annotation) the
    answer does not depend on the Boolean-specialisation switch. -/
theorem C02_ir_partial (db : Db) (t : Node) (h : wf db t = true) (hb : wf db (specialize t).1 = true)
    (ha : analyze t ≠ .boolean ∨ aggFree t = true) (b₁ b₂ : Bool) :
    SetEq (answer db (pipe b₁ t)) (answer db (pipe b₂ t)) := by
  have f : SetEq (answer db (pipe false t)) (answer db t) := by
    rw [pipe_false db t h]; exact fun _ => Iff.rfl
  have g := pipe_true db t hb ha
  cases b₁ <;> cases b₂ <;> intro x
  · exact Iff.rfl
  · exact (f x).trans (g x).symm
  · exact (g x).trans (f x).symm
  · exact Iff.rfl

-- `q(Z,X) <- r1(X,Y), r2(Y,Z), X > 1`: hypotheses hold, the two settings produce different plans, same answer
example : let t := Node.map (.filter C05.j12 (.cc .gt 0 1)) [2, 0] ["Z", "X"]
    wf C05.db1 t = true ∧ wf C05.db1 (specialize t).1 = true ∧ aggFree t = true ∧ pipe false t ≠ pipe true t ∧
    answer C05.db1 (pipe true t) = [[.i64 9, .i64 2]] := by decide +kernel

def C02_statement : Prop := C02_ir_statement
theorem C02_refuted : ¬ C02_statement := C02_ir_refuted
theorem C02_partial (db : Db) (t : Node) (h : wf db t = true) (hb : wf db (specialize t).1 = true)
    (ha : analyze t ≠ .boolean ∨ aggFree t = true) (b₁ b₂ : Bool) :
    SetEq (answer db (pipe b₁ t)) (answer db (pipe b₂ t)) := C02_ir_partial db t h hb ha b₁ b₂

end ILV.Props.C02
