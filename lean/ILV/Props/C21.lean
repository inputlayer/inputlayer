/-
  C21 — Proof trees are valid derivations.

  Spec   : `Derivable prog base M rel t` (ILV.Model.ProvSpec): staged derivability from the stored
           facts, negation judged against the world `(base, M)`.
  Checker: `valid prog base M tree : Bool` — the function the driver runs on every proof tree the
           REAL `.why` returns (harness walk of the real `ProofTree`).
  Model  : `whyTree` / `buildProofTree` / `level` (ILV.Model.Prov) — mirror of build_proof_tree,
           build_node, prove_body, enumerate_derived_candidates, unify_head, find_matching_tuples.
  Only property theorems live here; helper lemmas are in ILV.Lemmas.Prov, ProvMatch, ProvInv, ProvChain.
-/
import ILV.Lemmas.ProvChain
import ILV.Lemmas.Prov
import ILV.Model.ProvWire
namespace ILV.Props.C21
open ILV ILV.Prov

/-- **Checker soundness.** If the derived data `M` contains only derivable facts, every tree without
    `Truncated` nodes accepted by `valid` concludes a derivable fact: per-instance checking of the
    real `.why` output by `valid` is therefore a proof that the explained tuple has a derivation whose
    every step is the one the tree shows. (A `Truncated` node is an explicit "not explained further"
    marker; trees containing one are partial by their own admission and are C22's concern.) -/
theorem valid_sound (prog : Program) (base M : DB) (hM : MSound prog base M) (t : Tree)
    (h : valid prog base M t = true) (ht : t.hasTrunc = false) : Derivable prog base M t.pred t.args :=
  valid_sound_aux prog base M hM t h ht

/-! a concrete non-trivial instance: a two-step derivation with a join, a comparison and a
    negated base atom is accepted, hence its conclusion is derivable. -/
def exProg : Program :=
  [⟨⟨"p", [.var "X"]⟩, [.pos ⟨"e", [.var "X", .var "Y"]⟩, .neg ⟨"f", [.var "Y"]⟩, .cmp (.var "X") .lt (.var "Y")]⟩,
   ⟨⟨"q", [.var "X", .int 5]⟩, [.pos ⟨"p", [.var "X"]⟩]⟩]
def exBase : DB := [("e", [[.i64 1, .i64 2], [.i64 1, .i64 3]]), ("f", [[.i64 2]])]
def exTree : Tree :=
  .node (.rule 1 [("X", .i64 1)]) "q" [.i64 1, .i64 5]
    [.node (.rule 0 [("Y", .i64 3), ("X", .i64 1)]) "p" [.i64 1]
      [.node (.fact .edb) "e" [.i64 1, .i64 3] [], .node (.neg [.conc (.i64 3)]) "f" [.i64 3] []]]

example : Derivable exProg exBase [] "q" [.i64 1, .i64 5] :=
  valid_sound exProg exBase [] (fun _ _ h => by simp [memL, DB.get] at h) exTree (by decide +kernel) (by decide +kernel)

/-- the same tree with the refuted choice `Y = 2` (where `f(2)` is stored) is rejected. -/
example : valid exProg exBase []
    (.node (.rule 0 [("Y", .i64 2), ("X", .i64 1)]) "p" [.i64 1]
      [.node (.fact .edb) "e" [.i64 1, .i64 2] [], .node (.neg [.conc (.i64 2)]) "f" [.i64 2] []]) = false := by decide +kernel

/-! Value matching in the Spec is the numeric-aware one of `find_matching_tuples` (`valuesEqual`:
    `Int32`/`Int64` compare numerically): rule literals are narrowed to `Int32` while stored facts are
    `Int64`. A ground negation leaf `!flag(2, 1)` whose probe value is `Int32 1` IS refuted by the stored
    `flag(Int64 2, Int64 1)` — `valid` rejects the tree (a strict-equality probe in the code would produce
    exactly this leaf); through the other binding `P = 3` the tree is accepted; an `Int32` fact leaf for a
    stored `Int64` fact is accepted. -/
def litProg : Program := [⟨⟨"p", [.var "X"]⟩, [.pos ⟨"e", [.var "X", .var "P"]⟩, .neg ⟨"flag", [.var "P", .int 1]⟩]⟩]
def litBase : DB := [("e", [[.i64 1, .i64 2], [.i64 1, .i64 3]]), ("flag", [[.i64 2, .i64 1]])]
example : valid litProg litBase []
    (.node (.rule 0 [("P", .i64 2), ("X", .i64 1)]) "p" [.i64 1]
      [.node (.fact .edb) "e" [.i64 1, .i64 2] [], .node (.neg [.conc (.i64 2), .conc (.i32 1)]) "flag" [.i64 2, .i32 1] []]) = false := by decide +kernel
example : valid litProg litBase []
    (.node (.rule 0 [("P", .i64 3), ("X", .i64 1)]) "p" [.i64 1]
      [.node (.fact .edb) "e" [.i64 1, .i64 3] [], .node (.neg [.conc (.i64 3), .conc (.i32 1)]) "flag" [.i64 3, .i32 1] []]) = true := by decide +kernel
example : valid litProg litBase [] (.node (.fact .edb) "flag" [.i32 2, .i32 1] []) = true := by decide +kernel
/-- and the model chainer (numeric-aware, like the code) explains `p(1)` through `P = 3`. -/
example : (whyTree { rules := litProg, base := litBase, derived := some [("p", [[.i64 1]])] } "p" [.i64 1]).toWire
    = "rule p i64:1 0 P=i64:3;X=i64:1 2 fact e i64:1,i64:3 edb neg flag i64:3,i32:1 c,c" := by decide +kernel

/-- **C21 at full strength, about the model chainer** (repaired code: negated atoms are looked up in
    base and derived data, `enumerate_derived_candidates` checks repeated variables): for every
    well-formed program of the whole stratified fragment — `c21Fragment` is pure well-formedness:
    supported terms, no `_` in heads, safe negation, consistent arities, no NaN constant, no variable
    spelled `_placeholder_…`; negation over derived relations, repeated variables, recursion, several
    clauses per head are all included —, every NaN-free base and derived data in which only relations
    with rules have derived tuples, every depth limit, every relation and every NaN-free tuple (true or
    not), the tree that `.why` returns — including the handler's fallback root — is accepted by `valid`.
    Nothing is assumed about the derived data being correct or complete. -/
def C21_statement : Prop :=
  ∀ (prog : Program) (base M : DB) (rel : String) (tuple : Tuple) (depth : Nat),
    c21Fragment prog = true → derivedOnlyHeads prog M = true →
    goodDB base = true → goodDB M = true → tuple.all goodV = true →
    valid prog base M (whyTree { rules := prog, base := base, derived := some M, maxDepth := depth } rel tuple) = true

/-- **C21 (build_valid), full.** Proof: builder invariant (every node of the DAG locally valid, memo
    table sound, bindings only extended by fresh variables) preserved by `build_node` / `prove_body` /
    the clause loop / the candidate enumerator at every level of the depth tower
    (ILV.Lemmas.ProvChain.level_ok), then unfolded (`valid_unfold`). -/
theorem C21 : C21_statement :=
  fun prog base M rel tuple depth hf hd hb hm ht => whyTree_valid prog base M rel tuple depth hf hd hb hm ht

/-! The two former refutation witnesses (findings `neg_over_derived`, `repeated_var_over_derived`, fixed):
    the repaired chainer now explains `p(1)` through `Y = 3` resp. through the second clause. -/
def w1Prog : Program :=
  [⟨⟨"dr", [.var "Y"]⟩, [.pos ⟨"f", [.var "Y"]⟩]⟩,
   ⟨⟨"p", [.var "X"]⟩, [.pos ⟨"e", [.var "X", .var "Y"]⟩, .neg ⟨"dr", [.var "Y"]⟩]⟩]
def w1Base : DB := [("e", [[.i64 1, .i64 2], [.i64 1, .i64 3]]), ("f", [[.i64 2]])]
def w1M : DB := [("dr", [[.i64 2]]), ("p", [[.i64 1]])]
example : (whyTree { rules := w1Prog, base := w1Base, derived := some w1M } "p" [.i64 1]).toWire
    = "rule p i64:1 1 X=i64:1;Y=i64:3 2 fact e i64:1,i64:3 edb neg dr i64:3 c" := by decide +kernel
example : valid w1Prog w1Base w1M (whyTree { rules := w1Prog, base := w1Base, derived := some w1M } "p" [.i64 1]) = true :=
  C21 w1Prog w1Base w1M "p" [.i64 1] 50 (by decide +kernel) (by decide +kernel) (by decide +kernel) (by decide +kernel) (by decide +kernel)

def w2Prog : Program :=
  [⟨⟨"d", [.var "X", .var "Y"]⟩, [.pos ⟨"e", [.var "X", .var "Y"]⟩, .cmp (.var "X") .lt (.var "Y")]⟩,
   ⟨⟨"z", [.var "X"]⟩, [.pos ⟨"d", [.var "X", .wild]⟩]⟩,
   ⟨⟨"p", [.var "X"]⟩, [.pos ⟨"f", [.var "X"]⟩, .pos ⟨"d", [.var "Y", .var "Y"]⟩]⟩,
   ⟨⟨"p", [.var "X"]⟩, [.pos ⟨"f", [.var "X"]⟩, .pos ⟨"z", [.var "Y"]⟩]⟩]
def w2Base : DB := [("e", [[.i64 2, .i64 3]]), ("f", [[.i64 1]])]
def w2M : DB := [("d", [[.i64 2, .i64 3]]), ("z", [[.i64 2]]), ("p", [[.i64 1]])]
example : valid w2Prog w2Base w2M (whyTree { rules := w2Prog, base := w2Base, derived := some w2M } "p" [.i64 1]) = true :=
  C21 w2Prog w2Base w2M "p" [.i64 1] 50 (by decide +kernel) (by decide +kernel) (by decide +kernel) (by decide +kernel) (by decide +kernel)

/-- the hypotheses of `C21` are met by a non-trivial recursive program with a join, a comparison, a
    head constant, a negated stored relation and a negated *derived* relation. -/
def pProg : Program :=
  [⟨⟨"path", [.var "X", .var "Y"]⟩, [.pos ⟨"e", [.var "X", .var "Y"]⟩]⟩,
   ⟨⟨"path", [.var "X", .var "Y"]⟩, [.pos ⟨"e", [.var "X", .var "Z"]⟩, .pos ⟨"path", [.var "Z", .var "Y"]⟩]⟩,
   ⟨⟨"far", [.var "X", .int 7]⟩, [.pos ⟨"path", [.var "X", .var "Y"]⟩, .neg ⟨"f", [.var "Y"]⟩, .cmp (.var "X") .lt (.var "Y")]⟩,
   ⟨⟨"near", [.var "X"]⟩, [.pos ⟨"e", [.var "X", .wild]⟩, .neg ⟨"far", [.var "X", .wild]⟩]⟩]
def pBase : DB := [("e", [[.i64 1, .i64 2], [.i64 2, .i64 3]]), ("f", [[.i64 2]])]
def pM : DB := [("path", [[.i64 1, .i64 2], [.i64 2, .i64 3], [.i64 1, .i64 3]]), ("far", [[.i64 1, .i64 7], [.i64 2, .i64 7]]), ("near", [])]

example : valid pProg pBase pM
    (whyTree { rules := pProg, base := pBase, derived := some pM, maxDepth := 50 } "far" [.i64 1, .i64 7]) = true :=
  C21 pProg pBase pM "far" [.i64 1, .i64 7] 50 (by decide +kernel) (by decide +kernel) (by decide +kernel) (by decide +kernel) (by decide +kernel)

end ILV.Props.C21
