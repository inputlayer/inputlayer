/-
  C25 — Vector index state follows its history and persists.
  Model: ILV.Model.Hnsw (`src/hnsw_index.rs`: insert / insert_batch / delete / rebuild / save / load).
  Spec: the abstract index `identifier ⇀ vector` with upsert / remove / replace semantics
  (`specStep`), save-load the identity.  Lemmas: ILV.Lemmas.Hnsw.
  After the repair (`insert` / `insert_batch` clear the identifier's tombstone; batches and rebuilds
  are validated before anything is stored) the statement holds for all histories: `C25_full`.
-/
import ILV.Lemmas.Hnsw
import ILV.Lemmas.Dist
namespace ILV.Props.C25
open ILV ILV.Hnsw ILV.VecOps List

/-- C25: for every float model, configuration, dimension `d > 0` and history of accepted operations
    (vectors of dimension `d`, usable norm), the live content of the index (stored minus
    tombstoned) is the abstract map produced by upsert / remove / replace. -/
def C25_statement : Prop :=
  ∀ (F : FloatOps) (cfg : Cfg) (d : Nat) (ops : List (Op F)), 0 < d → PrepIdem F cfg.metric →
    (∀ op ∈ ops, WFOp cfg.metric d op) →
    ∀ i, liveOf (runOps ({ cfg := cfg } : Index F) ops) i = specRun cfg.metric ops i

/-- C25 holds of the repaired wrapper, for all histories (simulation relation `Rel` through insert,
    batch, tombstoning and compacting delete, rebuild, save/load). -/
theorem C25_full : C25_statement := by
  intro F cfg d ops hd hI hw
  have h0 : Rel cfg.metric d ({ cfg := cfg } : Index F) (fun _ => none) :=
    ⟨fun _ => rfl, Or.inl rfl, fun _ hp => (nomatch hp), rfl⟩
  exact (rel_run hd hI ops h0 hw).live

/- the former counterexample (`delete 0` below the compaction threshold, then `insert 0 [5]`): the
    insert clears the tombstone, identifier 0 is live with its latest vector. -/
def witnessCfg : Cfg := { m := 8, efc := 100, efs := 32, metric := .euclidean }
def witnessOps : List (Op toyFloat) :=
  [.insertBatch [(0, toyVec [0]), (1, toyVec [10]), (2, toyVec [20]), (3, toyVec [30])], .delete 0, .insert 0 (toyVec [5]),
   .saveLoad, .delete 3, .delete 2]

theorem C25_witness_wf : ∀ op ∈ witnessOps, WFOp (F := toyFloat) witnessCfg.metric 1 op := by
  intro op hop
  simp only [witnessOps, mem_cons, mem_nil_iff, or_false] at hop
  rcases hop with rfl | rfl | rfl | rfl | rfl | rfl
  · intro e he
    simp only [mem_cons, mem_nil_iff, or_false] at he
    rcases he with rfl | rfl | rfl | rfl <;> exact ⟨rfl, fun h => by cases h⟩
  · trivial
  · exact ⟨rfl, fun h => by cases h⟩
  · trivial
  · trivial
  · trivial

example : toyOptVec (liveOf (runOps ({ cfg := witnessCfg } : Index toyFloat) witnessOps) 0) = some [5] ∧
    toyOptVec (liveOf (runOps ({ cfg := witnessCfg } : Index toyFloat) witnessOps) 3) = none ∧
    (runOps ({ cfg := witnessCfg } : Index toyFloat) witnessOps).tombs = [] := by decide +kernel
example : toyOptVec (specRun witnessCfg.metric witnessOps 0) = some [5] := by decide +kernel

/-- `prepare` is the identity for the metrics that do not normalise, so `PrepIdem` is no extra
    assumption there. -/
theorem C25_prepIdem_l2_l1 (F : FloatOps) : PrepIdem F .euclidean ∧ PrepIdem F .manhattan :=
  ⟨fun _ => rfl, fun _ => rfl⟩

/-- save → load is `rebuild_hnsw` of the same stored state: vectors, tombstones, configuration come
    back unchanged (the metric name round-trips), live content is unchanged, the graph invariant holds. -/
theorem C25_save_load (F : FloatOps) (s : Index F) :
    load (save s) = some (rebuildHnsw { s with inner := none }) ∧
    (∀ s', load (save s) = some s' → s'.vectors = s.vectors ∧ s'.tombs = s.tombs ∧ s'.cfg = s.cfg ∧
      (∀ i, liveOf s' i = liveOf s i) ∧ GraphOk s') := by
  refine ⟨load_save s, fun s' hs' => ?_⟩
  obtain rfl := Option.some.inj ((load_save s).symm.trans hs')
  obtain ⟨hv, ht, hc⟩ := rebuildHnsw_stored ({ s with inner := none } : Index F)
  exact ⟨hv, ht, hc, fun i => liveOf_rebuildHnsw _ i, rebuildHnsw_graphOk _⟩

theorem C25_metric_roundtrip (m : Metric) : parseMetric (metricName m) = some m := parseMetric_metricName m

/-- tombstones: a successful `insert` revives the identifier; a rejected `insert`, `insert_batch` or
    `rebuild` changes nothing; a successful `rebuild` leaves no tombstones. -/
theorem C25_tombstones (F : FloatOps) (s : Index F) (id : Nat) (v : List F.F32) (es : List (Nat × List F.F32)) :
    ((insert s id v).2 = none → isTomb (insert s id v).1 id = false) ∧
    ((insert s id v).2 ≠ none → (insert s id v).1 = s) ∧
    ((insertBatch s es).2 ≠ none → (insertBatch s es).1 = s) ∧
    ((rebuild s es).2 ≠ none → (rebuild s es).1 = s) ∧
    ((rebuild s es).2 = none → (rebuild s es).1.tombs = []) := by
  have hbatch : ∀ es, (insertBatch s es).2 ≠ none → (insertBatch s es).1 = s := fun es => by
    unfold insertBatch
    split
    · exact fun _ => rfl
    · exact fun h => absurd rfl h
  refine ⟨fun h => ?_, ?_, hbatch es, ?_, ?_⟩
  · unfold Hnsw.insert at h ⊢
    split at h
    · cases h
    · dsimp only
      unfold isTomb
      rw [(rebuildHnsw_stored _).2.1, ← isTomb, isTomb_storeVec, bne_self_eq_false, Bool.and_false]
  · rw [insert_eq_insertBatch]
    exact hbatch _
  · unfold rebuild
    split
    · exact fun _ => rfl
    · split <;> exact fun h => absurd rfl h
  · unfold rebuild
    split
    · exact fun h => nomatch h
    · split
      · exact fun _ => rfl
      · exact fun _ => (rebuildHnsw_stored _).2.1

end ILV.Props.C25
