/-
  C23 — Why-not explanations are truthful.

  Spec   : `truthful prog base M rel target expl` (ILV.Model.ProvSpec): a tuple some clause derives must
           not have every clause reported blocked; a tuple no clause derives needs, for every clause, a
           reported blocker that holds (`blockerHolds`).
  Model  : `explainWhyNot` (ILV.Model.Prov) — mirror of explain_why_not run on the context that the
           repaired `why_not_query` builds: rules + base data + the engine's derived data; greedy (first match).
  The driver runs `truthful`/`blockerHolds` on the explanation the REAL `.why_not` returned.
-/
import ILV.Lemmas.ProvWhyNot
namespace ILV.Props.C23
open ILV ILV.Prov

/-- the facts of the world, as a predicate. -/
def InWorld (base M : DB) (rel : String) (t : Tuple) : Prop := t ∈ world base M rel

/-- **Blocker soundness** (body blockers): a reported blocker accepted by `blockerHolds` really
    refutes the clause body under the reported bindings `β` — whatever is true in the world
    `(base, M)`, the body is not satisfied by `β`. -/
theorem blocker_sound (base M : DB) (r : Rule) (target : Tuple) (β : Bindings) (b : Blocker)
    (hb : b ≠ .headMismatch) (h : blockerHolds base M r target β b = true) :
    ¬ SatBody (InWorld base M) (world base M) β r.body := by
  intro hs
  cases b with
  | headMismatch => exact hb rfl
  | atomFailed i rel bts =>
    simp only [blockerHolds] at h
    split at h
    · rename_i a hi
      simp only [Bool.and_eq_true, beq_iff_eq, List.all_eq_true, Bool.not_eq_true'] at h
      obtain ⟨t, ht, hm⟩ := SatBody_get _ _ β r.body i _ hs hi
      have := h.2 t (by rw [← h.1]; exact ht)
      rw [negBlockedBy_of_argsMatch β a t hm] at this
      cases this
    · simp at h
  | negSucceeded i rel t =>
    simp only [blockerHolds] at h
    split at h
    · rename_i a hi
      simp only [Bool.and_eq_true, beq_iff_eq, List.contains_eq_mem, decide_eq_true_eq] at h
      have := SatBody_get _ _ β r.body i _ hs hi t (by rw [h.1.1]; exact h.1.2)
      rw [h.2] at this
      cases this
    · simp at h
  | cmpFailed i =>
    simp only [blockerHolds] at h
    split at h
    · rename_i x op y hi
      have := SatBody_get _ _ β r.body i _ hs hi
      simp only [LitSat] at this
      simp [this] at h
    · simp at h
  | cmpError i =>
    simp only [blockerHolds] at h
    split at h
    · rename_i x op y hi
      have := SatBody_get _ _ β r.body i _ hs hi
      simp only [LitSat] at this
      simp [this] at h
    · simp at h

/-- head blocker: accepted only when the head really does not unify with the target. -/
theorem blocker_sound_head (base M : DB) (r : Rule) (target : Tuple) (β : Bindings)
    (h : blockerHolds base M r target β .headMismatch = true) : unifyHead target r.head = none := by
  simpa [blockerHolds] using h

/-! a concrete non-trivial instance: `g(X) <- e(X,Y), f(Y)`, `e = {(2,2)}`, `f = {3}`:
    "f(2) has no match" under `X=2, Y=2` holds and refutes the body. -/
def exRule : Rule := ⟨⟨"g", [.var "X"]⟩, [.pos ⟨"e", [.var "X", .var "Y"]⟩, .pos ⟨"f", [.var "Y"]⟩]⟩
def exBase : DB := [("e", [[.i64 2, .i64 2]]), ("f", [[.i64 3]])]
example : ¬ SatBody (InWorld exBase []) (world exBase []) [("Y", .i64 2), ("X", .i32 2)] exRule.body :=
  blocker_sound exBase [] exRule [.i32 2] _ (.atomFailed 1 "f" [.conc (.i64 2)]) (by decide +kernel) (by decide +kernel)

/-! numeric-aware matching in the blocker checker: for `p(X) <- e(X,P), !flag(P, 1)` the reported
    blocker "negated flag(2,1) exists" (stored as `Int64`s, the rule literal being `Int32 1`) holds, and a
    "no matching tuples" blocker for a positive atom with an `Int32` target is judged on numeric equality. -/
def litRule : Rule := ⟨⟨"p", [.var "X"]⟩, [.pos ⟨"e", [.var "X", .var "P"]⟩, .neg ⟨"flag", [.var "P", .int 1]⟩]⟩
def litBase : DB := [("e", [[.i64 1, .i64 2]]), ("flag", [[.i64 2, .i64 1]])]
example : blockerHolds litBase [] litRule [.i32 1] [("P", .i64 2), ("X", .i32 1)] (.negSucceeded 1 "flag" [.i64 2, .i64 1]) = true := by decide +kernel
example : blockerHolds litBase [] litRule [.i32 1] [("X", .i32 1)] (.atomFailed 0 "e" [.conc (.i32 1), .unb "P"]) = false := by decide +kernel
example : blockerHolds litBase [] litRule [.i32 5] [("X", .i32 5)] (.atomFailed 0 "e" [.conc (.i32 5), .unb "P"]) = true := by decide +kernel

/-- what `.why_not` answers in the model (repaired handler: the context carries the derived data, as
    for `.why`). -/
def whyNot (prog : Program) (base M : DB) (rel : String) (target : Tuple) : Option (List ClauseExpl) :=
  explainWhyNot { rules := prog, base := base, derived := some M } rel target

/-- **C23 at full strength about the model**: for every program of the fragment, the derived data
    being the perfect model, every relation with rules and every target, the explanation is truthful. -/
def C23_statement : Prop :=
  ∀ (prog : Program) (base M : DB) (rel : String) (target : Tuple) (expl : List ClauseExpl),
    prog.supported = true → pmEval prog base = some M → whyNot prog base M rel target = some expl →
    truthful prog base M rel target expl = true

/-! Witness (known finding `greedy_first_match`, the one class that remains): `g(X) <- e(X,Y), f(Y)`,
    `e = {(1,2),(1,3)}`, `f = {3}`: `g(1)` is derived (through `Y = 3`), yet the only clause is reported
    blocked at `f(2)` — the trace takes the first match of each positive atom and never backtracks. -/
def w1Prog : Program := [⟨⟨"g", [.var "X"]⟩, [.pos ⟨"e", [.var "X", .var "Y"]⟩, .pos ⟨"f", [.var "Y"]⟩]⟩]
def w1Base : DB := [("e", [[.i64 1, .i64 2], [.i64 1, .i64 3]]), ("f", [[.i64 3]])]

theorem C23_refuted : ¬ C23_statement := by
  intro h
  have := h w1Prog w1Base [("g", [[.i64 1]])] "g" [.i32 1]
    [{ idx := 0, ruleIdx := 0, bindings := [("Y", .i64 2), ("X", .i32 1)], facts := [("e", [.i64 1, .i64 2], .edb)],
       blocker := some (.atomFailed 1 "f" [.conc (.i64 2)]) }] (by decide +kernel) (by decide +kernel) (by decide +kernel)
  revert this
  decide +kernel

/-! The two former refutation witnesses (findings `derived_atom_invisible`, `neg_derived_invisible`,
    fixed): with the derived data in the context the explanations are truthful. -/
def w2Prog : Program :=
  [⟨⟨"p", [.var "X"]⟩, [.pos ⟨"f", [.var "X"]⟩]⟩, ⟨⟨"q", [.var "X"]⟩, [.pos ⟨"p", [.var "X"]⟩, .pos ⟨"e", [.var "X", .wild]⟩]⟩]
def w2Base : DB := [("f", [[.i64 1]])]
example : (whyNot w2Prog w2Base [("p", [[.i64 1]])] "q" [.i32 1]).map (truthful w2Prog w2Base [("p", [[.i64 1]])] "q" [.i32 1]) = some true := by decide +kernel
def w3Prog : Program :=
  [⟨⟨"dr", [.var "X"]⟩, [.pos ⟨"f", [.var "X"]⟩]⟩, ⟨⟨"p", [.var "X"]⟩, [.pos ⟨"f", [.var "X"]⟩, .neg ⟨"dr", [.var "X"]⟩]⟩]
example : (whyNot w3Prog w2Base [("dr", [[.i64 1]])] "p" [.i32 1]).map (truthful w3Prog w2Base [("dr", [[.i64 1]])] "p" [.i32 1]) = some true := by decide +kernel

/-- **C23_partial.** The excluded inputs are named by one decidable predicate on the clauses of the
    queried relation: `Rule.noChoice` (every variable of every positive body atom occurs in the head, so
    no positive atom has to choose a binding — this excludes exactly `greedy_first_match`); plus
    well-formedness (supported literals, no head variable spelled `_placeholder_…`). Body atoms may be over
    derived relations and negation may be over derived relations: the explanation is judged in the world
    `(base, M)` whose `M` is the derived data the handler hands to `explain_why_not`. Then the explanation
    `.why_not` gives is truthful, for every program, base, derived data and target. -/
theorem C23_partial (prog : Program) (base M : DB) (rel : String) (target : Tuple) (expl : List ClauseExpl)
    (hcl : ∀ r ∈ prog, r.head.rel = rel → r.noChoice = true ∧ r.body.all Lit.supported = true ∧ r.plainVars = true)
    (h : whyNot prog base M rel target = some expl) :
    truthful prog base M rel target expl = true := by
  unfold whyNot explainWhyNot at h
  split at h
  · cases h
  · simp only [Option.some.injEq] at h
    subst h
    have hg : ∀ r ∈ prog.filter (fun r => r.head.rel == rel), r.noChoice = true ∧ r.body.all Lit.supported = true ∧ r.plainVars = true :=
      fun r hr => (rulesFor_mem { rules := prog, base := base, derived := some M } rel r hr).elim (hcl r)
    obtain ⟨e1, e2⟩ := explainClauses_exact
      { rules := prog, base := base, derived := some M } rfl target _ 0 hg
    unfold truthful
    simp only [Ctx.rulesFor]
    split
    · rename_i hf; exact e1 hf
    · rename_i hf
      exact e2 (by simpa using hf)

/-- the hypotheses of `C23_partial` are met by a non-trivial two-level program: a clause with a join on
    head variables over a *derived* relation, a negated *derived* atom and a comparison; `r(2,3)` is
    explained truthfully (`d(2,3)` matches, `!dr(3)` is blocked by the derived `dr(3)`). -/
def pProg : Program :=
  [⟨⟨"d", [.var "X", .var "Y"]⟩, [.pos ⟨"e", [.var "X", .var "Y"]⟩]⟩,
   ⟨⟨"dr", [.var "Y"]⟩, [.pos ⟨"f", [.var "Y"]⟩]⟩,
   ⟨⟨"r", [.var "X", .var "Y"]⟩, [.pos ⟨"d", [.var "X", .var "Y"]⟩, .neg ⟨"dr", [.var "Y"]⟩, .cmp (.var "X") .lt (.var "Y")]⟩]
def pBase : DB := [("e", [[.i64 1, .i64 2], [.i64 2, .i64 3]]), ("f", [[.i64 3]])]
def pM : DB := [("d", [[.i64 1, .i64 2], [.i64 2, .i64 3]]), ("dr", [[.i64 3]]), ("r", [[.i64 1, .i64 2]])]
example : truthful pProg pBase pM "r" [.i32 2, .i32 3]
    [{ idx := 0, ruleIdx := 2, bindings := [("Y", .i32 3), ("X", .i32 2)], facts := [("d", [.i64 2, .i64 3], .derived)],
       blocker := some (.negSucceeded 1 "dr" [.i64 3]) }] = true :=
  C23_partial pProg pBase pM "r" [.i32 2, .i32 3] _ (by decide +kernel) (by decide +kernel)

end ILV.Props.C23
