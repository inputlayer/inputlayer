/-
  C11 — restart reproduces the live state.
  Model: ILV.Model.Store (live set semantics vs. the ±1-per-request update log, recovery = keep
  positive sums). Lemmas: ILV.Lemmas.Consolidate, StoreInv, StoreWrites, StoreRun.
-/
import ILV.Lemmas.StoreRun
namespace ILV.Props.C11
open ILV ILV.Batch ILV.Store ILV.Props.C31

def sameSet (a b : List Tuple) : Prop := ∀ t, t ∈ a ↔ t ∈ b

/-- **C11 at full strength**: in immediate durability mode, after any history, for every relation,
    what a restart serves is exactly what the running engine was serving. -/
def C11_statement : Prop :=
  ∀ (cfg : Cfg) (h : List Op) (r : String), cfg.mode = .immediate →
    sameSet (liveOf (restart realCodec (run realCodec cfg h)).1 r) (liveOf (run realCodec cfg h) r)

def t12 : Tuple := [.i64 1, .i64 2]

/-- re-insert of a present tuple, then delete: live `∅`, log sum `+1` → the tuple comes back. -/
def witnessResurrect : List Op := [.ins "r" [t12], .ins "r" [t12], .del "r" [t12]]
/-- delete of an absent tuple (of a known relation), then insert: live `{u, t}`, log sum of `t` is `0`
    → `t` is lost. -/
def witnessLoss : List Op := [.ins "r" [[.i64 1, .i64 3]], .del "r" [t12], .ins "r" [t12]]

theorem witnessResurrect_live : liveOf (run realCodec {} witnessResurrect) "r" = [] := by decide +kernel
theorem witnessResurrect_restart :
    liveOf (restart realCodec (run realCodec {} witnessResurrect)).1 "r" = [t12] := by decide +kernel
theorem witnessLoss_live : liveOf (run realCodec {} witnessLoss) "r" = [[.i64 1, .i64 3], t12] := by decide +kernel
theorem witnessLoss_restart : liveOf (restart realCodec (run realCodec {} witnessLoss)).1 "r" = [[.i64 1, .i64 3]] := by decide +kernel

theorem C11_refuted : ¬ C11_statement := by
  intro h
  have := (h {} witnessResurrect "r" rfl t12).1
  rw [witnessResurrect_restart, witnessResurrect_live] at this
  exact absurd (this (by simp)) (by simp)

/-- **the invariant behind C11** (`sum(log, t) = [t ∈ live]`): in immediate mode, for every codec that is
    the identity on the admissible tuples `G` (all of them well-formed), every buffer size and WAL limit,
    and every history whose requests are effective — inserts name pairwise different absent tuples,
    deletes name pairwise different present ones — with saves, compactions, clean and unclean restarts
    anywhere in it. Relative to C31 (`Tuple.cmp` lawful) through `mem_recover_iff`. -/
theorem C11_invariant (c : Codec) (G : String → Tuple → Prop) (hc : CodecOk c G) (hwf : ∀ r t, G r t → TupleWF t)
    (cfg : Cfg) (hm : cfg.mode = .immediate) (h : List Op) (he : Effective c G { cfg := cfg } h) (r : String) (t : Tuple) :
    sumOf t (logOf (run c cfg h) r) = if t ∈ liveOf (run c cfg h) r then 1 else 0 :=
  ((run_inv_from hc hwf h { cfg := cfg } (Inv_init G cfg) hm he).1.l.sums r t)

/-- **C11 for effective histories**: a restart reproduces the live state, and cannot fail. -/
theorem C11_partial (c : Codec) (G : String → Tuple → Prop) (hc : CodecOk c G) (hwf : ∀ r t, G r t → TupleWF t)
    (cfg : Cfg) (hm : cfg.mode = .immediate) (h : List Op) (he : Effective c G { cfg := cfg } h) (r : String) :
    (restart c (run c cfg h)).2 = none ∧
    sameSet (liveOf (restart c (run c cfg h)).1 r) (liveOf (run c cfg h) r) := by
  obtain ⟨hi, hm'⟩ := run_inv_from hc hwf h { cfg := cfg } (Inv_init G cfg) hm he
  obtain ⟨a, _, _, d⟩ := restart_inv hc hwf _ hi (walMirrors_of_immediate hi.p hm')
  exact ⟨a, fun t => d r t⟩

/-- the stored relations never hold a tuple twice along such a history. -/
theorem C11_live_nodup (c : Codec) (G : String → Tuple → Prop) (hc : CodecOk c G) (hwf : ∀ r t, G r t → TupleWF t)
    (cfg : Cfg) (hm : cfg.mode = .immediate) (h : List Op) (he : Effective c G { cfg := cfg } h) (r : String) :
    (liveOf (run c cfg h) r).Nodup :=
  (run_inv_from hc hwf h { cfg := cfg } (Inv_init G cfg) hm he).1.l.nodup r

/-- lets `decide` evaluate `Effective idCodec (fun _ t => TupleWF t) …` in the example below: the predicate
    appears applied, as a beta-redex. -/
instance : ∀ (r : String) (t : Tuple), Decidable ((fun (_ : String) t => TupleWF t) r t) := fun _ t => inferInstanceAs (Decidable (TupleWF t))

def t13 : Tuple := [.i64 1, .i64 3]

/-- the hypotheses of `C11_partial` are met by a non-trivial history (flushes at buffer size 2,
    compaction, a restart in the middle, a delete and a re-insert), with the identity codec. -/
example : Effective idCodec (fun _ t => TupleWF t) { cfg := { buffer := 2 } }
    [.ins "r" [t12, t13], .del "r" [t12], .save, .restart, .ins "r" [t12], .compact, .del "r" [t13]] := by
  decide +kernel

example : CodecOk idCodec (fun _ t => TupleWF t) := ⟨fun _ _ _ => rfl, fun _ _ _ => rfl⟩

/-- and its conclusion is not vacuous there: the live state is `{t12}` before and after the restart. -/
example : liveOf (run idCodec { buffer := 2 }
    [.ins "r" [t12, t13], .del "r" [t12], .save, .restart, .ins "r" [t12], .compact, .del "r" [t13]]) "r" = [t12] := by
  decide +kernel

end ILV.Props.C11
