/-
  C09 — Rules behave the same inline, as session rules and as persistent rules.

  Model: ILV.Model.RuleText (token-level `Display` of arithmetic / terms / atoms / rules, the splitting
  parser of src/parser/mod.rs on tokens, `SerializableRule::from_rule/to_rule`, the catalog file,
  the submission paths) — after the repairs `integral_float_literal` (floats printed with `{:?}`),
  `atom_arg_ends_paren` (`parse_atom` strips one `)`), `sci_tail_variable` (exponent guard only after a
  numeric token), `nonfinite_float_json` (non-finite constants rejected), `json_float_inexact`
  (serde_json `float_roundtrip`) and the boolean / function-call part of `serialize_drops_term`.
  Lemmas: ILV.Lemmas.RuleText, TextSplit, TextRule.
-/
import ILV.Lemmas.TextRule
namespace ILV.Props.C09
open ILV.RText

/-- For every arithmetic expression whose variables do not look like numbers and whose float constants
    are finite and carry their `{:?}` text, the splitting parser reads the printed tokens back to the same
    tree — at every nesting depth, for every operator combination (the printer's parenthesisation rule
    "left iff lower, right iff lower-or-equal" against the right-most-split parser). -/
theorem arith_roundtrip (e : AExpr) (h : e.leavesOk = true) : parseArith (printArith e) = some e :=
  have ⟨hl, hs, hf⟩ := leavesOk_spec e h
  parseArith_print e hl hs hf

/-- `(Y + 1) * 2.0 - V1e / (Z - 2.5) % 3` — integral float and `<digit>e` identifier included -/
example :
    let e : AExpr := .bin .sub (.bin .mul (.bin .add (.var "Y") (.const 1)) (.flt ⟨0x4000000000000000, "2.0", none⟩))
      (.bin .mod (.bin .div (.var "V1e") (.bin .sub (.var "Z") (.flt ⟨0x4004000000000000, "2.5", none⟩))) (.const 3))
    e.leavesOk = true ∧ parseArith (printArith e) = some e := by decide +kernel

/-- A literal whose text shows a point, an exponent, `inf` or `NaN` — what `{:?}` prints for every f64 —
    is read back as a float, not as an integer (`FloatLit.stable`). -/
theorem float_text_stable (f : FloatLit) (h : f.hasPoint = true) : f.stable = true := stable_of_hasPoint f h

example : (⟨0x4000000000000000, "2.0", none⟩ : FloatLit).hasPoint = true ∧ (⟨0x4202a05f20000000, "10000000000.0", none⟩ : FloatLit).hasPoint = true
    ∧ (⟨0x7e37e43c8800759c, "1e300", none⟩ : FloatLit).hasPoint = true ∧ (⟨0x4000000000000000, "2", none⟩ : FloatLit).hasPoint = false := by decide +kernel

/-- Every well-formed term is read back from its printed tokens: variables, integers, floats, strings,
    booleans, `_`, arithmetic, aggregates, vectors and builtin calls. -/
theorem term_roundtrip (t : Term) (hwf : t.wf = true) : parseTerm (printTerm t) = some t :=
  ILV.RText.term_roundtrip t hwf

example :
    let t : Term := .call "euclidean" [.var "V", .vec [⟨0x3ff0000000000000, "1.0", none⟩, ⟨0, "0.0", none⟩],
      .arith (.bin .sub (.var "Y") (.const 3))]
    t.wf = true ∧ parseTerm (printTerm t) = some t := by decide +kernel

/-- **Round trip.** Every well-formed rule (`Rule.wf`, decidable: what the parser produces —
    variable-shaped variables, an operator at the root of every arithmetic term, arithmetic variables that
    do not start with a digit, canonical aggregate / builtin names, finite float literals with their `{:?}`
    text, no aggregate or vector as a comparison side) is read back from its printed tokens — head, `<-`,
    comma-separated positive / negated atoms and comparisons.  No condition on float values, identifiers
    ending in `<digit>e`, or arguments ending in `)` remains. -/
theorem rule_roundtrip (r : Rule) (hwf : r.wf = true) : parseRule (printRule r) = some r :=
  ILV.RText.rule_roundtrip r hwf

/-- If print ∘ parse is the identity on `r`, the catalog serialisation keeps every term of `r`, and
    serde_json reads `r`'s float literals back exactly, then the session path, the persistent path and
    the persistent path after a restart all hand the engine exactly `r` — the rule the inline path runs. -/
theorem paths_agree_of_roundtrip (r : Rule)
    (hrt : parseRule (printRule r) = some r) (hser : serRule r = r) (hj : r.jsonExact = true) :
    viaSession r = viaInline r ∧ viaPersistent r = viaInline r ∧ viaRestart r = viaInline r := by
  refine ⟨hrt, ?_, ?_⟩
  · simp [viaPersistent, viaInline, hrt, hser]
  · simp [viaRestart, viaInline, hrt, hser, Rule.afterJson_id r hj]

def exF (bits : Nat) (text : String) : FloatLit := ⟨bits, text, some (bits, text)⟩
/-- `p(X, Z) <- q(X, Y), !r(Y, "a"), s(X, true), Z = (Y + 1) * 2.0, Z >= abs(Y)` -/
def exRule : Rule :=
  ⟨⟨"p", [.base (.var "X"), .base (.var "Z")]⟩,
   [.pos ⟨"q", [.base (.var "X"), .base (.var "Y")]⟩, .neg ⟨"r", [.base (.var "Y"), .base (.str "a")]⟩,
    .pos ⟨"s", [.base (.var "X"), .base (.bool true)]⟩,
    .cmp (.base (.var "Z")) .eq (.base (.arith (.bin .mul (.bin .add (.var "Y") (.const 1)) (.flt (exF 0x4000000000000000 "2.0"))))),
    .cmp (.base (.var "Z")) .ge (.call "abs" [.var "Y"])]⟩

/-- **C09 (what holds).** Every well-formed rule without vector literals, whose floats serde_json reads
    back exactly (its documented behaviour with `float_roundtrip`, observed per literal), reaches the engine
    unchanged on the session / request-local path, the persistent path and the persistent path after
    restart — it behaves as the inline rule.  The only excluded family left is `¬ serStable`: vector
    literals, which the catalog serialisation still turns into `_`. -/
theorem C09_partial (r : Rule) (hwf : r.wf = true) (hser : r.serStable = true) (hj : r.jsonExact = true) :
    viaSession r = viaInline r ∧ viaPersistent r = viaInline r ∧ viaRestart r = viaInline r :=
  paths_agree_of_roundtrip r (rule_roundtrip r hwf) (by simpa [Rule.serStable] using hser) hj

example : exRule.wf = true ∧ exRule.serStable = true ∧ exRule.jsonExact = true := by decide +kernel

/-- rules the parser can produce -/
def InImage (r : Rule) : Prop := ∃ ts, parseRule ts = some r

/-- The property at full strength: for every rule in the image of the parser, every submission path
    hands the engine the rule that the inline path evaluates. -/
def C09_statement : Prop :=
  ∀ r, InImage r → viaSession r = viaInline r ∧ viaPersistent r = viaInline r ∧ viaRestart r = viaInline r

def f1 : FloatLit := exF 0x3ff0000000000000 "1.0"
/-- `p(X) <- q(X, [1.0])` -/
def wVec : Rule := ⟨⟨"p", [.base (.var "X")]⟩, [.pos ⟨"q", [.base (.var "X"), .base (.vec [f1])]⟩]⟩

/-- Still refuted, by the one family left: a vector literal in a persistent rule is stored as `_`
    (`SerializableTerm` has no variant for it), while the session path keeps it. -/
theorem C09_refuted : ¬ C09_statement := by
  intro h
  have hin : InImage wVec :=
    ⟨[.ident "p", .lp, .ident "X", .rp, .arrow, .ident "q", .lp, .ident "X", .comma, .lb, .flt f1, .rb, .rp], by decide +kernel⟩
  have := (h wVec hin).2.1
  revert this
  decide +kernel

example : wVec.wf = true ∧ wVec.jsonExact = true ∧ wVec.serStable = false ∧ viaSession wVec = some wVec := by decide +kernel

def wFloat : Rule := ⟨⟨"p", [.base (.var "X"), .base (.flt (exF 0x4000000000000000 "2.0"))]⟩, [.pos ⟨"q", [.base (.var "X")]⟩]⟩
def wSci : Rule :=
  ⟨⟨"p", [.base (.var "X"), .base (.var "Z")]⟩,
   [.pos ⟨"q", [.base (.var "X"), .base (.var "V1e")]⟩,
    .cmp (.base (.var "Z")) .eq (.base (.arith (.bin .sub (.var "V1e") (.const 1))))]⟩
def wParen : Rule :=
  ⟨⟨"p", [.base (.var "X"), .base (.arith (.bin .mul (.const 2) (.bin .add (.var "Y") (.const 1))))]⟩,
   [.pos ⟨"q", [.base (.var "X"), .base (.var "Y")]⟩]⟩
def wBool : Rule := ⟨⟨"p", [.base (.var "X")]⟩, [.pos ⟨"s", [.base (.var "X"), .base (.bool true)]⟩]⟩

example : wFloat.wf = true ∧ wSci.wf = true ∧ wParen.wf = true ∧ wBool.wf = true
    ∧ viaRestart wFloat = some wFloat ∧ viaRestart wSci = some wSci ∧ viaRestart wParen = some wParen
    ∧ viaRestart wBool = some wBool := by decide +kernel

/-- a non-finite constant is no longer in the parser's image (token `inf` as a float is rejected) -/
example : parseArith [.ident "Y", .op .mul, .flt ⟨0x7ff0000000000000, "inf", none⟩] = none := by decide +kernel

end ILV.Props.C09
