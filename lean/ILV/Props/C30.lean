/-
  C30 — A program with a syntax error has no effect; otherwise statements take effect in program order.
  Model: ILV.Model.Handler (`queryProgram` = `QueryJob::execute`, handler.rs:2458; `execProgram` =
  `Handler::execute_program`, handler.rs:4248) over ILV.Model.Text. The grammar is a parameter `P`.
-/
import ILV.Lemmas.C30
namespace ILV.Props.C30
open ILV ILV.Text ILV.Handler ILV.Gen.C28

/-- **C30 (a), `query_program`.** If any statement fails to parse the request is rejected, the stored
    state is untouched and no statement ran — for every program text, grammar, state and target KG. -/
theorem C30_reject_no_effect (P : Parser) (w : World) (kgArg : Option String) (text : List Char)
    (h : hasSyntaxError P text = true) :
    (queryProgram P w kgArg text).w = w ∧ isErr (queryProgram P w kgArg text).res = true ∧
    (queryProgram P w kgArg text).trace = [] :=
  query_reject_no_effect P w kgArg text h

/-- **C30 (b), `query_program`.** With no syntax error the outcome is that of applying the statements
    of the logical lines one after the other, in program order, to the running state. -/
theorem C30_in_order (P : Parser) (w : World) (kgArg : Option String) (text : List Char)
    (hk : hasKg w (kgArg.getD "default") = true) (h : hasSyntaxError P text = false) :
    queryProgram P w kgArg text =
      match specRun P ⟨w, kgArg.getD "default", [], none, none, [], []⟩ [] (logicalLines text) with
      | (.abort s e, tr) => ⟨s.w, .err e, tr⟩
      | (.cont s, tr) => finish P s tr := by
  unfold queryProgram
  unfold hasSyntaxError at h
  simp only [hk, h]
  rw [phase2_eq_specRun P (logicalLines text) _ _ (fun l hl => logicalLines_trimmed text l hl)]
  simp only [Bool.not_true, Bool.false_eq_true, if_false]
  rcases specRun P ⟨w, kgArg.getD "default", [], none, none, [], []⟩ [] (logicalLines text) with ⟨st, tr⟩
  cases st <;> rfl

/-! the `execute_program` wrapper (after the repair: authorization pre-pass over the logical lines;
    fast path and session interception only for one-statement programs) -/

/-- **C30 for `Handler::execute_program`** — whatever the identity, session and target KG, a program
    containing an unparsable statement is rejected and leaves the state (KGs *and* sessions) untouched. -/
theorem C30 (P : Parser) (w : World) (rq : Req) (h : hasSyntaxError P rq.text = true) :
    (execProgram P w rq).w = w ∧ isErr (execProgram P w rq).res = true := by
  suffices hr : Rejects w (execProgram P w rq) from ⟨hr.1, hr.2.1⟩
  unfold execProgram
  split
  · exact ⟨rfl, rfl, rfl⟩
  · dsimp only
    split
    · exact ⟨rfl, rfl, rfl⟩
    · rw [singleStmt_none h]
      exact execRest_rejects h w _ _ _

/-- the former counterexample (`m1(4) // x⏎+m1(` with a session; witness of the repaired defect
    class `session-intercept-before-validation`) is now rejected without effect -/
def witP : Parser := fun k => if k = "m1(4)" then some ⟨.fact, .fact "m1" [.i64 4]⟩ else none
def witW : World :=
  ⟨[⟨"_internal", [("users", [[strVal "adm", strVal "h", strVal "admin"]])], [], []⟩, ⟨"default", [], [], []⟩],
   [⟨"adm", "default", [], [], false⟩]⟩
def witRq : Req := ⟨some "adm", true, none, "m1(4) // x\n+m1(".toList⟩
example : hasSyntaxError witP witRq.text = true ∧ (execProgram witP witW witRq).w = witW ∧
    (execProgram witP witW witRq).res = .err "parse" := by decide +kernel
-- a one-statement program is still intercepted as a session fact
example : (execProgram witP witW ⟨some "adm", true, none, "// c\nm1(4) // x".toList⟩).res = .msgs ["sfact"] none := by decide +kernel

/-- grammar of the examples: two inserts and one unparsable line -/
def exP : Parser := fun k =>
  if k = "+m1(5)" then some ⟨.insert, .insert "m1" [[.i64 5]]⟩
  else if k = "+m1(6)" then some ⟨.insert, .insert "m1" [[.i64 6]]⟩ else none
-- (a) is not vacuous: the hypothesis holds for a program whose first line would have had an effect
example : hasSyntaxError exP "+m1(5)\n+m1(".toList = true ∧
    (queryProgram exP witW (some "default") "+m1(5)\n+m1(".toList).w = witW := by decide +kernel
-- (b) is not vacuous: an error-free two-statement program changes the state, in order
example : hasSyntaxError exP "+m1(5) // a\n  \n+m1(6)".toList = false ∧
    (queryProgram exP witW (some "default") "+m1(5) // a\n  \n+m1(6)".toList).res = .msgs ["ins:1:m1", "ins:1:m1"] none ∧
    (findKg (queryProgram exP witW (some "default") "+m1(5) // a\n  \n+m1(6)".toList).w "default").map (relOf · "m1") = some [[.i64 5], [.i64 6]] := by decide +kernel
end ILV.Props.C30
