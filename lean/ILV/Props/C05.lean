/-
  C05 — IR rewrite passes preserve plan semantics.

  Objects: `ILV.IR.eval` (the denotation of an IR tree as the bag of rows the code generator's
  Differential-Dataflow collection holds; `answer = dedup ∘ eval` is what `CodeGenerator::execute`
  returns) and the pass models of ILV.Model.IROpt (`Optimizer::optimize` with each of its rules,
  `BooleanSpecializer::specialize`). Both are the definitions the driver `ilvd` executes and compares
  with the Rust code on every run (requests `c05.eval`, `c05.pass`).

  Rule theorems are stated as *equality of the row lists* (so in particular of bags and of sets).
  `wf db t`: declared widths = row arities, indices in range, union branches of one width, scans
  conform to `db`, no `Filter(_, False)` / empty `Union` (ILV.Model.IRWF).

  Join planning (`JoinPlanner::plan_joins`) has no Lean model: it is validated per instance only
  (translation validation with `eval`, see notes/C05.md).
-/
import ILV.Lemmas.IROptimize
import ILV.Lemmas.IRBS
namespace ILV.Props.C05
open ILV ILV.IR

def r1 : Node := .scan "r1" ["X", "Y"]
def r2 : Node := .scan "r2" ["Y", "Z"]
def r4 : Node := .scan "r4" ["X"]
def j12 : Node := .join r1 r2 [1] [0] ["X", "Y", "Z"]
def db1 : Db :=
  [("r1", [[.i64 1, .i64 7], [.i64 2, .i64 3]]), ("r2", [[.i64 7, .i64 1], [.i64 3, .i64 9]]), ("r4", [[.i64 1], [.i64 2]])]

/-! ## one theorem per rewrite rule of `Optimizer::apply_all_rules` (all trees, all databases) -/

/-- `eliminate_identity_maps` -/
theorem identity_map_elim (db : Db) (t : Node) (h : wf db t = true) : eval db (elimIdMaps t) = eval db t :=
  (elimIdMaps_ok db t h).ev
example : wf db1 (.map j12 [0, 1, 2] ["X", "Y", "Z"]) = true ∧ elimIdMaps (.map j12 [0, 1, 2] ["X", "Y", "Z"]) = j12 := by decide +kernel

/-- `eliminate_always_true_filters` -/
theorem filter_true_elim (db : Db) (t : Node) (h : wf db t = true) : eval db (elimTrue t) = eval db t :=
  (elimTrue_ok db t h).ev
example : wf db1 (.filter r1 .tt) = true ∧ elimTrue (.filter r1 .tt) = r1 := by decide +kernel

/-- `eliminate_always_false_filters`: `Filter(x, False) → Union[]` denotes the empty bag, for *every* tree. -/
theorem filter_false (db : Db) (i : Node) : eval db (elimFalse (.filter i .ff)) = eval db (.filter i .ff) := by
  simp [elimFalse, eval, evalList, Pred.eval, Pred.evalG]
example : elimFalse (.filter r1 .ff) = .union .nil := by decide +kernel

/-- `fuse_consecutive_maps`, projection composition `p1[p2[i]]` -/
theorem map_fuse (db : Db) (t : Node) (h : wf db t = true) : eval db (fuseMaps t) = eval db t :=
  (fuseMaps_ok db t h).ev
example : wf db1 (.map (.map j12 [2, 0] ["Z", "X"]) [1] ["X"]) = true ∧
    fuseMaps (.map (.map j12 [2, 0] ["Z", "X"]) [1] ["X"]) = .map j12 [0] ["X"] := by decide +kernel

/-- `fuse_consecutive_filters` -/
theorem filter_fuse (db : Db) (t : Node) (h : wf db t = true) : eval db (fuseFilters t) = eval db t :=
  (fuseFilters_ok db t h).ev
example : wf db1 (.filter (.filter r1 (.cc .gt 0 1)) (.cc .lt 1 5)) = true ∧
    fuseFilters (.filter (.filter r1 (.cc .gt 0 1)) (.cc .lt 1 5)) = .filter r1 (.and (.cc .gt 0 1) (.cc .lt 1 5)) := by decide +kernel

/-- `pushdown_filters` into a join (left input unchanged; right input through
    `remap_predicate_columns_to_right_input`, which re-inserts the omitted key positions) -/
theorem pushdown_into_join (db : Db) (t : Node) (h : wf db t = true) : eval db (pushdown t) = eval db t :=
  (pushdown_ok db t h).ev
-- fires to the left, and to the right *past a key column* (the input that failed before the repair)
example : wf db1 (.filter j12 (.cc .gt 0 1)) = true ∧
    pushdown (.filter j12 (.cc .gt 0 1)) = .join (.filter r1 (.cc .gt 0 1)) r2 [1] [0] ["X", "Y", "Z"] := by decide +kernel
example : wf db1 (.filter j12 (.cc .gt 2 5)) = true ∧
    pushdown (.filter j12 (.cc .gt 2 5)) = .join r1 (.filter r2 (.cc .gt 1 5)) [1] [0] ["X", "Y", "Z"] ∧
    eval db1 (pushdown (.filter j12 (.cc .gt 2 5))) = [[.i64 2, .i64 3, .i64 9]] := by decide +kernel

/-- `eliminate_empty_unions` -/
theorem empty_union_elim (db : Db) (t : Node) (h : wf db t = true) : eval db (elimEmpty t) = eval db t :=
  (elimEmpty_ok db t h).ev
example : wf db1 (.union (.cons r1 .nil)) = true ∧ elimEmpty (.union (.cons r1 .nil)) = r1 := by decide +kernel

/-- one round `apply_all_rules` -/
theorem apply_all_rules_preserves (db : Db) (t : Node) (h : wf db t = true) : eval db (applyAll t) = eval db t :=
  (applyAll_ok db t h).ev

/-- the fix-point driver: any number of denotation-preserving steps preserves the denotation
    (generic statement; instantiated for `apply_all_rules` in `fixpoint_preserves`). -/
theorem iterate_preserves {α β} (f : α → α) (den : α → β) (inv : α → Prop)
    (step : ∀ x, inv x → inv (f x) ∧ den (f x) = den x) (n : Nat) (x : α) (h : inv x) :
    inv (iter f n x) ∧ den (iter f n x) = den x :=
  IR.iterate_preserves f den inv step n x h

theorem fixpoint_preserves (db : Db) (n : Nat) (t : Node) (h : wf db t = true) :
    eval db (iter applyAll n t) = eval db t :=
  (iter_applyAll_ok db n t h).ev

/-- `fuse_to_flatmap`: `Filter(Map(x, proj), pred) = FlatMap(x, proj, Some(pred))` -/
theorem map_filter_fusion (db : Db) (t : Node) (h : wf db t = true) : eval db (fuseFlatMap t) = eval db t :=
  (fuseFlatMap_ok db t h).ev
example : wf db1 (.filter (.map r1 [1] ["Y"]) (.cc .gt 0 1)) = true ∧
    fuseFlatMap (.filter (.map r1 [1] ["Y"]) (.cc .gt 0 1)) = .flatMap r1 [1] (some (.cc .gt 0 1)) ["Y"] := by decide +kernel

/-- `fuse_to_join_flatmap` with `remap_projection_for_join_flatmap`: the projection over the join
    output (left ++ right non-keys) is re-indexed into left ++ *all* right columns. -/
theorem join_flatmap_fusion (db : Db) (t : Node) (h : wf db t = true) : eval db (fuseJFM t) = eval db t :=
  (fuseJFM_ok db t h).ev
example : wf db1 (.map j12 [2, 0] ["Z", "X"]) = true ∧
    fuseJFM (.map j12 [2, 0] ["Z", "X"]) = .joinFlatMap r1 r2 [1] [0] [3, 0] none ["Z", "X"] := by decide +kernel

/-- **C05 for the basic optimizer, full strength**: `Optimizer::optimize` returns a plan with exactly the
    same rows, for every well-formed plan and every database. -/
theorem C05_opt (db : Db) (t : Node) (h : wf db t = true) : eval db (optimize t) = eval db t :=
  (optimize_ok db t h).ev

theorem C05_opt_answer (db : Db) (t : Node) (h : wf db t = true) : answer db (optimize t) = answer db t := by
  unfold answer; rw [C05_opt db t h]

-- the plan of `q(X,Y,Z) <- r1(X,Y), r2(Y,Z), Z > 5` (the witness of the repaired defect) and a builder-shaped plan
example : let t := Node.filter j12 (.cc .gt 2 5)
    wf db1 t = true ∧ optimize t = .join r1 (.filter r2 (.cc .gt 1 5)) [1] [0] ["X", "Y", "Z"] ∧
    answer db1 (optimize t) = [[.i64 2, .i64 3, .i64 9]] := by decide +kernel
example : let t := Node.map (.filter j12 (.cc .gt 0 1)) [2, 0] ["Z", "X"]
    wf db1 t = true ∧
    optimize t = .joinFlatMap (.filter r1 (.cc .gt 0 1)) r2 [1] [0] [3, 0] none ["Z", "X"] ∧
    answer db1 t = [[.i64 9, .i64 2]] := by decide +kernel

/-- well-formedness cannot be dropped from the clean-tree condition either: a `Union` whose first branch
    is `Filter(_, False)` reports width 0 after `eliminate_always_false_filters`, and the push-down of the
    same round then moves a left-column predicate into the right input (known finding
    `empty_first_union_branch_width`; IR level only, the builder never nests a `Union` below a `Join`). -/
theorem opt_unclean_refuted :
    ∃ (db : Db) (t : Node), wf db t = false ∧ ¬ SetEq (answer db (optimize t)) (answer db t) := by
  refine ⟨[("r1", [[.i64 2, .i64 0]]), ("r2", [[.i64 4, .i64 3], [.i64 0, .i64 4]])],
    .filter (.join (.union (.cons (.filter r1 .ff) (.cons r1 .nil))) r2 [] [] ["X", "Y", "Y2", "Z"]) (.cc .gt 0 1),
    by decide +kernel, ?_⟩
  intro h
  have := h [.i64 2, .i64 0, .i64 0, .i64 4]
  revert this
  decide +kernel

def C05_bs_statement : Prop :=
  ∀ (db : Db) (t : Node), wf db t = true → SetEq (answer db (specialize t).1) (answer db t)

def tBS : Node :=
  .distinct (.aggregate (.join (.map r1 [0] ["X"]) r4 [0] [0] ["X"]) [0] [(.count, 0)] ["X", "n"])
def dbBS : Db := [("r1", [[.i64 3, .i64 2], [.i64 3, .i64 1]]), ("r4", [[.i64 3]])]

/-- refuted: under a `Distinct` root the Boolean annotation is passed below the `Aggregate`, whose
    join input is then wrapped in `Distinct` — `count` drops from 2 to 1. -/
theorem C05_bs_refuted : ¬ C05_bs_statement := by
  intro h
  have := h dbBS tBS (by decide +kernel) [.i64 3, .i64 2]
  revert this
  decide +kernel

/-- when the root annotation is not Boolean (every plan with an `Aggregate` that is not below a
    `Distinct`, in particular every aggregate rule the builder produces) the rows are unchanged -/
theorem C05_bs_partial_counting (db : Db) (t : Node) (h : analyze t ≠ .boolean) :
    eval db (specialize t).1 = eval db t := by
  have : (analyze t == Semiring.boolean) = false := by simpa using h
  simp only [specialize, this]
  exact bs_false_eval db t
example : analyze (.aggregate j12 [0] [(.count, 2)] ["X", "n"]) ≠ .boolean := by decide +kernel

/-- on aggregate-free plans the answer set is unchanged whatever the annotation -/
theorem C05_bs_partial_aggfree (db : Db) (t : Node) (h : aggFree t = true) :
    SetEq (answer db (specialize t).1) (answer db t) := by
  intro x
  simp only [answer, mem_dedup, specialize]
  exact bs_setEq db _ t h x
example : aggFree (.map j12 [2, 0] ["Z", "X"]) = true ∧
    (specialize (.map j12 [2, 0] ["Z", "X"])).1 = .map (.distinct j12) [2, 0] ["Z", "X"] := by decide +kernel

/-- C05 for the modelled passes, full strength -/
def C05_statement : Prop :=
  (∀ (db : Db) (t : Node), wf db t = true → SetEq (answer db (optimize t)) (answer db t)) ∧ C05_bs_statement

/-- still refuted, by Boolean specialisation only (the optimizer half is `C05_opt`). -/
theorem C05_refuted : ¬ C05_statement := fun h => C05_bs_refuted h.2

/-- C05, proved part: both modelled passes preserve the answer of every well-formed plan outside the
    excluded input class of Boolean specialisation. -/
theorem C05_partial (db : Db) (t : Node) (h : wf db t = true) :
    answer db (optimize t) = answer db t ∧
    ((analyze t ≠ .boolean ∨ aggFree t = true) → SetEq (answer db (specialize t).1) (answer db t)) := by
  refine ⟨C05_opt_answer db t h, ?_⟩
  rintro (hb | ha)
  · intro x; simp only [answer, C05_bs_partial_counting db t hb]
  · exact C05_bs_partial_aggfree db t ha

end ILV.Props.C05
