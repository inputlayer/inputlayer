/-
  C33 — Declared schemas are enforced.
  Model: ILV.Model.Schema (`SchemaType::matches`, the validator, the insert paths of the Handler).
  Spec: `conforms` (docs/spec/types.md) and the invariant "once a schema is declared every stored tuple
  conforms; an insert with a non-conforming tuple changes nothing; a conforming insert is accepted".
  After the repairs (schema declaration validates existing data; `Update` validates before writing) the
  invariant holds along every history; after the third repair request-local facts are validated too, so
  every answer conforms as well: `C33_statement` is the theorem `C33`.
-/
import ILV.Model.Schema
import ILV.Gen.C33
namespace ILV.Props.C33
open ILV

/-- **`matches` is the documented mapping**, for every schema type and every value (all dimensions,
    all vector lengths): no row where the code is laxer or stricter than docs/spec/types.md
    (an unresolved alias `Named(_)` constrains nothing in both). -/
theorem matches_eq_conforms (s : SType) (v : Value) : s.matchesM v = conforms s v := by
  cases s with
  | vector d => cases d <;> cases v <;> rfl
  | _ => cases v <;> rfl

/-- the schema kinds / value representatives the extractor enumerates (wildcard-free matches on the Rust
    side; an unknown name in a regenerated table makes the theorem below fail). -/
def kindRep : String → Option SType
  | "int" => some .int | "float" => some .float | "sym" => some .symbol | "str" => some .string
  | "bool" => some .bool | "ts" => some .timestamp | "vec" => some (.vector none) | "vec2" => some (.vector (some 2))
  | "any" => some .any | "named" => some .named | _ => none

def valueRep : String → Option Value
  | "i32:1" => some (.i32 1) | "i64:1" => some (.i64 1) | "f64:3ff8000000000000" => some (.f64 0x3ff8000000000000)
  | "s:61" => some (.str [97]) | "b:1" => some (.bool true) | "null" => some .null | "ts:1" => some (.ts 1)
  | "v:3f800000/40000000" => some (.vec [0x3f800000, 0x40000000])
  | "v:3f800000/40000000/40400000" => some (.vec [0x3f800000, 0x40000000, 0x40400000])
  | "v8:1/2" => some (.vec8 [1, 2]) | "v8:1/2/3" => some (.vec8 [1, 2, 3]) | _ => none

/-- T-gen: the regenerated complete graph of the real `SchemaType::matches` (10 schema kinds × 11 value
    representatives, vector lengths = / ≠ the declared dimension) equals the Spec — and the hand model —
    row by row. -/
theorem matches_table_eq_conforms :
    ILV.Gen.C33.matchesTable.length = 110 ∧
    ILV.Gen.C33.matchesTable.all (fun (k, v, b) =>
      match kindRep k, valueRep v with
      | some s, some x => conforms s x == b && s.matchesM x == b
      | _, _ => false) = true := by decide +kernel

theorem validateTuple_eq_conformsTuple (cols : List SType) (t : Tuple) :
    validateTuple cols t = conformsTuple cols t := by
  unfold validateTuple conformsTuple
  congr 1
  exact List.all_congr rfl fun ⟨c, v⟩ => matches_eq_conforms c v

theorem validateBatch_eq_inv (schema : Option (List SType)) (ts : List Tuple) :
    validateBatch schema ts = (SState.mk schema ts).inv := by
  cases schema with
  | none => rfl
  | some cols => exact List.all_congr rfl (validateTuple_eq_conformsTuple cols)

theorem inv_iff (schema : Option (List SType)) (st : List Tuple) :
    (SState.mk schema st).inv = true ↔ ∀ cols, schema = some cols → ∀ x ∈ st, conformsTuple cols x = true := by
  cases schema with
  | none => exact ⟨fun _ _ h => (by cases h), fun _ => rfl⟩
  | some cols => exact List.all_eq_true.trans ⟨fun h _ e => Option.some.inj e ▸ h, fun h => h cols rfl⟩

theorem validateBatch_iff (schema : Option (List SType)) (ts : List Tuple) :
    validateBatch schema ts = true ↔ ∀ cols, schema = some cols → ∀ x ∈ ts, conformsTuple cols x = true := by
  rw [validateBatch_eq_inv]; exact inv_iff schema ts

theorem validateBatch_false {cols : List SType} {ts : List Tuple} {bad : Tuple} (hb : bad ∈ ts)
    (hc : conformsTuple cols bad = false) : validateBatch (some cols) ts = false :=
  Bool.eq_false_iff.2 fun h => Bool.false_ne_true (hc ▸ (validateBatch_iff _ _).1 h cols rfl bad hb)

/-- **all or nothing**: with a declared schema an insert containing any non-conforming (non-empty)
    tuple is rejected and changes nothing. -/
theorem insert_all_or_nothing (s : SState) (cols : List SType) (ts : List Tuple) (hs : s.schema = some cols)
    (bad : Tuple) (hb : bad ∈ ts) (hne : bad.isEmpty = false) (hc : conformsTuple cols bad = false) :
    (s.step (.insert ts)).1 = s ∧ (match (s.step (.insert ts)).2 with | .rejected => True | _ => False) := by
  have hv : validateBatch s.schema (ts.filter (fun t => !t.isEmpty)) = false :=
    hs ▸ validateBatch_false (List.mem_filter.2 ⟨hb, by rw [hne]; rfl⟩) hc
  simp [SState.step, hv]

/-- **conforming inserts are accepted**. -/
theorem conforming_insert_accepted (s : SState) (cols : List SType) (ts : List Tuple) (hs : s.schema = some cols)
    (hc : ∀ t ∈ ts, conformsTuple cols t = true) :
    ∃ n, (s.step (.insert ts)).2 = .inserted n := by
  have hv : validateBatch s.schema (ts.filter (fun t => !t.isEmpty)) = true :=
    (validateBatch_iff _ _).2 fun c e t ht => Option.some.inj (hs ▸ e) ▸ hc t (List.mem_filter.1 ht).1
  simp [SState.step, hv]

theorem mem_insertSet (ts : List Tuple) : ∀ (st : List Tuple) (x : Tuple), x ∈ (insertSet st ts).1 → x ∈ st ∨ x ∈ ts := by
  induction ts with
  | nil => intro st x h; exact Or.inl h
  | cons t ts ih =>
    intro st x h
    rw [insertSet] at h
    split at h
    · exact (ih st x h).imp_right (List.mem_cons_of_mem _)
    · rcases ih (st ++ [t]) x h with h | h
      · exact (List.mem_append.1 h).imp_right fun h => by rw [List.mem_singleton.1 h]; exact List.mem_cons_self ..
      · exact Or.inr (List.mem_cons_of_mem _ h)

theorem inv_insertSet {schema : Option (List SType)} {st ts : List Tuple} (hi : (SState.mk schema st).inv = true)
    (hv : validateBatch schema ts = true) : (SState.mk schema (insertSet st ts).1).inv = true :=
  (inv_iff _ _).2 fun cols e x hx => (mem_insertSet ts st x hx).elim
    ((inv_iff _ _).1 hi cols e x) ((validateBatch_iff _ _).1 hv cols e x)

/-- every operation preserves the invariant: a declaration is refused unless the stored tuples pass
    `validate_existing_data`; insert and update validate before touching any data; validation, query
    and request-local facts do not write. -/
theorem step_preserves_inv (s : SState) (op : SOp) (hi : s.inv = true) : (s.step op).1.inv = true := by
  cases op with
  | decl cols =>
    cases hv : validateBatch (some cols) s.stored with
    | false => simpa [SState.step, hv] using hi
    | true => simpa [SState.step, hv] using (validateBatch_eq_inv _ _).symm.trans hv
  | insert ts =>
    cases hv : validateBatch s.schema (ts.filter (fun t => !t.isEmpty)) with
    | false => simpa [SState.step, hv] using hi
    | true => simpa [SState.step, hv] using inv_insertSet hi hv
  | upd new =>
    by_cases he : s.stored.isEmpty = true
    · simpa [SState.step, he] using hi
    · cases hv : validateBatch s.schema [new] with
      | false => simpa [SState.step, he, hv] using hi
      | true => simpa [SState.step, he, hv] using (validateBatch_eq_inv _ _).symm.trans hv
  | fact t => simp only [SState.step]; split <;> exact hi
  | validate ts => exact hi
  | query => exact hi

theorem run_preserves_inv (ops : List SOp) : ∀ s : SState, s.inv = true → (SState.run s ops).1.inv = true := by
  induction ops with
  | nil => intro s hi; exact hi
  | cons op ops ih => intro s hi; exact ih _ (step_preserves_inv s op hi)

/-- every relation answer (`?r(X…)`, alone or after a request-local fact) produced while a schema is
    declared consists of conforming tuples. -/
def answersConform : SState → List SOp → Prop
  | _, [] => True
  | s, op :: ops =>
    (match (s.step op).2, (s.step op).1.schema with
      | .rows r, some cols => r.all (conformsTuple cols) = true
      | _, _ => True) ∧ answersConform (s.step op).1 ops

theorem rows_conform {schema : Option (List SType)} {r : List Tuple} :
    (SState.mk schema r).inv = true →
    match SOut.rows r, schema with
    | .rows r, some cols => r.all (conformsTuple cols) = true
    | _, _ => True := by
  cases schema with
  | none => exact fun _ => trivial
  | some cols => exact id

theorem step_answer_conforms (s : SState) (op : SOp) (hi : s.inv = true) :
    match (s.step op).2, (s.step op).1.schema with
    | .rows r, some cols => r.all (conformsTuple cols) = true
    | _, _ => True := by
  cases op with
  | decl cols => simp only [SState.step]; cases validateBatch (some cols) s.stored <;> exact trivial
  | insert ts =>
    simp only [SState.step]; cases validateBatch s.schema (ts.filter (fun t => !t.isEmpty)) <;> exact trivial
  | upd new =>
    simp only [SState.step]; cases s.stored.isEmpty <;> cases validateBatch s.schema [new] <;> exact trivial
  | validate ts => simp only [SState.step]; cases validateBatch s.schema ts <;> exact trivial
  | query => exact rows_conform hi
  | fact t =>
    cases hv : validateBatch s.schema [t] with
    | false =>
      simp only [SState.step, hv, Bool.not_false, if_true]
      exact rows_conform hi
    | true =>
      simp only [SState.step, hv, Bool.not_true, Bool.false_eq_true, if_false]
      exact rows_conform (inv_insertSet hi hv)

theorem run_answers_conform (ops : List SOp) : ∀ s : SState, s.inv = true → answersConform s ops := by
  induction ops with
  | nil => intro s _; trivial
  | cons op ops ih =>
    intro s hi
    exact ⟨step_answer_conforms s op hi, ih _ (step_preserves_inv s op hi)⟩

/-- **C33, full statement**: along every history of declarations, inserts, updates, request-local facts,
    validations and queries: once a schema is declared every stored tuple of the relation conforms to it,
    and so does every tuple any query of the relation answers (request-local facts included). -/
def C33_statement : Prop :=
  ∀ ops : List SOp, (SState.run SState.init ops).1.inv = true ∧ answersConform SState.init ops

theorem C33 : C33_statement :=
  fun ops => ⟨run_preserves_inv ops SState.init rfl, run_answers_conform ops SState.init rfl⟩

/-- a declaration over non-conforming data and an update with a non-conforming tuple are refused and
    change nothing (the two former defect families). -/
theorem decl_over_bad_data_refused (s : SState) (cols : List SType) (bad : Tuple) (hb : bad ∈ s.stored)
    (hc : conformsTuple cols bad = false) : (s.step (.decl cols)).1 = s := by
  simp [SState.step, validateBatch_false hb hc]

theorem update_with_bad_tuple_refused (s : SState) (cols : List SType) (new : Tuple) (hs : s.schema = some cols)
    (hc : conformsTuple cols new = false) : (s.step (.upd new)).1 = s := by
  have hv : validateBatch s.schema [new] = false := hs ▸ validateBatch_false (List.mem_singleton.2 rfl) hc
  simp only [SState.step]
  split
  · rfl
  · simp [hv]

/-- a non-conforming request-local fact is dropped; the request's query answers the stored tuples only. -/
theorem fact_with_bad_tuple_dropped (s : SState) (cols : List SType) (t : Tuple) (hs : s.schema = some cols)
    (hc : conformsTuple cols t = false) : s.step (.fact t) = (s, .rows s.stored) := by
  have hv : validateBatch s.schema [t] = false := hs ▸ validateBatch_false (List.mem_singleton.2 rfl) hc
  simp [SState.step, hv]

/-- non-trivial instance: data first, a refused declaration, the offending tuple replaced, the declaration
    accepted, a rejected mixed batch, a refused update, accepted inserts. -/
example :
    let ops := [SOp.insert [[.str [120], .i64 1]], .decl [.int, .vector (some 2)], .upd [.i64 1, .vec [0, 0]],
                .decl [.int, .vector (some 2)], .insert [[.i64 2, .vec [0, 0]], [.i64 2, .vec [0]]],
                .upd [.i64 9, .str [97]], .insert [[.i64 3, .vec8 [1, 2]]], .query]
    (SState.run SState.init ops).1.stored = [[.i64 1, .vec [0, 0]], [.i64 3, .vec8 [1, 2]]] ∧
    (SState.run SState.init ops).2.map (fun o => match o with | .rejected => 1 | .inserted n => 10 + n | .ok => 2 | .updated d i => 100 + 10 * d + i | _ => 0)
      = [11, 1, 111, 2, 1, 1, 11, 0] := by
  decide +kernel

end ILV.Props.C33
