/-
  C10 — Session state is isolated.
  Model: ILV.Model.SStep (every SessionManager call one atomic step; the session query split at its
  three internal reads; persistent writes atomic).
-/
import ILV.Lemmas.SStep
namespace ILV.Props.C10
open ILV ILV.SStep

/-- (a)+(c), first half: a step of any operation of session `k` — insert, retract, rule, every phase of a
    query — leaves the persistent relations and every other session untouched; a persistent
    operation leaves all sessions untouched. Holds for every state, any number of sessions/threads. -/
theorem C10_noninterference_writes (st st' : State) (t : Tid) (op : Op) (rest : List Op)
    (hs : step st t = .ok st') (htodo : (st.threads t).todo = op :: rest) :
    (∀ k, sessionOf op = some k → st'.pers = st.pers ∧ ∀ j, j ≠ k → st'.sess j = st.sess j) ∧
    (sessionOf op = none → st'.sess = st.sess) :=
  ⟨((step_confined htodo).of_eq hs).2, ((step_confined htodo).of_eq hs).1⟩

/-- (b)+(c), second half: what a query step of session `k` computes is a function of the persistent
    snapshot, session `k` and the querying thread only: two states that agree on those — and differ
    arbitrarily in all other sessions and threads — produce the same next thread state (copied facts,
    copied rules, answer). Applied to the four steps of a query this is non-interference of its answer. -/
theorem C10_noninterference_reads (st1 st2 st1' st2' : State) (t : Tid) (k : Sid) (op : Op) (rest : List Op)
    (hv : SameView st1 st2 k t) (htodo : (st1.threads t).todo = op :: rest)
    (hq : op = .qCount k ∨ ∃ r, op = .qScan k r)
    (h1 : step st1 t = .ok st1') (h2 : step st2 t = .ok st2') :
    st1'.threads t = st2'.threads t ∧ st1'.pers = st1.pers ∧ st1'.sess = st1.sess :=
  query_step_own_view hv htodo hq h1 h2

/-- (b): every answer equals the set-semantics answer over persistent ∪ own facts. For the count query:
    the number of *distinct* facts (`specCount` counts `dedup (p ++ f)`), whatever the overlap between
    the session's facts `f` and the persistent relation `p`. Full theorem since the repair of
    `execute_with_session_facts*` (`extend_as_set`); scan queries are set-semantic by definition
    (`evalScan = dedup`). `p.Nodup` holds in every reachable state (`C10_lists_duplicate_free`). -/
theorem C10_b (rules : Nat) (p f : List Tup) (hp : p.Nodup) : evalCount rules p f = specCount rules p f :=
  evalCount_eq_spec rules p f hp

/-- the former counter-example (persistent `r0(1)`, session `r0(1)`, count rule): one distinct fact -/
example : evalCount 1 [1] [1] = [1] := by decide +kernel
def wProg : List Op := [.pIns 0 1, .sIns 0 0 1, .sRule 0, .qCount 0]
example : ((lastState (init [wProg]) [0, 0, 0, 0, 0, 0, 0]).threads 0).done.map (·.2) = [.ok, .n 1, .ok, .rows [1]] := by decide +kernel

theorem C10_lists_duplicate_free (progs : List (List Op)) (sched : List Tid) :
    NodupInv (lastState (init progs) sched) :=
  lastState_nodup sched _ (nodup_init progs)

example : evalCount 1 [1, 2] [3, 2, 3] = [3] := by decide +kernel
example : evalScan [1, 2] [2, 3] = [1, 2, 3] := by decide +kernel

end ILV.Props.C10
