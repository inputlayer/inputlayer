/-
  C24 — Vector index search returns valid nearest neighbours.
  Model: ILV.Model.Hnsw (`src/hnsw_index.rs`) over the parameters `FloatOps` and `ann` (= hnsw_rs
  search, contract `annOk`).  Lemmas: ILV.Lemmas.Hnsw, ILV.Lemmas.Metric.
  After the repair of the wrapper (tombstones filtered in `search`, cleared by `insert`, batches and
  rebuilds validated first) the statement holds for all histories: `C24_full`.  What remains a
  finding (k-nearest optimality for the Manhattan re-rank window, the `ann` contract itself) is not
  part of this statement; see `C24_manhattan_window_witness`.
-/
import ILV.Lemmas.Hnsw
import ILV.Lemmas.Metric
import ILV.Lemmas.Dist
namespace ILV.Props.C24
open ILV ILV.Hnsw ILV.VecOps List

abbrev Ann (F : FloatOps) := List (List F.F32) → List F.F32 → Nat → Nat → List (Nat × F.F32)

/-- Every operation keeps the graph invariant: the graph minus the currently tombstoned identifiers
    holds exactly the stored, non-tombstoned entries (so it holds after every history). -/
theorem C24_graph_invariant {F : FloatOps} (cfg : Cfg) (ops : List (Op F)) :
    GraphOk (runOps ({ cfg := cfg } : Index F) ops) :=
  graphOk_run ops _ rfl

/-- Whatever `ann` returns, `search` returns at most `k` identifiers, each of a graph entry that is
    not tombstoned. -/
theorem C24_search_ids_not_tombstoned {F : FloatOps} (ann : Ann F) (s : Index F) (q : List F.F32) (k : Nat) (ef : Option Nat) :
    (∀ p ∈ search ann s q k ef, ∃ g e, s.inner = some g ∧ e ∈ g ∧ e.1 = p.1 ∧ isTomb s e.1 = false) ∧
    (search ann s q k ef).length ≤ k :=
  ⟨search_ids ann s q k ef, search_length_le ann s q k ef⟩

/-- `ann` honours its contract on the call this search makes (knbn and ef widened by the number
    of tombstones, as the code does). -/
def AnnOkHere {F : FloatOps} (ann : Ann F) (s : Index F) (q : List F.F32) (k : Nat) (ef : Option Nat) : Prop :=
  ∀ g, s.inner = some g →
    annOk (g.map (·.2)) (prepare F s.cfg.metric q) (searchK s k) (searchEf s ef)
      (ann (g.map (·.2)) (prepare F s.cfg.metric q) (searchK s k) (searchEf s ef)) = true

/-- The property for one search: returned identifiers are live, there are at most `k`, and when the
    graph fits in the (widened) search breadth there are exactly `min k |live|`. -/
def SearchValid {F : FloatOps} (ann : Ann F) (s : Index F) (q : List F.F32) (k : Nat) (ef : Option Nat) : Prop :=
  (∀ p ∈ search ann s q k ef, (liveOf s p.1).isSome = true) ∧
  (search ann s q k ef).length ≤ k ∧
  ((∀ g, s.inner = some g → g.length ≤ searchEf s ef) →
    (search ann s q k ef).length = min k (active s).length)

/-- C24 for every float model, every `ann`, every configuration, every history of inserts / batches /
    deletes / rebuilds / save-load cycles from the empty index (each `rebuild` being given distinct
    identifiers — its contract), every query. -/
def C24_statement : Prop :=
  ∀ (F : FloatOps) (ann : Ann F) (cfg : Cfg) (ops : List (Op F)) (q : List F.F32) (k : Nat) (ef : Option Nat),
    DistinctRebuilds ops →
    AnnOkHere ann (runOps { cfg := cfg } ops) q k ef → SearchValid ann (runOps { cfg := cfg } ops) q k ef

/-- after every such history the graph's identifiers are distinct, hence it holds no more
    tombstoned entries than there are tombstones (what the over-fetch of `search` relies on). -/
theorem C24_dead_bounded {F : FloatOps} (cfg : Cfg) (ops : List (Op F)) (hd : DistinctRebuilds ops) :
    ∀ g, (runOps ({ cfg := cfg } : Index F) ops).inner = some g →
      (g.filter (fun e => isTomb (runOps ({ cfg := cfg } : Index F) ops) e.1)).length ≤ (runOps ({ cfg := cfg } : Index F) ops).tombs.length :=
  deadBounded_of_idsNodup _ (idsNodup_run ops _ ⟨nodup_nil, fun _ hg => nomatch hg⟩ hd)

/-- C24 holds of the repaired wrapper, for all histories. -/
theorem C24_full : C24_statement := by
  intro F ann cfg ops q k ef hdist hann
  have hG := C24_graph_invariant (F := F) cfg ops
  exact ⟨search_ids_live ann _ q k ef hG, search_length_le ann _ q k ef,
         fun hn => search_length_complete ann _ q k ef hG hann (C24_dead_bounded cfg ops hdist) hn⟩

/- the former counterexample (four points, `delete 0` below the compaction threshold, search at
    point 0): the deleted identifier is no longer returned, the nearest live point is. -/
def witnessCfg : Cfg := { m := 8, efc := 100, efs := 32, metric := .euclidean }
def witnessOps : List (Op toyFloat) :=
  [.insertBatch [(0, toyVec [0]), (1, toyVec [10]), (2, toyVec [20]), (3, toyVec [30])], .delete 0]
def witnessState : Index toyFloat := runOps { cfg := witnessCfg } witnessOps

example : toyRes (search annExact witnessState (toyVec [0]) 1 none) = [(1, 10)] := by decide +kernel
example : witnessState.tombs = [0] ∧ (witnessState.inner.map (·.map (·.1))) = some [0, 1, 2, 3] := by decide +kernel
example : AnnOkHere annExact witnessState (toyVec [0]) 1 none := by
  intro g hg
  have h2 : witnessState.inner = some [(0, toyVec [0]), (1, toyVec [10]), (2, toyVec [20]), (3, toyVec [30])] := by decide +kernel
  rw [h2] at hg
  have : g = [(0, toyVec [0]), (1, toyVec [10]), (2, toyVec [20]), (3, toyVec [30])] := (Option.some.inj hg).symm
  subst this
  decide +kernel

/-- Manhattan metric: candidates are the `4k` L2-nearest points, re-ranked by L1.  With more than
    `4k` live points the L1-nearest point can be missed: five points, `k = 1`. -/
def manhCfg : Cfg := { m := 8, efc := 100, efs := 32, metric := .manhattan }
def manhOps : List (Op toyFloat) :=
  [.insertBatch [(0, toyVec [7, 7]), (1, toyVec [-7, 7]), (2, toyVec [7, -7]), (3, toyVec [-7, -7]), (4, toyVec [12, 0])]]

theorem C24_manhattan_window_witness :
    (search annExact (runOps ({ cfg := manhCfg } : Index toyFloat) manhOps) (toyVec [0, 0]) 1 none).map (·.1) = [0] ∧
    toyVal (manh64 (toyVec [0, 0]) (toyVec [12, 0])) < toyVal (manh64 (toyVec [0, 0]) (toyVec [7, 7])) := by decide +kernel

/-- metric transforms (exact, over ℚ): on unit vectors `L2²/2` is the cosine distance and
    `-(1 - L2²/2)` the negated dot product. -/
theorem C24_cosine_transform (a b : List ℚ) (h : a.length = b.length) (ha : dotQ a a = 1) (hb : dotQ b b = 1) :
    sqDistQ a b / 2 = 1 - dotQ a b := cosine_of_l2 a b h ha hb

theorem C24_dot_transform (a b : List ℚ) (h : a.length = b.length) (ha : dotQ a a = 1) (hb : dotQ b b = 1) :
    -(1 - sqDistQ a b / 2) = -(dotQ a b) := dot_of_l2 a b h ha hb

example : sqDistQ [1, 0] [0, 1] / 2 = 1 - dotQ [1, 0] [0, 1] := C24_cosine_transform _ _ rfl (by norm_num [dotQ]) (by norm_num [dotQ])

end ILV.Props.C24
