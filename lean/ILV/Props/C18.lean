/-
  C18 — Materialization and incremental maintenance are invisible.
  Model: ILV.Model.Incr (`ILV.C18.step`): derived_relations.rs + the rule/materialisation paths of
  storage_engine/mod.rs AFTER the repairs fixes/C18-1..4. Lemmas: ILV.Lemmas.Incr* (no Mathlib).
-/
import ILV.Lemmas.IncrFullRun
import ILV.Lemmas.IncrRec
namespace ILV.Props.C18
open ILV.C18

/-- **C18, full statement.** After EVERY history of inserts, deletes, prefix clears, rule registrations,
    clause removals / replacements / clears, rule / prefix / relation drops, index creation (which
    switches incremental maintenance on) and drops, and materialisations — for every rule set the
    catalogue accepts (chains of derived relations, recursion, anything) — that respects the API's own
    contract (`wellUsed`: only a relation that has clauses is materialised, and with its complete current
    extension; a rule head carries no stored tuples; a replacement clause keeps its head), every query is
    answered from the published snapshot exactly as a fresh evaluation of the current
    rules over the current facts answers it. -/
theorem C18 (h : List Step) (q : Atom) (hw : wellUsed init h = true) :
    SetEq (answer (snapDb (run h)) q) (answer (fresh (run h)) q) := by
  intro t
  rw [mem_answer, mem_answer, fsnap_iff (finv_run h hw) q.rel t]

/-- The model's evaluator (naive iteration with a fuel bound and early stop) always reaches its
    fix-point within the bound, so nothing in `C18` is conditional on it. -/
theorem C18_evaluator_total (prog : List Clause) (inputs : List (Name × List Tup)) : conv prog inputs = true :=
  conv_always prog inputs

/-- The invariant behind it (DESIGN: `valid m → m.tuples = PM(name)`), now without any restriction on
    the rules: every valid materialisation equals the fresh evaluation of its relation. -/
theorem C18_valid_is_fresh (h : List Step) (hw : wellUsed init h = true)
    (i : Inc) (n : Name) (m : Mat) (hi : (run h).inc = some i) (hm : aget i.mats n = some m)
    (hv : m.valid = true) : SetEq m.tuples (fresh (run h) n) :=
  (((finv_run h hw).mgr i hi).mats n m hm hv).2

/-- the published snapshot is always the current one … -/
theorem C18_snapshot_current (h : List Step) (hw : wellUsed init h = true) :
    (run h).snap = mkSnap (run h) :=
  (finv_run h hw).snap

/-- … and the engine's rule registry always knows every dependency of every catalogued rule. -/
theorem C18_edges_registered (h : List Step) (hw : wellUsed init h = true)
    (i : Inc) (hi : (run h).inc = some i) (n : Name) (c : Clause) (hcl : c ∈ clausesNow (run h) n)
    (r : Name) (hr : r ∈ bodyRels c) (hne : r ≠ n) : n ∈ (aget i.b2d r).getD [] :=
  ((finv_run h hw).mgr i hi).edges n c hcl r hr hne

/-! ### the hypotheses are met by non-trivial histories: the four former refutation witnesses -/

def nA : Name := [97]
def nB : Name := [98]
def nE : Name := [101]
def nF : Name := [102]
def nG : Name := [103]
def nP : Name := [112]
def vX : Term := .var 88
def vY : Term := .var 89
def vZ : Term := .var 90
def cAF : Clause := ⟨⟨nA, [vX]⟩, [⟨nF, [vX]⟩]⟩
def cBA : Clause := ⟨⟨nB, [vX]⟩, [⟨nA, [vX]⟩]⟩
def cBF : Clause := ⟨⟨nB, [vX]⟩, [⟨nF, [vX]⟩]⟩
def cBG : Clause := ⟨⟨nB, [vX]⟩, [⟨nG, [vX]⟩]⟩
def qB : Atom := ⟨nB, [vX]⟩
def cPE : Clause := ⟨⟨nP, [vX, vY]⟩, [⟨nE, [vX, vY]⟩]⟩
def cPR : Clause := ⟨⟨nP, [vX, vZ]⟩, [⟨nP, [vX, vY]⟩, ⟨nE, [vY, vZ]⟩]⟩
def qP : Atom := ⟨nP, [vX, vY]⟩

/-- derived-on-derived (was `C18_refuted`): `b` reads `a` reads `f`; `b` is materialised; `f` changes. -/
def wDerived : List Step := [.idx, .ins nF [[1]], .reg cAF, .reg cBA, .mat nB 1, .ins nF [[2]]]
/-- a clause is added under a valid materialisation (was `C18_rule_edit_stale`). -/
def wEdit : List Step := [.idx, .ins nF [[1]], .ins nG [[2]], .reg cBF, .mat nB 1, .reg cBG]
/-- the relation a materialisation reads is dropped (was `C18_drop_relation_stale`). -/
def wDrop : List Step := [.idx, .ins nF [[1]], .reg cBF, .mat nB 1, .drel nF]
/-- the rule is older than the engine (was `C18_edge_missing_stale`). -/
def wLate : List Step := [.ins nF [[1]], .reg cBF, .idx, .mat nB 1, .ins nF [[2]]]

example : wellUsed init wDerived = true := by decide +kernel
example : wellUsed init wEdit = true := by decide +kernel
example : wellUsed init wDrop = true := by decide +kernel
example : wellUsed init wLate = true := by decide +kernel

/-- what the repaired machine answers on them (each was `[[1]]` before the repair), and that the stale
    materialisation is gone in each case. -/
example : answer (snapDb (run wDerived)) qB = [[1], [2]] ∧ (run wDerived).inc.map validMats = some [] := by decide +kernel
example : answer (snapDb (run wEdit)) qB = [[1], [2]] ∧ (run wEdit).inc.map validMats = some [] := by decide +kernel
example : answer (snapDb (run wDrop)) qB = [] ∧ (run wDrop).inc.map validMats = some [] := by decide +kernel
example : answer (snapDb (run wLate)) qB = [[1], [2]] ∧ (run wLate).inc.map validMats = some [] := by decide +kernel

/-- a history in which materialisations are USED: transitive closure `p` and `b(X) <- a(X)` over
    `a(X) <- f(X)`, both materialised, a query answered from the merged snapshot (no rule of `p` or `b`
    in the prefix), an unrelated insert that leaves `p` valid and invalidates `b`. -/
def wUse : List Step :=
  [.idx, .ins nE [[1, 2], [2, 3]], .ins nF [[7]], .reg cPE, .reg cPR, .reg cAF, .reg cBA,
   .mat nP 2, .mat nB 1, .q qP, .ins nF [[8]], .q qP, .q qB]

example : wellUsed init wUse = true := by decide +kernel
example : (run (wUse.take 9)).snap.rules = [cAF] ∧
    answer (snapDb (run (wUse.take 9))) qP = [[1, 2], [2, 3], [1, 3]] := by decide +kernel
example : (run wUse).inc.map validMats = some [(nP, [[1, 2], [2, 3], [1, 3]])] ∧
    answer (snapDb (run wUse)) qB = [[7], [8]] := by decide +kernel

end ILV.Props.C18
